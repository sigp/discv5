/-
C12 (continued) — the `discovered` loop at every intermediate point, and what a session report
stores.

`Props/C12.lean` states the update rule for a whole service step (`network_update_rule`) and for one
iteration of the `discovered` loop (`discovered_one_rule`).  Here: between any two points of the loop
inside one `discovered` call (hence over the whole call) the sequence number stored under a key never
goes backwards, and a changed value is a record of the part of the list processed in between; what
one answer carrying two records of one node, the higher first, leaves behind; and that a session
report (`Established`, either direction) that changes the entry of the reported node stores exactly
the reported record.  Proofs: `Proofs/ServiceDiscovered.lean`.
-/
import Discv5Model.Model.Service
import Discv5Model.Model.KBucketSpec
import Discv5Model.Proofs.ServicePolicy
import Discv5Model.Proofs.ServiceDiscovered
import Discv5Model.Props.C12

namespace Discv5.Props.C12Discovered
open Discv5.KB Discv5.Svc Discv5.Svc.Svc Discv5.Props.C12

/-! ### The loop composes; it keeps well-formedness and the configuration -/

/-- Running the loop over `pre ++ post` ends in the same state as
running it over `pre` and then, from the state reached, over `post` (whatever accumulators the
second run starts with: they do not influence the state). -/
theorem discovered_loop_append (s : Svc) (source : Nat) (pre post kept0 kept1 : List Rec)
    (outs0 outs1 : List Out) :
    (discoveredLoop s source (pre ++ post) kept0 outs0).1 =
      (discoveredLoop (discoveredLoop s source pre kept0 outs0).1 source post kept1 outs1).1 :=
  discoveredLoop_append_fst source pre post s kept0 kept1 outs0 outs1

/-- With the accumulators: the loop over `pre ++ post` is literally the loop over `post`
started from the state, kept records and outputs the loop over `pre` produced. -/
theorem discovered_loop_append_full (s : Svc) (source : Nat) (pre post kept0 : List Rec)
    (outs0 : List Out) :
    discoveredLoop s source (pre ++ post) kept0 outs0 =
      discoveredLoop (discoveredLoop s source pre kept0 outs0).1 source post
        (discoveredLoop s source pre kept0 outs0).2.1 (discoveredLoop s source pre kept0 outs0).2.2 :=
  discoveredLoop_append source post pre s kept0 outs0

/-- One iteration of the loop keeps the configuration and well-formedness (`Wf`). -/
theorem discoveredOne_wf (s : Svc) (source : Nat) (r : Rec) (hw : Wf s) :
    (s.discoveredOne source r).1.cfg = s.cfg ∧ Wf (s.discoveredOne source r).1 :=
  ⟨discoveredOne_cfg s source r, (discoveredOne_stepTrue s source r).wf (osane_empty _) hw⟩

/-- The loop (over any list, from any accumulators) keeps the configuration and well-formedness. -/
theorem discoveredLoop_wf (s : Svc) (source : Nat) (recs kept : List Rec) (outs : List Out)
    (hw : Wf s) :
    (discoveredLoop s source recs kept outs).1.cfg = s.cfg ∧
      Wf (discoveredLoop s source recs kept outs).1 :=
  ⟨(discoveredLoop_stepTrue s source recs kept outs).cfg,
    (discoveredLoop_stepTrue s source recs kept outs).wf (osane_empty _) hw⟩

/-- The loop never creates an entry: a key with a value after the loop had one before. -/
theorem discoveredLoop_creates_no_entry (s : Svc) (source : Nat) (recs kept : List Rec)
    (outs : List Out) (hw : Wf s) (k : Nat) (v' : Rec)
    (h : valueOf (discoveredLoop s source recs kept outs).1.table k = some v') :
    ∃ v, valueOf s.table k = some v :=
  discoveredLoop_no_new s source recs kept outs hw.1 h

/-! ### Sequence numbers never go backwards inside one `discovered` call -/

/-- Split the record list of one `discovered` call at
any point: `pre` has been processed (state `s1`), `post` is processed next (state `s2`).  If key `k`
has the value `v1` at the split point and `v2` after `post`, then `v1.seq ≤ v2.seq`; and either the
value is unchanged or `v2` is one of the records of `post`, is a record for `k`, has a strictly
higher sequence number than `v1`, is contactable in the node's IP mode and passes the table filter.
Taking `pre = []` this is the rule for the loop from its start; taking `post = [r]` it is the rule
for a single iteration in the middle of the loop. -/
theorem seq_never_decreases_inside_discovered (s : Svc) (hw : Wf s) (source : Nat)
    (pre post kept0 kept1 : List Rec) (outs0 outs1 : List Out) (k : Nat) (v1 v2 : Rec)
    (h1 : valueOf (discoveredLoop s source pre kept0 outs0).1.table k = some v1)
    (h2 : valueOf (discoveredLoop (discoveredLoop s source pre kept0 outs0).1 source post
            kept1 outs1).1.table k = some v2) :
    v1.seq ≤ v2.seq ∧
      (v2 = v1 ∨ (v2 ∈ post ∧ v2.id = k ∧ v1.seq < v2.seq ∧ contactable s.cfg.ipMode v2 = true ∧
        v2.passesFilter = true)) := by
  obtain ⟨hc, hw1⟩ := discoveredLoop_wf s source pre kept0 outs0 hw
  have h := discoveredLoop_update source k post _ kept1 outs1 hw1.1 v1 v2 h1 h2
  rw [hc] at h
  refine ⟨?_, h⟩
  rcases h with rfl | ⟨_, _, hlt, _, _⟩
  · exact Nat.le_refl _
  · exact Nat.le_of_lt hlt

/-- `seq_never_decreases_inside_discovered` with the second state written as the loop over the whole list `pre ++ post`. -/
theorem seq_never_decreases_inside_discovered' (s : Svc) (hw : Wf s) (source : Nat)
    (pre post kept0 : List Rec) (outs0 : List Out) (k : Nat) (v1 v2 : Rec)
    (h1 : valueOf (discoveredLoop s source pre kept0 outs0).1.table k = some v1)
    (h2 : valueOf (discoveredLoop s source (pre ++ post) kept0 outs0).1.table k = some v2) :
    v1.seq ≤ v2.seq ∧
      (v2 = v1 ∨ (v2 ∈ post ∧ v2.id = k ∧ v1.seq < v2.seq ∧ contactable s.cfg.ipMode v2 = true ∧
        v2.passesFilter = true)) := by
  rw [discovered_loop_append s source pre post kept0 [] outs0 []] at h2
  exact seq_never_decreases_inside_discovered s hw source pre post kept0 [] outs0 [] k v1 v2 h1 h2

/-- Over a whole `discovered` call: if key `k` had the value `v`
before and has the value `v'` after, then `v.seq ≤ v'.seq`, and `v'` is `v` or one of the records of
the call (then a record for `k` with a strictly higher sequence number, contactable, passing the
filter). -/
theorem discovered_seq_monotone (s : Svc) (hw : Wf s) (source : Nat) (recs : List Rec)
    (query : Option Nat) (k : Nat) (v v' : Rec) (h1 : valueOf s.table k = some v)
    (h2 : valueOf (s.discovered source recs query).1.table k = some v') :
    v.seq ≤ v'.seq ∧ (v' = v ∨ v' ∈ recs) ∧
      (v' = v ∨ (v' ∈ recs ∧ v'.id = k ∧ v.seq < v'.seq ∧ contactable s.cfg.ipMode v' = true ∧
        v'.passesFilter = true)) := by
  rw [discovered_table] at h2
  have h := seq_never_decreases_inside_discovered s hw source [] recs [] [] [] [] k v v' h1 h2
  refine ⟨h.1, ?_, h.2⟩
  rcases h.2 with e | ⟨hm, _⟩
  · exact Or.inl e
  · exact Or.inr hm

/-! ### Two records of one node in one answer, the higher sequence number first -/

/-- The `update_node` call the loop body issues for an acceptable, newer record `r` does not fail
(it fails if the table filter or the bucket filter refuses the new value). -/
def UpdateAccepted (s : Svc) (r : Rec) : Prop :=
  ((s.entry r.id).1.table.updateNode s.cfg.kb s.now r.id r none).2.isFailed = false

/-- One answer carries `[r7, r6]`, two records of node
`k` with `r6.seq < r7.seq`, both newer than the stored value `v`; afterwards the entry still exists
with value `v'`.  Then `v.seq ≤ v'.seq`, and the final value is `r7` **unless the first iteration did
not store `r7`** (the value after the first iteration is still `v`); only in that case can the final
value be `v` or — if `r6` is contactable and passes the filter — the lower record `r6`.
(`v' = r6` does happen in the model, see the example `lower_record_wins` below: `r7` is refused
(not contactable / refused by a filter) while the entry is *pending*, which `remove` does not
touch.) -/
theorem two_records_higher_first (s : Svc) (hw : Wf s) (source : Nat) (query : Option Nat) (k : Nat)
    (r7 r6 v v' : Rec) (h7 : r7.id = k) (h6 : r6.id = k) (hlt : r6.seq < r7.seq)
    (h1 : valueOf s.table k = some v) (hv : v.seq < r6.seq)
    (h2 : valueOf (s.discovered source [r7, r6] query).1.table k = some v') :
    v.seq ≤ v'.seq ∧
      (v' = r7 ∨
        (valueOf (s.discoveredOne source r7).1.table k = some v ∧
          (v' = v ∨ (v' = r6 ∧ contactable s.cfg.ipMode r6 = true ∧ r6.passesFilter = true)))) := by
  refine ⟨(discovered_seq_monotone s hw source _ query k v v' h1 h2).1, ?_⟩
  rw [discovered_table] at h2
  -- the state after the first iteration
  have e1 : (discoveredLoop s source [r7] [] []).1 = (s.discoveredOne source r7).1 := rfl
  have h2' : valueOf (discoveredLoop (discoveredLoop s source [r7] [] []).1 source [r6] [] []).1.table k
      = some v' := by
    rw [← discovered_loop_append s source [r7] [r6] [] [] [] []]; exact h2
  obtain ⟨hc1, hw1⟩ := discoveredLoop_wf s source [r7] [] [] hw
  obtain ⟨w, hw'⟩ := discoveredLoop_creates_no_entry _ source [r6] [] [] hw1 k v' h2'
  have hA := (seq_never_decreases_inside_discovered s hw source [r7] [r6] [] [] [] [] k w v' hw' h2').2
  rw [e1] at hw'
  rcases discovered_one_rule s source r7 hw k v w h1 hw' with rfl | ⟨rfl, _, _, _, _⟩
  · -- the first iteration left `v`
    refine Or.inr ⟨hw', ?_⟩
    rcases hA with e | ⟨hm, _, _, hc, hf⟩
    · exact Or.inl e
    · rw [List.mem_singleton] at hm
      subst hm
      exact Or.inr ⟨rfl, hc, hf⟩
  · -- the first iteration stored `r7`: the lower record cannot replace it
    rcases hA with e | ⟨hm, _, hlt', _, _⟩
    · exact Or.inl e
    · rw [List.mem_singleton] at hm
      subst hm
      exact absurd hlt' (Nat.lt_asymm hlt)

/-- In the situation of `two_records_higher_first`, if `r7` is acceptable — contactable in the IP
mode, passes the table filter, and the table update issued for it does not fail — then the final
value is exactly `r7`: the lower record arriving second never replaces the higher one. -/
theorem two_records_higher_first_stored (s : Svc) (hw : Wf s) (source : Nat) (query : Option Nat)
    (k : Nat) (r7 r6 v v' : Rec) (h7 : r7.id = k) (h6 : r6.id = k) (hlt : r6.seq < r7.seq)
    (h1 : valueOf s.table k = some v) (hv : v.seq < r6.seq)
    (hc7 : contactable s.cfg.ipMode r7 = true) (hf7 : r7.passesFilter = true)
    (hu7 : UpdateAccepted s r7)
    (h2 : valueOf (s.discovered source [r7, r6] query).1.table k = some v') :
    v' = r7 := by
  rcases (two_records_higher_first s hw source query k r7 r6 v v' h7 h6 hlt h1 hv h2).2 with
    e | ⟨hs, _⟩
  · exact e
  · subst h7
    have : v = r7 :=
      discoveredOne_stores s source r7 hw.1 hw.2 hf7 hc7 hu7 v h1 (Nat.lt_trans hv hlt) v hs
    subst this
    exact absurd (Nat.lt_trans hv hlt) (Nat.lt_irrefl _)

/-- Contrapositive of `two_records_higher_first_stored`: if the lower record `r6` ends up stored, the higher record `r7` was
refused — not contactable, refused by the table filter, or its table update failed. -/
theorem lower_record_stored_only_if_higher_refused (s : Svc) (hw : Wf s) (source : Nat)
    (query : Option Nat) (k : Nat) (r7 r6 v : Rec) (h7 : r7.id = k) (h6 : r6.id = k)
    (hlt : r6.seq < r7.seq) (h1 : valueOf s.table k = some v) (hv : v.seq < r6.seq)
    (h2 : valueOf (s.discovered source [r7, r6] query).1.table k = some r6) :
    contactable s.cfg.ipMode r7 = false ∨ r7.passesFilter = false ∨ ¬ UpdateAccepted s r7 := by
  cases hc7 : contactable s.cfg.ipMode r7 with
  | false => exact Or.inl rfl
  | true =>
    cases hf7 : r7.passesFilter with
    | false => exact Or.inr (Or.inl rfl)
    | true =>
      refine Or.inr (Or.inr fun hu7 => ?_)
      have := two_records_higher_first_stored s hw source query k r7 r6 v r6 h7 h6 hlt h1 hv
        hc7 hf7 hu7 h2
      rw [this] at hlt
      exact Nat.lt_irrefl _ hlt

/-! ### A session report stores the reported record -/

/-- In a step that carries an admitted record `r` (an
established session or an explicit add), every value the table holds afterwards is the value it
held before under that key, or is `r` filed under `r.id`. -/
theorem admitting_step_stores_admitted_record (s : Svc) (o : Oracle) (i : Svc.Input) (hw : Wf s)
    (r : Rec) (hr : admRec i = some r) (k : Nat) (v' : Rec)
    (h2 : valueOf (s.step o i).1.table k = some v') :
    valueOf s.table k = some v' ∨ (k = r.id ∧ v' = r) :=
  step_admit_update s o i hw.1 r hr k v' h2

/-- A session report for record `r` (either
direction) that admits or changes the entry of `r.id` — the value under `r.id` after the step is
`v'` and differs from what was there before (another value, or no entry) — stores exactly the
reported record: `v' = r`. -/
theorem session_report_stores_reported_record (s : Svc) (o : Oracle) (r : Rec) (addr : Addr)
    (incoming : Bool) (hw : Wf s) (v' : Rec)
    (h2 : valueOf (s.step o (.established r addr incoming)).1.table r.id = some v')
    (hch : valueOf s.table r.id ≠ valueOf (s.step o (.established r addr incoming)).1.table r.id) :
    v' = r := by
  rcases admitting_step_stores_admitted_record s o _ hw r rfl r.id v' h2 with h | ⟨_, h⟩
  · rw [h2] at hch; exact absurd h hch
  · exact h

/-- `session_report_stores_reported_record` for an incoming session. -/
theorem incoming_session_stores_reported_record (s : Svc) (o : Oracle) (r : Rec) (addr : Addr)
    (hw : Wf s) (v' : Rec)
    (h2 : valueOf (s.step o (.established r addr true)).1.table r.id = some v')
    (hch : valueOf s.table r.id ≠ valueOf (s.step o (.established r addr true)).1.table r.id) :
    v' = r :=
  session_report_stores_reported_record s o r addr true hw v' h2 hch

/-- `session_report_stores_reported_record` for an outgoing session. -/
theorem outgoing_session_stores_reported_record (s : Svc) (o : Oracle) (r : Rec) (addr : Addr)
    (hw : Wf s) (v' : Rec)
    (h2 : valueOf (s.step o (.established r addr false)).1.table r.id = some v')
    (hch : valueOf s.table r.id ≠ valueOf (s.step o (.established r addr false)).1.table r.id) :
    v' = r :=
  session_report_stores_reported_record s o r addr false hw v' h2 hch

/-- A session report changes no other entry's value: a value that differs from the one before the
step sits under `r.id` (and is `r`). -/
theorem session_report_changes_only_reported_id (s : Svc) (o : Oracle) (r : Rec) (addr : Addr)
    (incoming : Bool) (hw : Wf s) (k : Nat) (v' : Rec)
    (h2 : valueOf (s.step o (.established r addr incoming)).1.table k = some v')
    (hch : valueOf s.table k ≠ some v') : k = r.id ∧ v' = r := by
  rcases admitting_step_stores_admitted_record s o _ hw r rfl k v' h2 with h | h
  · exact absurd h hch
  · exact h

/-- An explicit add (`Discv5::add_enr`) that admits or changes the entry of `r.id` stores exactly `r`. -/
theorem add_stores_added_record (s : Svc) (o : Oracle) (r : Rec) (hw : Wf s) (v' : Rec)
    (h2 : valueOf (s.step o (.addEnr r)).1.table r.id = some v')
    (hch : valueOf s.table r.id ≠ valueOf (s.step o (.addEnr r)).1.table r.id) : v' = r := by
  rcases admitting_step_stores_admitted_record s o _ hw r rfl r.id v' h2 with h | ⟨_, h⟩
  · rw [h2] at hch; exact absurd h hch
  · exact h

/-! ### Non-vacuity on concrete runs

`ex1` (from `Props/C12.lean`): local node 0 in IPv4 mode with one stored node, 1 ↦ `recV4` (seq 1). -/

/-- two newer records of node 1 -/
def rec7 : Rec := { recV4 with seq := 7, sig := 70 }
def rec6 : Rec := { recV4 with seq := 6, sig := 60 }

/-- `two_records_higher_first_stored` instantiated: an answer `[rec7, rec6]` (from any source, here node 1 itself) leaves `rec7`;
all hypotheses of `two_records_higher_first_stored` hold of `ex1`. -/
example (v' : Rec) (h : valueOf (ex1.discovered 1 [rec7, rec6] none).1.table 1 = some v') :
    v' = rec7 :=
  two_records_higher_first_stored ex1 ex1_wf 1 none 1 rec7 rec6 recV4 v' rfl rfl (by decide)
    (by decide +kernel) (by decide) (by decide) rfl (by unfold UpdateAccepted; decide +kernel) h

/-- The entry of node 1 does exist after the answer `[rec7, rec6]` (the hypothesis of the example
above is satisfiable); in the opposite order the result is the same record. -/
example : valueOf ex1.table 1 = some recV4 ∧
    valueOf (ex1.discovered 1 [rec7, rec6] none).1.table 1 = some rec7 ∧
    valueOf (ex1.discovered 1 [rec6, rec7] none).1.table 1 = some rec7 := by
  decide +kernel

/-- An intermediate point of the loop: after `[rec6]` the value is `rec6`, after `[rec6] ++ [rec7]` it is
`rec7` (the premises of `seq_never_decreases_inside_discovered'` hold with `pre = [rec6]`,
`post = [rec7]`, and its conclusion is what happened). -/
example : valueOf (discoveredLoop ex1 1 [rec6] [] []).1.table 1 = some rec6 ∧
    valueOf (discoveredLoop ex1 1 ([rec6] ++ [rec7]) [] []).1.table 1 = some rec7 ∧
    rec6.seq < rec7.seq := by
  decide +kernel

/-- A second session report for node 1 carrying `recNew` replaces `recV4` by exactly
`recNew` (incoming and outgoing). -/
example : valueOf ex1.table 1 = some recV4 ∧
    valueOf (ex1.step {} (.established recNew exAddr true)).1.table 1 = some recNew ∧
    valueOf (ex1.step {} (.established recNew exAddr false)).1.table 1 = some recNew := by
  decide +kernel

example (v' : Rec) (h : valueOf (ex1.step {} (.established recNew exAddr true)).1.table 1 = some v') :
    v' = recNew :=
  incoming_session_stores_reported_record ex1 {} recNew exAddr ex1_wf v' h
    (by decide +kernel)

/-! #### The lower record can win when the higher one is refused (why `two_records_higher_first_stored` needs its hypotheses)

Bucket 5 of local node 0 is filled with 16 disconnected nodes (ids 32..47, explicit adds); a session
with node 48 then makes node 48 the *pending* node of that bucket (value `mk 48`, seq 1).  An answer
`[p7bad, p6]` for node 48 follows: `p7bad` (seq 7) is not contactable in IPv4 mode, so the loop asks
to remove the older entry — which does nothing for a pending entry (`bucket.remove` only finds
stored nodes) — and `p6` (seq 6) then replaces the pending value.  The entry ends with the lower of
the two sequence numbers. -/

def mk (id : Nat) : Rec := { recV4 with id := id }

def adds : List (Oracle × Svc.Input) :=
  (List.range 16).map fun j => ({}, Svc.Input.addEnr (mk (32 + j)))

def full0 : Svc := (ex0.run adds).1

def full1 : Svc := (full0.step {} (.established (mk 48) exAddr false)).1

def p7bad : Rec := { mk 48 with seq := 7, udp4 := none }

def p6 : Rec := { mk 48 with seq := 6, sig := 60 }

/-- the entry under `key` is the pending node of its bucket -/
def isPending (t : Table Rec) (key : Nat) : Bool :=
  match lookup t key with
  | .pending _ _ => true
  | _ => false

theorem full0_wf : Wf full0 :=
  (table_policy_run adds ex0 ⟨init_tinv _ _, rfl⟩
    (fun p hp r a h => by
      simp only [adds, List.mem_map] at hp
      obtain ⟨j, _, rfl⟩ := hp
      cases h)
    (table_policy_init _ _)).1

theorem full1_wf : Wf full1 := wf_step full0 {} _ full0_wf (fun _ _ h => by cases h)

/-- In the well-formed state `full1` node 48 is the pending node of a full
bucket with value `mk 48` (seq 1); the answer `[p7bad, p6]` (seq 7 first, then seq 6, both for node
48, both newer than the stored value; `p7bad` not contactable) leaves `p6`, the record with the
*lower* sequence number. -/
theorem lower_record_wins :
    isPending full1.table 48 = true ∧
    valueOf full1.table 48 = some (mk 48) ∧ p7bad.id = 48 ∧ p6.id = 48 ∧
    p6.seq < p7bad.seq ∧ (mk 48).seq < p6.seq ∧ contactable full1.cfg.ipMode p7bad = false ∧
    valueOf (full1.discovered 1 [p7bad, p6] none).1.table 48 = some p6 := by
  decide +kernel

/-- The general form `two_records_higher_first` applies to it (its second disjunct is the case). -/
example : valueOf (full1.discoveredOne 1 p7bad).1.table 48 = some (mk 48) := by
  have h := lower_record_wins
  rcases (two_records_higher_first full1 full1_wf 1 none 48 p7bad p6 (mk 48) p6 rfl rfl
    h.2.2.2.2.1 h.2.1 h.2.2.2.2.2.1 h.2.2.2.2.2.2.2).2 with e | ⟨hs, _⟩
  · exact absurd e (by decide)
  · exact hs

end Discv5.Props.C12Discovered
