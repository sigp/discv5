/-
C11 (ban attribution) — a ban names the party that sent the offending NODES answer, nothing else.

`Out.ban p a` is `PERMIT_BAN_LIST.write().ban(node_address, _)` of `handle_rpc_response`.  The
theorems say who can be banned by a step of `Model/Service.lean`, who by a whole run, and exactly
when a NODES response bans.  That no other handler emits a ban is the `quiet` half of the `_stepQ`
lemmas of `Proofs/ServicePolicy.lean`; the ban output of a response is computed in
`Proofs/ServiceBan.lean`.
-/
import Discv5Model.Model.Service
import Discv5Model.Proofs.ServiceBan
import Discv5Model.Props.C11

namespace Discv5.Props.C11Ban
open Discv5.KB Discv5.Svc Discv5.Props.C11

/-- The ban condition of `handle_rpc_response` for a NODES packet `recs` that claims to answer
request `id` and arrives from node `p` at address `a`:

* the request `id` is active (`req` is the entry `active_requests.remove(&id)` finds),
* it was sent to exactly that node at exactly that address (otherwise the response is dropped
  before it is looked at),
* it is a FINDNODE request (for distances `ds`) — a NODES packet answering a PING or a TALKREQ is
  dropped by `match_request`,
* it carries no user-level callback (the records of an API `find_node` request are handed to the
  caller unfiltered, nobody is banned),
* and the distance filter `acceptNodes` over the requested distances raises the ban flag. -/
def BanCond (s : Svc) (p : Nat) (a : Addr) (id : Nat) (recs : List Rec) : Prop :=
  ∃ (req : ActiveReq) (ds : List Nat),
    s.active.find? (fun r => r.id == id) = some req ∧ req ∈ s.active ∧ req.id = id ∧
    req.peer = p ∧ req.addr = a ∧ req.body = .findNode ds ∧ req.callback = false ∧
    (acceptNodes p ds recs).2 = true

theorem banDecision_iff (s : Svc) (p : Nat) (a : Addr) (id : Nat) (recs : List Rec) :
    banDecision s.active p a id recs = true ↔ BanCond s p a id recs := by
  unfold banDecision BanCond
  rw [← activeReq]
  cases h : activeReq s id with
  | none =>
    unfold activeReq at h
    simp
  | some req =>
    obtain ⟨hm, hid⟩ := activeReq_mem h
    unfold activeReq at h
    simp only [Option.some.injEq]
    constructor
    · intro hd
      cases hb : req.body with
      | findNode ds =>
        rw [hb] at hd
        simp only [Bool.and_eq_true, beq_iff_eq, Bool.not_eq_true'] at hd
        exact ⟨req, ds, rfl, hm, hid, hd.1.1.1, hd.1.1.2, hb, hd.1.2, hd.2⟩
      | ping e => rw [hb] at hd; cases hd
      | talk x y => rw [hb] at hd; cases hd
    · rintro ⟨req', ds, he, _, _, hp, ha, hb, hc, hacc⟩
      subst he
      rw [hb]
      simp [hp, ha, hc, hacc]

/-- A NODES response from node `peer` at address `addr` for
request `id` puts `Out.ban p a` among the outputs if and only if `p` and `a` are that very sender and
the ban condition holds: the request `id` is active, was sent to `peer` at `addr`, is a FINDNODE
request without user-level callback, and the distance filter flags the packet. -/
theorem ban_iff (s : Svc) (o : Oracle) (peer : Nat) (addr : Addr) (id total : Nat) (recs : List Rec)
    (p : Nat) (a : Addr) :
    Out.ban p a ∈ (s.handleResponse o peer addr id (.nodes total recs)).2 ↔
      p = peer ∧ a = addr ∧ BanCond s peer addr id recs := by
  rw [← mem_bans, handleResponse_nodes_bans, ← banDecision_iff]
  cases banDecision s.active peer addr id recs
  · simp
  · simp only [if_true, List.mem_singleton, Prod.mk.injEq, and_true]

/-- The ban is emitted exactly once, and it is the only ban of the step. -/
theorem ban_once (s : Svc) (o : Oracle) (peer : Nat) (addr : Addr) (id total : Nat) (recs : List Rec) :
    bans (s.handleResponse o peer addr id (.nodes total recs)).2 = [(peer, addr)] ∨
    bans (s.handleResponse o peer addr id (.nodes total recs)).2 = [] := by
  rw [handleResponse_nodes_bans]
  cases banDecision s.active peer addr id recs
  · right; rfl
  · left; rfl

/-- The distance filter flags a packet iff
some record of it lies at a log2 distance from the responder that was not requested (the
responder's own record counting as distance 0), or the request was an ENR update (`[0]`) and the
packet carries more than one record. -/
theorem ban_flag_iff (peer : Nat) (ds : List Nat) (recs : List Rec) :
    (acceptNodes peer ds recs).2 = true ↔
      (∃ r ∈ recs, distOf peer r ∉ ds) ∨ (ds = [0] ∧ 1 < recs.length) := by
  rw [acceptNodes_snd, accept_exact, Bool.or_eq_true, decide_eq_true_eq, decide_eq_true_eq,
    List.length_filter_lt_length_iff_exists, or_comm]
  simp only [List.contains_iff_mem]

/-- `ban_iff` with the ban flag spelled out. -/
theorem ban_iff_distance (s : Svc) (o : Oracle) (peer : Nat) (addr : Addr) (id total : Nat)
    (recs : List Rec) (p : Nat) (a : Addr) :
    Out.ban p a ∈ (s.handleResponse o peer addr id (.nodes total recs)).2 ↔
      p = peer ∧ a = addr ∧
      ∃ (req : ActiveReq) (ds : List Nat),
        s.active.find? (fun r => r.id == id) = some req ∧ req.peer = peer ∧ req.addr = addr ∧
        req.body = .findNode ds ∧ req.callback = false ∧
        ((∃ r ∈ recs, distOf peer r ∉ ds) ∨ (ds = [0] ∧ 1 < recs.length)) := by
  rw [ban_iff]
  unfold BanCond
  constructor
  · rintro ⟨hp, ha, req, ds, hf, _, _, h1, h2, h3, h4, h5⟩
    exact ⟨hp, ha, req, ds, hf, h1, h2, h3, h4, (ban_flag_iff ..).1 h5⟩
  · rintro ⟨hp, ha, req, ds, hf, h1, h2, h3, h4, h5⟩
    have hf' : activeReq s id = some req := hf
    exact ⟨hp, ha, req, ds, hf, (activeReq_mem hf').1, (activeReq_mem hf').2, h1, h2, h3, h4,
      (ban_flag_iff ..).2 h5⟩

/-- Whatever the state, the oracle and the input: if a step bans
node `p` at address `a`, then the input is a NODES response that arrived from exactly that node at
exactly that address, and it answers an active FINDNODE request (without user-level callback) that
this node had sent to exactly that node at exactly that address, and the packet fails the distance
filter of that request.

So a step never bans a node id or an address taken from a *record* of the packet (the ip an ENR
advertises), never bans on behalf of a request that was sent elsewhere, and no input other than a
NODES response bans at all. -/
theorem ban_names_sender (s : Svc) (o : Oracle) (i : Svc.Input) (p : Nat) (a : Addr)
    (h : Out.ban p a ∈ (s.step o i).2) :
    ∃ (id total : Nat) (recs : List Rec), i = .response p a id (.nodes total recs) ∧
      ∃ (req : ActiveReq) (ds : List Nat),
        s.active.find? (fun r => r.id == id) = some req ∧ req ∈ s.active ∧ req.id = id ∧
        req.peer = p ∧ req.addr = a ∧ req.body = .findNode ds ∧ req.callback = false ∧
        (acceptNodes p ds recs).2 = true := by
  by_cases hi : ∃ p' a' id total recs, i = .response p' a' id (.nodes total recs)
  · obtain ⟨p', a', id, total, recs, hi⟩ := hi
    subst hi
    have h' : Out.ban p a ∈ (s.handleResponse o p' a' id (.nodes total recs)).2 := h
    rw [ban_iff] at h'
    obtain ⟨hp, ha, hc⟩ := h'
    subst hp ha
    exact ⟨id, total, recs, rfl, hc⟩
  · exfalso
    refine not_mem_of_bans_nil (step_bans_other s o i ?_) p a h
    intro p' a' id total recs he
    exact hi ⟨p', a', id, total, recs, he⟩

/-- Every input that is not a NODES response bans nobody. -/
theorem only_nodes_responses_ban (s : Svc) (o : Oracle) (i : Svc.Input)
    (hi : ∀ p a id total recs, i ≠ .response p a id (.nodes total recs)) (p : Nat) (a : Addr) :
    Out.ban p a ∉ (s.step o i).2 :=
  not_mem_of_bans_nil (step_bans_other s o i hi) p a

/-- Along every run, every ban of `p` at `a` was
produced by one particular element of the input list: a NODES response from `p` at `a`, which in the
state reached by the inputs before it satisfies the ban condition. -/
theorem ban_has_cause_at (l : List (Oracle × Svc.Input)) : ∀ (s : Svc) (p : Nat) (a : Addr),
    Out.ban p a ∈ (s.run l).2 →
    ∃ (pre post : List (Oracle × Svc.Input)) (o : Oracle) (id total : Nat) (recs : List Rec),
      l = pre ++ (o, .response p a id (.nodes total recs)) :: post ∧
      BanCond (s.run pre).1 p a id recs := by
  intro s p a h
  obtain ⟨pre, oi, post, hl, hx⟩ := mem_outs_run h
  obtain ⟨id, total, recs, hi, hc⟩ := ban_names_sender _ oi.1 oi.2 p a hx
  exact ⟨pre, post, oi.1, id, total, recs, by rw [hl, ← hi], hc⟩

/-- Along every run, every ban of node `p` at address
`a` among the outputs was produced by an input of the run that is a NODES response from `p` at `a`. -/
theorem ban_has_cause (s : Svc) (l : List (Oracle × Svc.Input)) (p : Nat) (a : Addr)
    (h : Out.ban p a ∈ (s.run l).2) :
    ∃ (o : Oracle) (id total : Nat) (recs : List Rec),
      (o, Svc.Input.response p a id (.nodes total recs)) ∈ l := by
  obtain ⟨pre, post, o, id, total, recs, hl, _⟩ := ban_has_cause_at l s p a h
  exact ⟨o, id, total, recs, by rw [hl]; simp⟩

/-- A run without NODES responses from `p` at `a` never bans `p` at `a` (contrapositive of
`ban_has_cause`). -/
theorem silent_never_banned (s : Svc) (l : List (Oracle × Svc.Input)) (p : Nat) (a : Addr)
    (h : ∀ o id total recs, (o, Svc.Input.response p a id (.nodes total recs)) ∉ l) :
    Out.ban p a ∉ (s.run l).2 := by
  intro hm
  obtain ⟨o, id, total, recs, hmem⟩ := ban_has_cause s l p a hm
  exact h o id total recs hmem

/-! ### Non-vacuity -/

def exAddr : Addr := { v6 := false, sock := 655369000 }

/-- Node 9, reachable at `exAddr`. -/
def exPeer : Rec := { recOf 9 with udp4 := some 655369000 }

/-- Node 77 advertises another socket (ip 20000, port 9000). -/
def exForeign : Rec := { recOf 77 with udp4 := some (20000 * 65536 + 9000) }

/-- Node 8 with an empty table. -/
def ex0 : Svc := Svc.init exCfg (recOf 8)

/-- A session with node 9 is established (request 1 is the PING that follows), a query for target 10
starts and asks node 9 (request 2: FINDNODE `[2,3,1]`); node 9 answers with the record of node 77,
which is at distance 7 from it. -/
def exRun : List (Oracle × Svc.Input) :=
  [({}, .established exPeer exAddr false), ({}, .startQuery 10), ({}, .queryEmit 9),
   ({}, .response 9 exAddr 2 (.nodes 1 [exForeign]))]

/-- The state before the answer. -/
def ex3 : Svc := (ex0.run (exRun.take 3)).1

/-- The state a run ends in.  `ex3` is compared with `stateAfter ex0 _`, one constant unfolding
against another; compared with its own body `(ex0.run _).1` the kernel would evaluate that projection
first, the walk over the 256 buckets and all. -/
def stateAfter (s : Svc) (l : List (Oracle × Svc.Input)) : Svc := (s.run l).1

theorem stateAfter_nil (s : Svc) : stateAfter s [] = s := rfl

theorem stateAfter_cons (s : Svc) (o : Oracle) (i : Svc.Input) (l : List (Oracle × Svc.Input)) :
    stateAfter s ((o, i) :: l) = stateAfter (s.step o i).1 l := rfl

theorem run_snoc_outs (s : Svc) (l : List (Oracle × Svc.Input)) (o : Oracle) (i : Svc.Input) :
    (s.run (l ++ [(o, i)])).2 = (s.run l).2 ++ ((stateAfter s l).step o i).2 := by
  rw [run_append, run_cons, run_nil, List.append_nil]
  rfl

theorem ex3_eq : ex3 = stateAfter ex0 (exRun.take 3) := rfl

/-- Node 9 as the session stores it. -/
def exStored : Node Rec := { key := 9, value := exPeer, st := { conn := true, incoming := false }, stamp := 1 }

/-- The state after the session: node 9 sits in bucket 0 (8 xor 9 = 1), its PING is in flight. -/
def ex1 : Svc :=
  { ex0 with
    table := { localKey := 8, buckets := { nodes := [exStored], fcp := some 0 } :: List.replicate 255 {},
               tick := 1 }
    active := [{ id := 1, peer := 9, addr := exAddr, body := .ping 1 }]
    nextReq := 2 }

theorem ex1_bucket (i : Nat) : (ex1.table.bucket i).nodes = if i = 0 then [exStored] else [] := by
  cases i with
  | zero => rfl
  | succ i =>
    show ((List.replicate 255 ({} : Bucket Rec)).getD i {}).nodes = []
    rw [List.getD_eq_getElem?_getD, List.getElem?_replicate]
    split <;> rfl

/-- The requests in flight before the answer: the PING that followed the session and the query's
FINDNODE.  This is all a NODES response reads of `ex3` to decide about a ban.  The first step is
evaluated (`ex1`), the walk of the second over the table is `startQuery_of_no_pending`, the third is
evaluated on the state written down. -/
theorem ex3_active : ex3.active =
    [{ id := 1, peer := 9, addr := exAddr, body := .ping 1 },
     { id := 2, peer := 9, addr := exAddr, body := .findNode [2, 3, 1], query := some 1 }] := by
  have hnp : ∀ b ∈ ex1.table.buckets, b.pending = none := by
    intro b hb
    rcases List.mem_cons.1 hb with rfl | hb
    · rfl
    · rw [List.eq_of_mem_replicate hb]
  have hns : ((bucketOrder (ex1.table.localKey ^^^ 10)).flatMap fun i =>
      sortByDist 10 (ex1.table.bucket i).nodes).map (·.value) = [exPeer] := by
    simp only [ex1_bucket, apply_ite (sortByDist 10), sortByDist_nil]
    decide +kernel
  rw [ex3_eq, show exRun.take 3 = [_, _, _] from rfl, stateAfter_cons, stateAfter_cons, stateAfter_cons,
    stateAfter_nil, show (ex0.step {} (.established exPeer exAddr false)).1 = ex1 from rfl]
  simp only [Svc.step]
  rw [startQuery_of_no_pending ex1 10 hnp hns (by simp)]
  rfl

theorem ex3_bans (p : Nat) (a : Addr) (id total : Nat) (recs : List Rec) :
    bans (ex3.step {} (.response p a id (.nodes total recs))).2 =
      if banDecision [{ id := 1, peer := 9, addr := exAddr, body := .ping 1 },
          { id := 2, peer := 9, addr := exAddr, body := .findNode [2, 3, 1], query := some 1 }] p a id recs
      then [(p, a)] else [] := by
  rw [← ex3_active]
  exact handleResponse_nodes_bans ex3 {} p a id total recs

example : ex3.active.map (fun r => (r.id, r.peer, r.addr, r.body, r.callback)) =
    [(1, 9, exAddr, .ping 1, false), (2, 9, exAddr, .findNode [2, 3, 1], false)] := by
  rw [ex3_active]; rfl

theorem ex3_ban : Out.ban 9 exAddr ∈ (ex3.step {} (.response 9 exAddr 2 (.nodes 1 [exForeign]))).2 := by
  rw [← mem_bans, ex3_bans]; decide

/-- The step does ban — the sender (node 9 at `exAddr`), not the node or the socket of the record. -/
example : Out.ban 9 exAddr ∈ (ex3.step {} (.response 9 exAddr 2 (.nodes 1 [exForeign]))).2 := ex3_ban

/-- The whole run: the three inputs before the answer ban nobody (`ban_has_cause`), the answer bans
at `ex3`. -/
example : bans (ex0.run exRun).2 = [(9, exAddr)] := by
  have h0 : bans (ex0.run (exRun.take 3)).2 = [] := by
    refine List.eq_nil_iff_forall_not_mem.2 fun ⟨p, a⟩ h => ?_
    obtain ⟨o, id, total, recs, hm⟩ := ban_has_cause _ _ p a (mem_bans.1 h)
    simp [exRun] at hm
  rw [show exRun = exRun.take 3 ++ [({}, .response 9 exAddr 2 (.nodes 1 [exForeign]))] from rfl,
    run_snoc_outs, ← ex3_eq, bans_append, h0, ex3_bans]
  rfl

/-- The same packet from another address (or another node) is dropped without a ban, and so is an
honest answer. -/
example : bans (ex3.step {} (.response 9 { exAddr with sock := 1 } 2 (.nodes 1 [exForeign]))).2 = [] := by
  rw [ex3_bans]; rfl

example : bans (ex3.step {} (.response 77 exAddr 2 (.nodes 1 [exForeign]))).2 = [] := by
  rw [ex3_bans]; rfl

example : bans (ex3.step {} (.response 9 exAddr 2 (.nodes 1 [recOf 11]))).2 = [] := by
  rw [ex3_bans]; rfl

/-- `BanCond` is satisfiable. -/
example : BanCond ex3 9 exAddr 2 [exForeign] :=
  ((ban_iff ex3 {} 9 exAddr 2 1 [exForeign] 9 exAddr).1 ex3_ban).2.2

end Discv5.Props.C11Ban
