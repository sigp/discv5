/- C04 — Every request gets exactly one outcome (handler model). -/
import Discv5Model.Proofs.HandlerRequests
namespace Discv5.H
open RQ

/-- External request ids are tracked at most once (no duplicates among active + queued). -/
theorem tracked_nodup (c : Cfg) (evs : List Ev) (h : AppDiscipline c evs) :
    (trackedExt (run c evs)).Nodup := by
  rw [List.nodup_iff_count]
  intro rid
  have h1 := global_upper c h.2.2 evs rid
  have h2 := (List.nodup_iff_count.1 h.1) rid
  rw [← cnt_eq]; omega

/-- A request that is not tracked is silent: no response and no failure is reported for it (unless
this very step submits it). -/
theorem untracked_silent (c : Cfg) (evs : List Ev) (e : Ev) (rid : Nat)
    (h : AppDiscipline c (evs ++ [e])) (hr : rid < 1000000) (hn : rid ∉ trackedExt (run c evs))
    (hs : ∀ ct b, e ≠ .appRequest ct rid b) :
    ∀ o ∈ (step c (run c evs) e).2, aboutRid rid o = false := by
  have h0 : cnt rid (run c evs) = 0 := by rw [cnt_eq]; exact List.count_eq_zero.2 hn
  have := (step_spec c h.2.2 _ (Good_run c h.2.2 evs) e rid).2.2.2 hr (by rw [h0, subm_zero hs])
  exact nabout_zero this

/-- A failure report ends the tracking of that request, and is reported once in that step. -/
theorem failure_untracks (c : Cfg) (evs : List Ev) (e : Ev) (rid : Nat) (er : Err)
    (h : AppDiscipline c (evs ++ [e])) (hr : rid < 1000000) (hf : Out.failed rid er ∈ (step c (run c evs) e).2) :
    rid ∉ trackedExt (run c (evs ++ [e])) ∧
    ((step c (run c evs) e).2.filter (isFailure rid)).length = 1 := by
  -- `hr` is not needed: the id discipline alone bounds failures plus tracked occurrences by one
  have _ := hr
  have h1 := (step_spec c h.2.2 _ (Good_run c h.2.2 evs) e rid).2.1
  have h2 := global_upper c h.2.2 evs rid
  have h3 := (List.nodup_iff_count.1 h.1) rid
  rw [count_appRids_snoc] at h3
  have h4 := nfail_pos hf
  rw [run_snoc]
  refine ⟨?_, ?_⟩
  · rw [← List.count_eq_zero, ← cnt_eq]; omega
  · show nfail rid _ = 1; omega

/-- Never two failures: over a whole history at most one failure is reported per request. -/
theorem at_most_one_failure (c : Cfg) (evs : List Ev) (h : AppDiscipline c evs) (rid : Nat)
    (hr : rid < 1000000) :
    ((outputs c evs).filter (isFailure rid)).length ≤ 1 := by
  -- `hr` is not needed here either
  have _ := hr
  have h1 := global_upper c h.2.2 evs rid
  have h2 := (List.nodup_iff_count.1 h.1) rid
  show nfail rid _ ≤ 1; omega

/-- Never both: after a failure was reported for a request nothing more is reported for it. -/
theorem nothing_after_failure (c : Cfg) (evs rest : List Ev) (rid : Nat) (er : Err)
    (h : AppDiscipline c (evs ++ rest)) (hr : rid < 1000000) (hf : Out.failed rid er ∈ outputs c evs) :
    ∀ o ∈ (trace c (run c evs) rest).flatten, aboutRid rid o = false := by
  have h1 := global_upper c h.2.2 evs rid
  have h2 := (List.nodup_iff_count.1 h.prefix.1) rid
  have h3 := nfail_pos hf
  exact silent_once_untracked c rid hr rest evs h (by omega) (by omega)

/-- Never neither, part 1: every submitted request is still tracked or something was reported. -/
theorem every_request_accounted (c : Cfg) (evs : List Ev) (h : AppDiscipline c evs) (rid : Nat)
    (hr : rid ∈ appRids evs) :
    rid ∈ trackedExt (run c evs) ∨ ∃ o ∈ outputs c evs, aboutRid rid o = true := by
  have h1 := global_lower c h.2.2 evs rid (h.2.1 rid hr)
  have h2 : 1 ≤ (appRids evs).count rid := List.one_le_count_iff.2 hr
  by_cases h3 : 1 ≤ cnt rid (run c evs)
  · rw [cnt_eq] at h3; exact Or.inl (List.one_le_count_iff.1 h3)
  · exact Or.inr (nabout_pos (by omega))

/-- Never neither, part 2 (invariant): a queued request always has a live timer behind it. -/
theorem pending_has_releaser (c : Cfg) (evs : List Ev) : PendingHasReleaser (run c evs) :=
  run_inv_state (J := PendingHasReleaser) (fun _ he => nomatch he)
    (fun e => (P_stepM c e).conseq (fun _ h => (PX_iff _ _).2 h) (fun _ _ h => (PX_iff _ _).1 h)) evs

/-- Never neither, part 3: once all timers have fired (no active request, no active challenge)
nothing is queued any more, hence every submitted request has had an outcome. -/
theorem quiescent_complete (c : Cfg) (evs : List Ev) (h : AppDiscipline c evs)
    (h1 : (run c evs).active = []) (h2 : (run c evs).challenges = []) :
    (∀ e ∈ (run c evs).pending, e.2 = []) ∧
    ∀ rid ∈ appRids evs, ∃ o ∈ outputs c evs, aboutRid rid o = true := by
  have hq : ∀ e ∈ (run c evs).pending, e.2 = [] := by
    intro e he
    cases hne : e.2 with
    | nil => rfl
    | cons x xs =>
      have := pending_has_releaser c evs e he (by rw [hne]; exact List.cons_ne_nil _ _)
      rw [h1, h2] at this
      simp at this
  refine ⟨hq, fun rid hr => ?_⟩
  rcases every_request_accounted c evs h rid hr with ht | ho
  · exfalso
    unfold trackedExt at ht
    rw [h1] at ht
    simp only [List.filter_nil, List.map_nil, List.nil_append, List.mem_flatMap] at ht
    obtain ⟨e, he, hm⟩ := ht
    rw [hq e he] at hm
    simp at hm
  · exact ho

/-- A request call is put on the wire at most `request_retries` times with the same packet:
the retry counter never exceeds the configured number. -/
theorem retries_bounded (c : Cfg) (evs : List Ev) (hr : 1 ≤ c.requestRetries) :
    ∀ call ∈ (run c evs).active, call.retries ≤ c.requestRetries :=
  active_retries_le c evs hr

/-- A timeout is only ever reported while time passes (a timer firing), never in reaction to a
datagram or an application call. -/
theorem timeout_only_from_timer (c : Cfg) (s : HState) (e : Ev) (rid : Nat)
    (h : Out.failed rid .timeout ∈ (step c s e).2) : ∃ dt, e = .adv dt :=
  timeout_failure_only_on_adv c s e rid h

/-! ### Non-vacuity -/

/-- A node with a single transmission per request (`request_retries = 1`) and a 10 ms timeout. -/
private def c04Cfg : Cfg where
  localId := 1
  localSeq := 1
  localRec := { id := 1, seq := 1, udp4 := some 100, udp6 := none }
  requestRetries := 1
  requestTimeout := 10
  sessionTtl := 1000
  sessionCap := 8
  listen := [⟨false, 100⟩]
  findnode0 := 0

private def c04Peer : NA := { id := 2, addr := ⟨false, 7⟩ }
private def c04Contact : Contact :=
  { na := c04Peer, record := some { id := 2, seq := 1, udp4 := some 7, udp6 := none } }

/-- Request 7 is submitted and never answered. -/
private def c04Timeout : List Ev := [.appRequest c04Contact 7 5, .adv 10]

/-- Request 7 is submitted, the peer challenges (WHOAREYOU), the handshake is sent, and the peer
answers under the new session key. -/
private def c04Answered : List Ev :=
  [.appRequest c04Contact 7 5,
   .dgram c04Peer.addr (.whoareyou 1000001 500 0),
   .dgram c04Peer.addr (.message 2 99
     (.enc { eph := 1000001, cd := 500, ini := 1, rcp := 2, toRcp := false } 99 1
       (.response 7 (.other 0)) true))]

/-- A history obeying the discipline in which a request fails by timeout … -/
example : AppDiscipline c04Cfg c04Timeout := ⟨by decide, by decide, by decide⟩
example : Out.failed 7 .timeout ∈ outputs c04Cfg c04Timeout := by decide +kernel
/-- … after which it is no longer tracked and the node is quiescent. -/
example : trackedExt (run c04Cfg c04Timeout) = [] ∧ (run c04Cfg c04Timeout).active = [] ∧
    (run c04Cfg c04Timeout).challenges = [] := by decide +kernel

/-- A quiescent state with a completed (answered) request. -/
example : AppDiscipline c04Cfg c04Answered := ⟨by decide, by decide, by decide⟩
example : (run c04Cfg c04Answered).active = [] ∧ (run c04Cfg c04Answered).challenges = [] ∧
    Out.response c04Peer 7 (.other 0) ∈ outputs c04Cfg c04Answered := by decide +kernel
/-- While the request is in flight it is tracked (the hypotheses of `untracked_silent` etc. are
not trivially true). -/
example : trackedExt (run c04Cfg [.appRequest c04Contact 7 5]) = [7] := by decide +kernel

end Discv5.H
