/-
C18 — Inbound rate limiting and ban lists are enforced.

Vocabulary: a history `es : List (Ev κ)` is a sequence of `Limiter::allows(time, key, tokens)` and
`Limiter::prune(time)` calls; `Timed tau t lo es` says that the times never decrease (starting at
`lo`) and stay far from `u64` overflow (`time + 2·tau < 2^64`, `t·tokens < 2^64`; with
`tau < 2^62` this holds for all times `< 2^63` ns ≈ 292 years); `accepted key l [] es` are the
accepted arrivals `(time, tokens)` of `key`, newest first; `sums H` pairs each accepted arrival
`aᵢ` with `Sᵢ`, the tokens accepted from it up to the newest (`Sᵢ = n − i + 1` with one token per
arrival); `tokensIn H s W` are the tokens accepted in the window `[s, s + W]`; `t` is the code's
replenish time per token (`floor(period / max_tokens)` ns) and `tau` the period.
-/
import Discv5Model.Proofs.LimiterLemmas

namespace Discv5.Limiter

variable {κ : Type} [DecidableEq κ]

/-- GCRA, exactly.  After any history from an empty limiter (any keys, any token counts, refused
arrivals and prune calls interleaved), with `H` the accepted arrivals of `key`: (1) if the table
holds an entry for `key` it is `maxᵢ (aᵢ + Sᵢ·t)`; (2) a further arrival of `k` tokens at a time
`a` not before the last event is accepted **iff** `k·t ≤ tau` and for every accepted arrival `i`:
`(Sᵢ + k)·t ≤ (a − aᵢ) + tau`. -/
theorem gcra_exact (tau t : Nat) (key : κ) (es : List (Ev κ)) (hT : Timed tau t 0 es)
    (a k : Nat) (ha : lastTime 0 es ≤ a) (hb : a + 2 * tau < 18446744073709551616)
    (hk : t * k < 18446744073709551616) :
    (∀ v, (run (fresh tau t) es).1.tat key = some v →
        v = maxL ((sums (accepted key (fresh tau t) [] es)).map fun p => p.1 + p.2 * t)) ∧
    (((run (fresh tau t) es).1.allows a key k).2 = .ok ↔
      (k * t ≤ tau ∧
        ∀ p ∈ sums (accepted key (fresh tau t) [] es), (p.2 + k) * t ≤ (a - p.1) + tau)) := by
  have htr := tracks_run (key := key) es (tracks_fresh tau t key 0) hT
  refine ⟨fun v hv => ?_, htr.ok_iff_sums ha hb hk⟩
  rw [← specTat_eq_max]
  rcases htr.tat with h | ⟨h, _⟩
  · exact Option.some.inj (hv.symm.trans h)
  · cases hv.symm.trans h

/-- GCRA with one token per arrival (the only way `RateLimiter::allows` uses it), in the indexed
form of the property statement: with `H = [aₙ, …, a₁]` the accepted arrivals (index `j = 0` is the
newest, so `j + 1 = n − i + 1`), a new arrival at `a` is accepted iff `t ≤ tau` and for all `j`:
`(j + 2)·t ≤ (a − H[j]) + tau`. -/
theorem gcra_exact_unit (tau t : Nat) (key : κ) (es : List (Ev κ)) (hT : Timed tau t 0 es)
    (hu : UnitTokens es) (a : Nat) (ha : lastTime 0 es ≤ a)
    (hb : a + 2 * tau < 18446744073709551616) (ht : t < 18446744073709551616) :
    ((run (fresh tau t) es).1.allows a key 1).2 = .ok ↔
      (t ≤ tau ∧ ∀ j, ∀ hj : j < (accepted key (fresh tau t) [] es).length,
        (j + 2) * t ≤ (a - ((accepted key (fresh tau t) [] es)[j]).1) + tau) := by
  have h1 := accepted_unit key (fresh tau t) [] es (by simp) hu
  rw [(gcra_exact tau t key es hT a 1 ha hb (by omega)).2]
  simp only [Nat.one_mul]
  constructor
  · rintro ⟨h0, h⟩
    refine ⟨h0, fun j hj => ?_⟩
    have := h _ ((mem_sums_unit _ h1 _).mpr ⟨j, hj, rfl⟩)
    simpa using this
  · rintro ⟨h0, h⟩
    refine ⟨h0, fun p hp => ?_⟩
    obtain ⟨j, hj, rfl⟩ := (mem_sums_unit _ h1 p).mp hp
    simpa using h j hj

/-- Window bound, in the code's units (`burst + rate·W` with burst `tau/t` and rate `1/t`): the
tokens accepted for one key in any time window `[s, s + W]`, times `t`, never exceed `W + tau`. -/
theorem window_bound (tau t : Nat) (key : κ) (es : List (Ev κ)) (hT : Timed tau t 0 es)
    (s W : Nat) : tokensIn (accepted key (fresh tau t) [] es) s W * t ≤ W + tau :=
  conf_window (tracks_run (key := key) es (tracks_fresh tau t key 0) hT).conf s W

/-- Window bound for a quota `n` tokens every `period` ns that divides evenly: at most
`n + W / (period / n)` tokens of one key are accepted in any window of length `W` — the configured
burst plus the configured rate times the window. -/
theorem window_bound_quota (n period : Nat) (l : Limiter κ) (hq : fromQuota n period = some l)
    (hdiv : period % n = 0) (key : κ) (es : List (Ev κ)) (hT : Timed l.tau l.t 0 es) (s W : Nat) :
    tokensIn (accepted key l [] es) s W ≤ n + W / (period / n) := by
  obtain ⟨rfl, hn, hp, _⟩ := fromQuota_eq hq
  have hw := window_bound period (period / n) key es hT s W
  have hpe : n * (period / n) = period := Nat.mul_div_cancel' (Nat.dvd_of_mod_eq_zero hdiv)
  have htpos : 0 < period / n := by
    rcases Nat.eq_zero_or_pos (period / n) with h0 | h0
    · rw [h0] at hpe; omega
    · exact h0
  have hx : (tokensIn (accepted key (fresh period (period / n)) [] es) s W - n) * (period / n) ≤ W := by
    rw [Nat.sub_mul]; omega
  have := (Nat.le_div_iff_mul_le htpos).mpr hx
  omega

/-- Window bound for an arbitrary quota (`t = floor(period / n)` rounds down, so the effective rate
may exceed `n / period` by less than one token per `n − 1` ns): `m · period ≤ n · (W + period) +
m · (n − 1)` for the `m` tokens accepted in a window of length `W`. -/
theorem window_bound_rounded (n period : Nat) (l : Limiter κ) (hq : fromQuota n period = some l)
    (key : κ) (es : List (Ev κ)) (hT : Timed l.tau l.t 0 es) (s W : Nat) :
    tokensIn (accepted key l [] es) s W * period
      ≤ n * (W + period) + tokensIn (accepted key l [] es) s W * (n - 1) := by
  obtain ⟨rfl, hn, hp, _⟩ := fromQuota_eq hq
  have hw := window_bound period (period / n) key es hT s W
  generalize tokensIn (accepted key (fresh period (period / n)) [] es) s W = m at hw ⊢
  have hdm : n * (period / n) + period % n = period := Nat.div_add_mod period n
  have hmod : period % n ≤ n - 1 := by have := Nat.mod_lt period hn; omega
  calc m * period = m * (n * (period / n) + period % n) := by rw [hdm]
    _ = n * (m * (period / n)) + m * (period % n) := by
        rw [Nat.mul_add, ← Nat.mul_assoc, Nat.mul_comm m n, Nat.mul_assoc]
    _ ≤ n * (W + period) + m * (n - 1) :=
        Nat.add_le_add (Nat.mul_le_mul_left _ hw) (Nat.mul_le_mul_left _ hmod)

/-- With one token per arrival the bound counts arrivals: the number of accepted arrivals of a key
with time in `[s, s + W]`, times `t`, is at most `W + tau`. -/
theorem window_bound_count (tau t : Nat) (key : κ) (es : List (Ev κ)) (hT : Timed tau t 0 es)
    (hu : UnitTokens es) (s W : Nat) :
    ((accepted key (fresh tau t) [] es).filter
        (fun p => decide (s ≤ p.1 ∧ p.1 ≤ s + W))).length * t ≤ W + tau := by
  rw [← tokensIn_unit _ (accepted_unit key (fresh tau t) [] es (by simp) hu)]
  exact window_bound tau t key es hT s W

/-- Traffic that stays within the quota is never refused: if the arrivals *offered* for `key`
(accepted or not) satisfy the window bound for every window, every one of them is accepted. -/
theorem conforming_never_refused (tau t : Nat) (key : κ) (es : List (Ev κ))
    (hT : Timed tau t 0 es)
    (hw : ∀ s W, tokensIn (offered key [] es) s W * t ≤ W + tau) :
    ∀ v ∈ verdictsOf key (fresh tau t) es, v = .ok :=
  (conforming_run es (tracks_fresh tau t key 0) hT hw).1

/-- The allowance comes back with time, whatever happened before: after any history, an arrival of `k`
tokens (`k·t ≤ tau`) that comes at least `k·t` - the time in which `k` tokens are replenished - after
every accepted arrival of its key is accepted. -/
theorem replenished_tokens_are_granted (tau t : Nat) (key : κ) (es : List (Ev κ)) (hT : Timed tau t 0 es)
    (a k : Nat) (ha : lastTime 0 es ≤ a) (hb : a + 2 * tau < 18446744073709551616)
    (hk : t * k < 18446744073709551616) (hkt : k * t ≤ tau)
    (hidle : ∀ e ∈ accepted key (fresh tau t) [] es, e.1 + k * t ≤ a) :
    ((run (fresh tau t) es).1.allows a key k).2 = .ok := by
  have htr := tracks_run (key := key) es (tracks_fresh tau t key 0) hT
  exact (htr.ok_iff ha hb hk).mpr ⟨hkt, conf_after_replenish htr.conf a k hkt hidle⟩

/-- In the terms of a configured quota (`n` tokens every `period` ns, one token per datagram): a sender
whose accepted datagrams all lie a whole period back is within its quota - its datagram is accepted,
however the earlier ones were spaced.  (This is the rule the correspondence harness's timed monitor
`conforming-refused … a whole period after its previous datagram` applies to the real filter.) -/
theorem whole_period_idle_is_within_quota (n period : Nat) (l : Limiter κ)
    (hq : fromQuota n period = some l) (key : κ) (es : List (Ev κ)) (hT : Timed l.tau l.t 0 es)
    (a : Nat) (ha : lastTime 0 es ≤ a) (hb : a + 2 * period < 18446744073709551616)
    (hidle : ∀ e ∈ accepted key l [] es, e.1 + period ≤ a) :
    ((run l es).1.allows a key 1).2 = .ok := by
  obtain ⟨rfl, hn, hp, hpu⟩ := fromQuota_eq hq
  have hle : period / n ≤ period := Nat.div_le_self _ _
  have hU : U64 = 18446744073709551616 := rfl
  refine replenished_tokens_are_granted period (period / n) key es hT a 1 ha hb (by omega) (by omega) ?_
  intro e he
  have := hidle e he
  omega

/-- Pruning is invisible: for monotone times the verdicts of a history equal the verdicts of the
same history with all `prune` calls removed (all keys at once). -/
theorem prune_transparent (tau t : Nat) (es : List (Ev κ)) (hT : Timed tau t 0 es) :
    (run (fresh tau t) es).2 = (run (fresh tau t) (stripPrune es)).2 :=
  pruneRel_run es (pruneRel_refl (fresh tau t) 0 fun _ => Nat.zero_le _) hT

/-- The same for the three-quota `RateLimiter` the filter uses (`RateLimiter::prune` prunes the
total, per-node and per-IP limiters at one clock reading): the verdicts of any sequence of
`allows(Total | NodeId | Ip)` calls are unchanged by interleaved `prune` calls. `B` bounds the
three periods. -/
theorem ratelimiter_prune_transparent (total node ip : Option (Nat × Nat)) (r : RateLimiter)
    (h : RateLimiter.build total node ip = some r) (B : Nat) (hB : r.total.tau ≤ B)
    (hBn : ∀ l, r.node = some l → l.tau ≤ B) (hBi : ∀ l, r.ip = some l → l.tau ≤ B)
    (es : List REv) (hT : RTimed B 0 es) : (rrun r es).2 = (rrun r (rstrip es)).2 :=
  rrel_run es (rrel_build h B hB hBn hBi 0) hT

/-- Each request costs exactly one token: the per-IP / per-node / total decision of the
`RateLimiter` is the GCRA decision of the corresponding `Limiter` for one token (and an absent
quota lets everything pass). -/
theorem ratelimiter_is_gcra (r : RateLimiter) (now key : Nat) :
    (r.allows now .total).2 = (r.total.allows now () 1).2 ∧
    (∀ lim, r.ip = some lim → (r.allows now (.ip key)).2 = (lim.allows now key 1).2) ∧
    (∀ lim, r.node = some lim → (r.allows now (.nodeId key)).2 = (lim.allows now key 1).2) ∧
    (r.ip = none → (r.allows now (.ip key)).2 = .ok) ∧
    (r.node = none → (r.allows now (.nodeId key)).2 = .ok) := by
  refine ⟨rfl, ?_, ?_, ?_, ?_⟩
  · intro lim h; simp only [RateLimiter.allows, h]
  · intro lim h; simp only [RateLimiter.allows, h]
  · intro h; simp only [RateLimiter.allows, h]
  · intro h; simp only [RateLimiter.allows, h]

end Discv5.Limiter

namespace Discv5.Filter
open Discv5.Limiter

/-- Permit list: a datagram whose IP is permitted always passes the IP stage, one whose node id is
permitted always passes the node stage — whatever the ban lists and limiters say, and without
touching any state. -/
theorem permit_passes (f : Filter) (pb : PermitBan) (now : Nat) (ip : Ip) (node : NodeId) :
    (pb.permitIps ip = true → f.initialPass pb now ip = (f, pb, true)) ∧
    (pb.permitNodes node = true → f.finalPass pb now ip node = (f, pb, true)) :=
  ⟨initialPass_permit f pb now ip, finalPass_permit f pb now ip node⟩

/-- Ban list: a datagram from a banned IP is dropped at the IP stage, one from a banned node id at
the node stage, unless that IP respectively node id is permitted. -/
theorem banned_dropped (f : Filter) (pb : PermitBan) (now : Nat) (ip : Ip) (node : NodeId) :
    (pb.permitIps ip = false → (pb.banIps ip).isSome = true →
      f.initialPass pb now ip = (f, pb, false)) ∧
    (pb.permitNodes node = false → (pb.banNodes node).isSome = true →
      f.finalPass pb now ip node = (f, pb, false)) :=
  ⟨initialPass_banned f pb now ip, finalPass_banned f pb now ip node⟩

/-- Excess is punished: when the per-IP limiter refuses an unsolicited datagram it is dropped and
the IP is banned until `now + ban_duration` (for ever without a configured duration); likewise for
the per-node limiter at the node stage. -/
theorem excess_bans (f : Filter) (pb : PermitBan) (now : Nat) (ip : Ip) (node : NodeId)
    (rl : RateLimiter) (he : f.enabled = true) (hr : f.rateLimiter = some rl) :
    (pb.permitIps ip = false → (pb.banIps ip).isSome = false →
      (rl.allows now (.ip ip)).2.isOk = false →
      (f.initialPass pb now ip).2.2 = false ∧
      (f.initialPass pb now ip).2.1.banIps ip = some (f.banDuration.map (now + ·))) ∧
    (pb.permitNodes node = false → (pb.banNodes node).isSome = false →
      (rl.allows now (.nodeId node)).2.isOk = false →
      (f.finalPass pb now ip node).2.2 = false ∧
      (f.finalPass pb now ip node).2.1.banNodes node = some (f.banDuration.map (now + ·))) := by
  constructor
  · intro hp hb hx
    rw [initialPass_limited f pb now ip rl hp hb he hr, hx]
    simp [banInsert, Filter.banTimeout]
  · intro hp hb hx
    rw [finalPass_limited f pb now ip node rl hp hb he hr, hx]
    have := nodeExcess_bans { f with rateLimiter := some (rl.allows now (.nodeId node)).1 } pb now ip node
    simp only [Bool.not_false, if_true]
    exact ⟨this.1, by rw [this.2.1]; simp [banInsert, Filter.banTimeout]⟩

/-- The expiry sweep (`unban_nodes_check` at time `now`) removes only expired bans: an entry is
either unchanged (and then, if timed, still in the future) or removed, and a removed entry had an
expiry `≤ now`; permanent bans and the permit lists are never touched. -/
theorem sweep_only_expired (pb : PermitBan) (now key : Nat) :
    ((pb.sweep now).banIps key = pb.banIps key ∨
      ((pb.sweep now).banIps key = none ∧ ∃ e, pb.banIps key = some (some e) ∧ e ≤ now)) ∧
    ((pb.sweep now).banNodes key = pb.banNodes key ∨
      ((pb.sweep now).banNodes key = none ∧ ∃ e, pb.banNodes key = some (some e) ∧ e ≤ now)) ∧
    (pb.sweep now).permitIps = pb.permitIps ∧ (pb.sweep now).permitNodes = pb.permitNodes := by
  refine ⟨?_, ?_, rfl, rfl⟩
  · rcases sweepMap_cases pb.banIps now key with h | h
    · exact Or.inl h.1
    · exact Or.inr h
  · rcases sweepMap_cases pb.banNodes now key with h | h
    · exact Or.inl h.1
    · exact Or.inr h

/-- A ban lasts at least the configured duration.  Let the IP be banned at time `t0` by an excess
(entry `t0 + d`, or permanent).  Then after *any* sequence of filter calls, receive-path calls,
prune calls and sweeps at times `≥ t0` whose sweeps happen before `t0 + d`, the IP is still banned
until at least `t0 + d` — so every unsolicited datagram from it is dropped at the IP stage unless
the IP is on the permit list.  Same for a node id at the node stage. -/
theorem ban_lasts (f : Filter) (pb : PermitBan) (t0 d : Nat) (key : Nat) (ops : List FOp)
    (hd : f.banDuration = some d)
    (hops : ∀ op ∈ ops, t0 ≤ op.time ∧ (op.isSweep = true → op.time < t0 + d)) :
    (BannedUntil pb.banIps key (t0 + d) →
      BannedUntil (frun (f, pb) ops).2.banIps key (t0 + d) ∧
      ∀ now, (frun (f, pb) ops).2.permitIps key = false →
        ((frun (f, pb) ops).1.initialPass (frun (f, pb) ops).2 now key).2.2 = false) ∧
    (BannedUntil pb.banNodes key (t0 + d) →
      BannedUntil (frun (f, pb) ops).2.banNodes key (t0 + d) ∧
      ∀ now ip, (frun (f, pb) ops).2.permitNodes key = false →
        ((frun (f, pb) ops).1.finalPass (frun (f, pb) ops).2 now ip key).2.2 = false) := by
  have hbefore : ∀ op ∈ ops, (∀ d', f.banDuration = some d' → t0 + d ≤ op.time + d') ∧
      (op.isSweep = true → op.time < t0 + d) := by
    intro op hop
    refine ⟨fun d' hd' => ?_, (hops op hop).2⟩
    have : d' = d := Option.some.inj (hd'.symm.trans hd)
    have := (hops op hop).1
    omega
  constructor
  · intro hb
    have := banned_persists (Or.inl rfl) (f, pb) key (t0 + d) ops hb hbefore
    refine ⟨this, fun now hp => ?_⟩
    obtain ⟨e, he, _⟩ := this
    rw [initialPass_banned _ _ now key hp (by rw [he]; rfl)]
  · intro hb
    have := banned_persists (Or.inr rfl) (f, pb) key (t0 + d) ops hb hbefore
    refine ⟨this, fun now ip hp => ?_⟩
    obtain ⟨e, he, _⟩ := this
    rw [finalPass_banned _ _ now ip key hp (by rw [he]; rfl)]

/-- The stages enforce the quotas and nothing else: with the filter enabled and a rate limiter
configured, an unlisted IP passes the IP stage **iff** the per-IP limiter and then the total
limiter accept the datagram (so the datagrams let through are among those the GCRA limiters
accepted, to which `window_bound` applies, and a datagram within both quotas is never refused);
an unlisted node id whose per-node limiter accepts passes the node stage unless the separate
nodes-per-IP limit is configured, and a datagram the per-node limiter refuses never passes. -/
theorem stages_enforce_exactly_the_quotas (f : Filter) (pb : PermitBan) (now : Nat) (ip : Ip)
    (node : NodeId) (rl : RateLimiter) (he : f.enabled = true) (hr : f.rateLimiter = some rl) :
    (pb.permitIps ip = false → (pb.banIps ip).isSome = false →
      ((f.initialPass pb now ip).2.2 = true ↔
        ((rl.allows now (.ip ip)).2.isOk = true ∧
         ((rl.allows now (.ip ip)).1.allows now .total).2.isOk = true))) ∧
    (pb.permitNodes node = false → (pb.banNodes node).isSome = false →
      ((f.finalPass pb now ip node).2.2 = true → (rl.allows now (.nodeId node)).2.isOk = true) ∧
      (f.maxNodesPerIp = none → (rl.allows now (.nodeId node)).2.isOk = true →
        (f.finalPass pb now ip node).2.2 = true)) := by
  constructor
  · intro hp hb
    rw [initialPass_limited f pb now ip rl hp hb he hr]
    cases (rl.allows now (.ip ip)).2.isOk <;> simp
  · intro hp hb
    rw [finalPass_limited f pb now ip node rl hp hb he hr]
    cases hx : (rl.allows now (.nodeId node)).2.isOk with
    | false =>
      simp only [Bool.not_false, if_true]
      refine ⟨fun h => ?_, fun _ h => by cases h⟩
      rw [(nodeExcess_bans _ pb now ip node).1] at h
      cases h
    | true =>
      simp only [Bool.not_true, Bool.false_eq_true, if_false]
      refine ⟨fun _ => trivial, fun hm _ => ?_⟩
      unfold Filter.finalTail
      simp only [hm]

/-- Exemption: a datagram from a socket address with an outstanding expected response skips both
filter stages — it is never dropped, and neither the filter nor the lists change. -/
theorem exempt_bypasses (f : Filter) (pb : PermitBan) (now : Nat) (ip : Ip) (d : Decoded) :
    (handleInbound f pb now true ip d).1 = f ∧ (handleInbound f pb now true ip d).2.1 = pb ∧
    (handleInbound f pb now true ip d).2.2 ≠ .dropped := by
  rw [handleInbound_permitted]
  refine ⟨rfl, rfl, ?_⟩
  cases d <;> simp

/-- Without exemption the receive path is exactly the two stages: dropped iff the IP stage refuses,
or the packet carries a source id and the node stage refuses. -/
theorem unsolicited_goes_through_both_stages (f : Filter) (pb : PermitBan) (now : Nat) (ip : Ip)
    (node : NodeId) :
    (handleInbound f pb now false ip (.src node)).2.2 = .inbound ↔
      ((f.initialPass pb now ip).2.2 = true ∧
        ((f.initialPass pb now ip).1.finalPass (f.initialPass pb now ip).2.1 now ip node).2.2 = true) := by
  unfold handleInbound
  simp only [Bool.false_eq_true, if_false]
  cases h1 : (f.initialPass pb now ip).2.2 with
  | false => simp
  | true =>
    simp only [Bool.not_true, Bool.false_eq_true, if_false, true_and]
    cases h2 : ((f.initialPass pb now ip).1.finalPass (f.initialPass pb now ip).2.1 now ip node).2.2 <;> simp

end Discv5.Filter

/-! ### Non-vacuity: concrete histories satisfying the hypotheses -/

namespace Discv5.Limiter

/-- The scenario of the crate's own test `it_works_a` (4 tokens per 2 s), times in ns, with its
prune call: the hypotheses hold and the model gives the verdicts the test asserts. -/
def exampleHistory : List (Ev Nat) :=
  [.arrive 0 10 4, .prune 100000000, .arrive 100000000 10 1, .arrive 500000000 10 1,
   .arrive 1000000000 10 1, .arrive 1400000000 10 1, .arrive 2000000000 10 2]

example : Timed 2000000000 500000000 0 exampleHistory := by
  simp [exampleHistory, Timed, U64]

example : (fromQuota 4 2000000000 : Option (Limiter Nat)).map (fun l => (l.tau, l.t))
    = some (2000000000, 500000000) := by decide

example : ((run (fresh 2000000000 500000000) exampleHistory).2).map Verdict.isOk
    = [true, false, true, true, false, true] := by decide

example : accepted 10 (fresh 2000000000 500000000) [] exampleHistory
    = [(2000000000, 2), (1000000000, 1), (500000000, 1), (0, 4)] := by decide

/-- A one-token history with interleaved prune calls and two keys. -/
def exampleUnit : List (Ev Nat) :=
  [.arrive 0 1 1, .arrive 0 1 1, .arrive 0 2 1, .arrive 1 1 1, .prune 5, .arrive 5 1 1,
   .arrive 30 1 1, .prune 31, .arrive 31 2 1]

example : Timed 10 5 0 exampleUnit ∧ UnitTokens exampleUnit := by
  simp [exampleUnit, Timed, UnitTokens, U64]

example : ((run (fresh 10 5) exampleUnit).2).map Verdict.isOk
    = [true, true, true, false, true, true, true] := by decide

/-- A conforming offered sequence (one arrival every `t`): the hypothesis of
`conforming_never_refused` is satisfiable. -/
example : ∀ v ∈ verdictsOf 7 (fresh 10 5) [.arrive 0 7 1, .arrive 5 7 1, Ev.prune 9, .arrive 10 7 1],
    v = .ok := by decide

example : ((run (fresh (κ := Nat) 60 30) [.arrive 0 7 1, .arrive 1 7 1, .arrive 2 7 1]).1.allows 61 7 1).2 = .ok ∧
    ((run (fresh (κ := Nat) 60 30) [.arrive 0 7 1, .arrive 1 7 1, .arrive 2 7 1]).2 = [.ok, .ok, .tooSoon 28]) := by
  decide

end Discv5.Limiter

namespace Discv5.Filter
open Discv5.Limiter

/-- A filter with an always-hit per-IP quota: the second datagram of an unlisted IP is an excess,
is dropped and bans the IP until `now + 5`; a permitted IP passes regardless. -/
def exampleFilter : Option Filter :=
  (RateLimiter.build (some (1000, 1000)) none (some (1, 1000000))).map fun rl =>
    Filter.new true (some rl) none none (some 5)

example : (exampleFilter.map fun f =>
    let r1 := f.initialPass PermitBan.empty 10 3
    let r2 := r1.1.initialPass r1.2.1 20 3
    (r1.2.2, r2.2.2, r2.2.1.banIps 3, r2.2.1.banIps 4)) = some (true, false, some (some 25), none) := by
  decide

example : BannedUntil (banInsert PermitBan.empty.banIps 3 (some 25)) 3 (20 + 5) :=
  ⟨some 25, by simp [banInsert], fun x hx => by injection hx with hx; omega⟩

end Discv5.Filter
