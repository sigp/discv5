/-
C04 (extension) — "A request is put on the wire at most 1+retries times per session key."

Model reading.  A `Call` (`RequestCall`) carries its current packet `pkt` and the counter
`retries`: 1 when the call is made, +1 for every retransmission by `handleRequestTimeout`, and the
call is failed instead of retransmitted once `retries ≥ request_retries` (so `request_retries` is
the "1+retries" of the property text; `retries_bounded` in `Props/C04.lean`).  The request is
encrypted anew — a *different* packet, with a fresh nonce — only when the session keys change:
`handleChallenge` (handshake packet under the keys derived from the WHOAREYOU) and
`replayActiveRequests` (re-encryption under the keys of a new session).  "Per session key" is
therefore "per packet".

Proved for every history, every configuration and every naming of the events
(`outputs c evs` is the complete output log, `sendCount p os` the number of `send` outputs in `os`
whose packet is exactly `p`; invariant in `Proofs/HandlerTransmissions.lean`, walk in
`Proofs/HandlerTimeout.lean`).
-/
import Discv5Model.Proofs.HandlerTimeout

namespace Discv5.H
open RQ TX

/-- For every active request: its current packet has been put on the wire at most `retries`
times (the retry counter of that call) — over the whole history. -/
theorem transmissions_le_retries (c : Cfg) (evs : List Ev) :
    ∀ call ∈ (run c evs).active, sendCount call.pkt (outputs c evs) ≤ call.retries := by
  intro call hc
  have := ((TJ.run_TI c evs).calls call hc).2.2
  rwa [List.append_nil] at this

/-- … hence at most `request_retries` times. -/
theorem transmissions_bounded (c : Cfg) (evs : List Ev) (hr : 1 ≤ c.requestRetries) :
    ∀ call ∈ (run c evs).active, sendCount call.pkt (outputs c evs) ≤ c.requestRetries :=
  fun call hc => Nat.le_trans (transmissions_le_retries c evs call hc) (active_retries_le c evs hr call hc)

/-- The same for requests that are no longer active (answered, failed) and for packets that were
replaced by a handshake packet or a re-encryption: no message or handshake packet at all is ever
put on the wire more than `request_retries` times (once, if `request_retries` is 0). -/
theorem packet_transmissions_bounded (c : Cfg) (evs : List Ev) (p : Pkt) (hp : NotWru p) :
    sendCount p (outputs c evs) ≤ max 1 c.requestRetries := by
  have := (TJ.run_TI c evs).total p hp
  rwa [List.append_nil] at this

/-- Different active requests carry different packets (different nonces): a transmission counted
for one call is never a transmission of another call's packet. -/
theorem active_packets_distinct (c : Cfg) (evs : List Ev) :
    (run c evs).active.Pairwise (fun a b => a.pkt.nonce ≠ b.pkt.nonce) :=
  (TJ.run_TI c evs).nodup

/-- Every message / handshake packet this node ever sent carries one of its own fresh nonce names
drawn so far — which is why a newly made packet (new name) has never been sent before. -/
theorem sent_packets_carry_drawn_nonces (c : Cfg) (evs : List Ev) (na : NA) (p : Pkt)
    (hs : Out.send na p ∈ outputs c evs) (hp : NotWru p) :
    ∃ j, j ≤ (run c evs).fresh.nonce ∧ p.nonce = mkName c j :=
  (TJ.run_TI c evs).log na p (by rw [List.append_nil]; exact hs) hp

/-- The packet of an active request is a message / handshake packet with a drawn nonce name, and
its retry counter is at least 1. -/
theorem active_packet_named (c : Cfg) (evs : List Ev) :
    ∀ call ∈ (run c evs).active, NotWru call.pkt ∧ 1 ≤ call.retries ∧
      ∃ j, j ≤ (run c evs).fresh.nonce ∧ call.pkt.nonce = mkName c j :=
  fun call hc => let ⟨h1, h2, _⟩ := (TJ.run_TI c evs).calls call hc; ⟨h1.1, h2, h1.2⟩

/-! ### Non-vacuity -/

/-- Three transmissions per packet, 10 ms apart. -/
private def txCfg : Cfg where
  localId := 1
  localSeq := 1
  localRec := { id := 1, seq := 1, udp4 := some 100, udp6 := none }
  requestRetries := 3
  requestTimeout := 10
  sessionTtl := 1000
  sessionCap := 8
  listen := [⟨false, 100⟩]
  findnode0 := 0

private def txPeer : NA := { id := 2, addr := ⟨false, 7⟩ }
private def txContact : Contact :=
  { na := txPeer, record := some { id := 2, seq := 1, udp4 := some 7, udp6 := none } }

/-- The request is sent and retransmitted twice: the bound is attained (3 = `retries` = limit). -/
example : (run txCfg [.appRequest txContact 7 5, .adv 10, .adv 10]).active.map
    (fun call => (call.retries, sendCount call.pkt (outputs txCfg [.appRequest txContact 7 5, .adv 10, .adv 10])))
    = [(3, 3)] := by decide +kernel

/-- After one retransmission the peer challenges: the call now carries the handshake packet (new
nonce), sent once, while its retry counter stays 2 — the inequality can be strict. -/
example : (run txCfg [.appRequest txContact 7 5, .adv 10, .dgram txPeer.addr (.whoareyou 1000001 500 0)]).active.map
    (fun call => (call.pkt.nonce, call.retries, sendCount call.pkt
      (outputs txCfg [.appRequest txContact 7 5, .adv 10, .dgram txPeer.addr (.whoareyou 1000001 500 0)])))
    = [(1000002, 2, 1)] := by decide +kernel

/-- The replaced packet (the first, random one) stays at its two transmissions for ever after. -/
example : sendCount (.message 1 1000001 .garbage)
    (outputs txCfg [.appRequest txContact 7 5, .adv 10, .dgram txPeer.addr (.whoareyou 1000001 500 0),
      .adv 10, .adv 10, .adv 10]) = 2 := by decide +kernel

end Discv5.H
