/-
C12 — Routing-table admission and update policy.

Statements about the service steps of `Model/Service.lean` on the routing-table model.
The last conjunct of the property ("in single-stack operation an incoming session admits a node
only if the UDP address in its record equals the address its packets came from") is enforced by
the *handler* (`verify_enr` before `HandlerOut::Established`), not by the service: the service
part modelled here is that a session admits a record only if it is contactable in the IP mode and
passes the table filter.

Proof structure (`Proofs/ServiceVals.lean`, `Proofs/ServicePolicy.lean`): every table operation
preserves any predicate `P key value` on the stored and pending nodes provided `P` holds of the
(key, value) it is asked to file (`TVals`); every function of the service is a `Step` (keeps
configuration, local key, `TInv`, `TVals P`) provided `P` holds of the record an admitting input
carries and is closed under updates by a newer admissible record of the same id.  The theorems
below are instances of `step_step` for suitable `P`.
-/
import Discv5Model.Model.Service
import Discv5Model.Model.KBucketSpec
import Discv5Model.Proofs.ServicePolicy

namespace Discv5.Props.C12
open Discv5.KB Discv5.Svc

/-- What the policy demands of a value filed under `key`. -/
def RecOk (m : IpMode) (localId key : Nat) (r : Rec) : Prop :=
  contactable m r = true ∧ r.passesFilter = true ∧ r.id = key ∧ key ≠ localId

/-- Every stored and every pending value is contactable in the node's IP mode, passes the
configured table filter, is filed under its own node id, and is not the local node.  Unfolds to
`TVals (RecOk s.cfg.ipMode s.localRec.id) s.table`, the form the proofs work with. -/
def TablePolicy (s : Svc) : Prop :=
  ∀ b ∈ s.table.buckets,
    (∀ n ∈ b.nodes, RecOk s.cfg.ipMode s.localRec.id n.key n.value) ∧
    (∀ p, b.pending = some p → RecOk s.cfg.ipMode s.localRec.id p.node.key p.node.value)

/-- The vote sub-step re-signs the *local* record: it keeps its node id.  Unfolds to
`OSane s.localRec.id o`, the hypothesis of `Step.localId`. -/
def OracleSane (s : Svc) (o : Oracle) : Prop :=
  ∀ r a, o.newLocal = some (r, a) → r.id = s.localRec.id

/-- The structural part the policy rests on (C07) and the tie between table and local record. -/
def Wf (s : Svc) : Prop :=
  TInv s.cfg.kb s.table ∧ s.table.localKey = s.localRec.id

/-- The policy is an invariant of every service step (handler events,
user API calls, query-pool emissions), for every oracle outcome of the vote sub-step. -/
theorem table_policy_inv (s : Svc) (o : Oracle) (i : Svc.Input) (hw : Wf s) (ho : OracleSane s o)
    (h : TablePolicy s) : TablePolicy (s.step o i).1 := by
  have hs : Step (RecOk s.cfg.ipMode s.localRec.id) o s (s.step o i).1 :=
    step_step s i
      (fun r _ hc hf hne => ⟨hc, hf, rfl, by rw [← hw.2]; exact hne⟩)
      (fun k v r hv hid _ hc hf => ⟨hc, hf, hid, hv.2.2.2⟩)
  have hv := hs.vals h
  intro b hb
  rw [hs.cfg, hs.localId ho]
  exact hv b hb

/-- A `Step` keeps `Wf`. -/
theorem _root_.Discv5.Svc.Step.wf {P : Nat → Rec → Prop} {o : Oracle} {s s' : Svc}
    (hs : Step P o s s') (ho : OracleSane s o) (hw : Wf s) : Wf s' :=
  ⟨by rw [hs.cfg]; exact hs.tinv hw.1, by rw [hs.localKey, hs.localId ho]; exact hw.2⟩

/-- `Wf` is preserved as well (so the invariant can be iterated along any run). -/
theorem wf_step (s : Svc) (o : Oracle) (i : Svc.Input) (hw : Wf s) (ho : OracleSane s o) :
    Wf (s.step o i).1 :=
  (step_step (P := fun _ _ => True) s i (fun _ _ _ _ _ => trivial)
    (fun _ _ _ _ _ _ _ _ => trivial)).wf ho hw

/-- The freshly started service satisfies the invariant. -/
theorem table_policy_init (cfg : Svc.Cfg) (r : Rec) : TablePolicy (Svc.init cfg r) := by
  intro b hb
  have hb' : b = {} := by
    simp only [Svc.init, Table.init] at hb
    exact List.eq_of_mem_replicate hb
  subst hb'
  refine ⟨?_, ?_⟩
  · intro n hn
    simp at hn
  · intro p hp
    simp at hp

/-- A step keeps the node id of the local record (the vote sub-step only re-signs it). -/
theorem step_local_id (s : Svc) (o : Oracle) (i : Svc.Input) (ho : OracleSane s o) :
    (s.step o i).1.localRec.id = s.localRec.id :=
  (step_step (P := fun _ _ => True) s i (fun _ _ _ _ _ => trivial)
    (fun _ _ _ _ _ _ _ _ => trivial)).localId ho

/-- Along every run (any sequence of inputs and oracle outcomes that re-sign
the local record under its own id) from a state satisfying the policy, the policy holds; in
particular along every run of a freshly started service. -/
theorem table_policy_run (l : List (Oracle × Svc.Input)) (s : Svc) (hw : Wf s)
    (ho : ∀ p ∈ l, OracleSane s p.1) (h : TablePolicy s) :
    Wf (s.run l).1 ∧ TablePolicy (s.run l).1 := by
  have hI := run_inv (l := l)
    (I := fun s' => s'.localRec.id = s.localRec.id ∧ Wf s' ∧ TablePolicy s')
    (fun s' x hx ⟨hid, hw', h'⟩ =>
      have ho' : OracleSane s' x.1 := fun r a hr => (ho x hx r a hr).trans hid.symm
      ⟨(step_local_id s' x.1 x.2 ho').trans hid, wf_step s' x.1 x.2 hw' ho',
        table_policy_inv s' x.1 x.2 hw' ho' h'⟩)
    ⟨rfl, hw, h⟩
  exact hI.2

theorem table_policy_from_init (cfg : Svc.Cfg) (r : Rec) (l : List (Oracle × Svc.Input))
    (ho : ∀ p ∈ l, ∀ r' a, p.1.newLocal = some (r', a) → r'.id = r.id) :
    TablePolicy ((Svc.init cfg r).run l).1 :=
  (table_policy_run l (Svc.init cfg r) ⟨init_tinv _ _, rfl⟩ ho (table_policy_init cfg r)).2

/-- Inputs that may enlarge the key set of the table: an established session or an explicit add. -/
def admits : Svc.Input → Bool
  | .established .. => true
  | .addEnr _ => true
  | _ => false

/-- The node id an admitting input is about. -/
def admittedId : Svc.Input → Option Nat
  | .established r _ _ => some r.id
  | .addEnr r => some r.id
  | _ => none

/-- `admittedId` / `admits` describe the record `admRec` (used in the proofs) picks. -/
theorem admRec_spec {i : Svc.Input} {r : Rec} (h : admRec i = some r) :
    admits i = true ∧ admittedId i = some r.id := by
  cases i <;> simp only [admRec, Option.some.injEq] at h <;>
    first | (subst h; exact ⟨rfl, rfl⟩) | cases h

theorem admRec_none {i : Svc.Input} (h : admits i = false) : admRec i = none := by
  cases i <;> first | rfl | cases h

/-- A step makes a node id a (stored or pending) table
entry only if it is an established session or an explicit add — and then only the id of that
record; never merely because a record appeared in a NODES response. -/
theorem admission_only_by_session_or_add (s : Svc) (o : Oracle) (i : Svc.Input) (hw : Wf s) (k : Nat)
    (hnew : k ∈ (s.step o i).1.table.allKeys) (hold : k ∉ s.table.allKeys) :
    admits i = true ∧ admittedId i = some k := by
  obtain ⟨r, hr, hid, _, _⟩ := step_new_key s o i k hnew hold
  have := admRec_spec hr
  rw [hid] at this
  exact this

/-- A session (or add) admits a record only if it is contactable in the IP mode and passes the
table filter. -/
theorem admission_needs_policy (s : Svc) (o : Oracle) (i : Svc.Input) (hw : Wf s) (k : Nat)
    (hnew : k ∈ (s.step o i).1.table.allKeys) (hold : k ∉ s.table.allKeys) :
    ∃ r, (admittedId i = some r.id ∧ r.id = k) ∧ contactable s.cfg.ipMode r = true ∧ r.passesFilter = true := by
  obtain ⟨r, hr, hid, hc, hf⟩ := step_new_key s o i k hnew hold
  exact ⟨r, ⟨(admRec_spec hr).2, hid⟩, hc, hf⟩

/-- The value stored (or pending) under a key; `lookupVal` of `Proofs/ServicePolicy.lean` under the
name the statements use (`valueOf_eq`). -/
def valueOf (t : Table Rec) (key : Nat) : Option Rec :=
  match lookup t key with
  | .present v _ => some v
  | .pending v _ => some v
  | _ => none

theorem valueOf_eq (t : Table Rec) (key : Nat) : valueOf t key = lookupVal t key := rfl

/-- In a step that is not an established session / explicit add (i.e.
everything learnt from the network: NODES responses, failures with partial results, PING/PONG, …)
a stored value changes only to a record for the same id with a strictly higher sequence number
that is contactable and passes the filter; otherwise it stays or the entry disappears. -/
theorem network_update_rule (s : Svc) (o : Oracle) (i : Svc.Input) (hw : Wf s) (hnet : admits i = false)
    (k : Nat) (v v' : Rec) (h1 : valueOf s.table k = some v)
    (h2 : valueOf (s.step o i).1.table k = some v') :
    v' = v ∨ (v'.id = k ∧ v.seq < v'.seq ∧ contactable s.cfg.ipMode v' = true ∧ v'.passesFilter = true) := by
  rw [valueOf_eq] at h1 h2
  exact step_update s o i hw.1 (admRec_none hnet) k v v' h1 h2

/-- The update rule of `network_update_rule` on the `discovered` loop itself, for one record: the
value stays or becomes that very record. -/
theorem discovered_one_rule (s : Svc) (source : Nat) (r : Rec) (hw : Wf s) (k : Nat) (v v' : Rec)
    (h1 : valueOf s.table k = some v) (h2 : valueOf (s.discoveredOne source r).1.table k = some v') :
    v' = v ∨ (v' = r ∧ r.id = k ∧ v.seq < r.seq ∧ contactable s.cfg.ipMode r = true ∧ r.passesFilter = true) := by
  rw [valueOf_eq] at h1 h2
  exact discoveredOne_update s source r hw.1 k v v' h1 h2

/-- Non-vacuity: a contactable record in IPv4 mode; a mapped IPv6 address is not contactable. -/
def recV4 : Rec :=
  { id := 1, seq := 1, udp4 := some 655369000, udp6 := none, udp6Mapped := false, size := 134, passesFilter := true }

def recMapped : Rec :=
  { id := 1, seq := 1, udp4 := none, udp6 := some 7, udp6Mapped := true, size := 134, passesFilter := true }

example : contactable .ip4 recV4 = true := by decide

example : contactable .dual recMapped = false := by decide

/-! ### Non-vacuity on a concrete run

Local node 0 in IPv4 mode; a session with node 1 (`recV4`) is established (outgoing), node 1 then
PINGs with ENR sequence number 5, which makes the service request its record (FINDNODE [0],
request id 2); the NODES response carries a record for node 1. -/

def exCfg : Svc.Cfg := { ipMode := .ip4, maxNodesResponse := 16, kb := kbCfg 8 60 }

def exLocal : Rec :=
  { id := 0, seq := 1, udp4 := some 65537, udp6 := none, udp6Mapped := false, size := 120, passesFilter := true }

def exAddr : Addr := { v6 := false, sock := 655369000 }

def ex0 : Svc := Svc.init exCfg exLocal

/-- after `established` -/
def ex1 : Svc := (ex0.step {} (.established recV4 exAddr false)).1

/-- after the PING (the ENR request 2 is now active) -/
def ex2 : Svc := (ex1.step {} (.request 1 exAddr [1] (.ping 5))).1

/-- same sequence number, different content -/
def recSame : Rec := { recV4 with sig := 7 }

/-- higher sequence number -/
def recNew : Rec := { recV4 with seq := 2, sig := 9 }

/-- higher sequence number, but no IPv4 socket: not contactable in IPv4 mode -/
def recNewBad : Rec := { recV4 with seq := 3, udp4 := none }

def exResp (r : Rec) : Svc := (ex2.step {} (.response 1 exAddr 2 (.nodes 1 [r]))).1

/-- The hypotheses `Wf`, `OracleSane`, `TablePolicy` hold of the initial state and hence (by the
theorems) along the whole run. -/
example : Wf ex0 ∧ OracleSane ex0 {} ∧ TablePolicy ex0 :=
  ⟨⟨init_tinv _ _, rfl⟩, (fun _ _ h => by cases h), table_policy_init _ _⟩

theorem ex1_wf : Wf ex1 :=
  wf_step ex0 {} _ ⟨init_tinv _ _, rfl⟩ (fun _ _ h => by cases h)

/-- An `established` step inserts: the table of `ex1` has exactly one entry, node 1 with `recV4`,
and the policy holds of it (a state with one stored node satisfying all hypotheses). -/
example : ex0.table.allKeys = [] ∧ ex1.table.allKeys = [1] ∧ valueOf ex1.table 1 = some recV4 := by
  decide +kernel

example : Wf ex1 ∧ TablePolicy ex1 :=
  ⟨ex1_wf, table_policy_inv ex0 {} _ ⟨init_tinv _ _, rfl⟩ (fun _ _ h => by cases h)
    (table_policy_init _ _)⟩

/-- The hypotheses of `admission_only_by_session_or_add` are satisfiable (and its conclusion is what
happened). -/
example : 1 ∈ (ex0.step {} (.established recV4 exAddr false)).1.table.allKeys ∧
    1 ∉ ex0.table.allKeys ∧ admits (.established recV4 exAddr false) = true ∧
    admittedId (.established recV4 exAddr false) = some 1 := by
  decide +kernel

/-- A NODES response (a network input: `admits = false`) with a record of equal sequence number
does not change the stored value; one with a higher sequence number replaces it; one with a higher
sequence number that is not contactable removes the entry. -/
example : admits (.response 1 exAddr 2 (.nodes 1 [recSame])) = false ∧
    valueOf ex2.table 1 = some recV4 ∧
    valueOf (exResp recSame).table 1 = some recV4 ∧
    valueOf (exResp recNew).table 1 = some recNew ∧ recV4.seq < recNew.seq ∧
    valueOf (exResp recNewBad).table 1 = none ∧ (exResp recNewBad).table.allKeys = [] := by
  decide +kernel

/-- The loop body (`discovered_one_rule`) on the same records: equal sequence number keeps the
value, a higher one replaces it. -/
example : valueOf (ex1.discoveredOne 1 recSame).1.table 1 = some recV4 ∧
    valueOf (ex1.discoveredOne 1 recNew).1.table 1 = some recNew := by
  decide +kernel

end Discv5.Props.C12
