/-
C10 at the level of the service: what the caller of `find_node` / `find_node_predicate` receives.

`Model/Lookup.lean` turns the ids of `into_result()` into records (untrusted records of the lookup
first, then the routing table).  The ids of the records handed over are, in order, ids of
`into_result()` of a state the lookup reached (`result_ids`), so the order and soundness clauses of
`Props/C10.lean` carry over to what the caller receives.
Hypothesis `Keyed`: every record of the routing table is filed under its own node id - part of the
table policy of C12, which holds along every run (`lookups_keep_table_policy`).
-/
import Discv5Model.Proofs.LookupResult
import Discv5Model.Props.C09Service
import Discv5Model.Props.C10

namespace Discv5.Props.C10Service

open Discv5.KB
open Discv5.Svc
open Discv5.Svc.Svc
open Discv5.Lookup
open Discv5.Props.C09Service (LInv)

/-- The target of the lookup a step is about: the running one, or the one the step starts. -/
def stepTarget (k : LSvc) : LInput → Option Nat
  | .svc _ _ => k.q.map (·.target)
  | .lookup t _ => some t

/-- The service state a step's lookup activity starts from. -/
def stepBase (k : LSvc) : LInput → Svc
  | .svc o inp => (k.svc.step o inp).1
  | .lookup t _ => k.svc.startQuery t

/-- **The ids of a handed-over result are ids of `into_result()`**, in the same order (ids for which
no record is found are left out), of a state the lookup reached from its constructor, with the
lookup's target. -/
theorem result_ids (c : LCfg) (now : Nat) (k : LSvc) (i : LInput) (found : List Rec)
    (hinv : LInv c k) (hk : Keyed (stepBase k i))
    (h : (k.step c now i).2.2 = some found) (hne : found ≠ []) :
    ∃ q' t, stepTarget k i = some t ∧ IsHistory c q' ∧ q'.target = t ∧
      (found.map (·.id)).Sublist (Query.intoResult q') := by
  rcases step_result c now k i found h with ⟨_, rfl, _⟩ | ⟨s0, q0, hH, _, hp⟩
  · exact absurd rfl hne
  · -- the lookup handed to the service loop is a history, with the target the step is about
    obtain ⟨t, ht, hs, hq0, hqt⟩ : ∃ t, stepTarget k i = some t ∧ s0 = stepBase k i ∧ IsHistory c q0 ∧
        q0.target = t := by
      cases hH with
      | running _ _ hkq => exact ⟨_, by simp [stepTarget, hkq], rfl, hinv _ hkq, rfl⟩
      | effect _ _ e hkq =>
        exact ⟨_, by simp [stepTarget, hkq], rfl, (hinv _ hkq).applyEffect e, (applyEffect_const c _ e).2.2⟩
      | start target n _ _ =>
        refine ⟨target, rfl, rfl, ?_, by cases n <;> rfl⟩
        cases n with
        | none => exact IsHistory.init c .closest _ _ _
        | some m => exact IsHistory.init c .predicate _ _ _
    obtain ⟨q', h1, h2, _, h4⟩ := pumpLoop_result_ids c now _ s0 q0 [] found hq0 (hs ▸ hk) hp
    exact ⟨q', t, ht, h1, h2.trans hqt, h4⟩

/-- **Increasing distance.**  The records a lookup hands over come in strictly increasing XOR
distance to its target (so no node occurs twice). -/
theorem result_in_increasing_distance (c : LCfg) (now : Nat) (k : LSvc) (i : LInput) (found : List Rec)
    (hinv : LInv c k) (hk : Keyed (stepBase k i))
    (h : (k.step c now i).2.2 = some found) (hne : found ≠ []) :
    ∃ t, stepTarget k i = some t ∧
      (found.map (·.id)).Pairwise (fun a b => a ^^^ t < b ^^^ t) := by
  obtain ⟨q', t, ht, hq', hqt, hsub⟩ := result_ids c now k i found hinv hk h hne
  refine ⟨t, ht, ?_⟩
  obtain ⟨v, n, target, known, evs, rfl⟩ := hq'
  have hs := (Query.result_sorted_distinct v (qcfg c n) target known evs).1
  have hc := (Query.runQ_init_const v (qcfg c n) target known evs).2.2
  rw [hc] at hqt
  rw [← hqt]
  exact List.Pairwise.sublist hsub hs

/-- **Soundness.**  Every node of a handed-over result was selected by the lookup (`next` handed it
out) and answered afterwards (`on_success` was called for it), in the history of calls the lookup's
final state is the end of. -/
theorem result_nodes_answered (c : LCfg) (now : Nat) (k : LSvc) (i : LInput) (found : List Rec)
    (hinv : LInv c k) (hk : Keyed (stepBase k i))
    (h : (k.step c now i).2.2 = some found) (hne : found ≠ []) (r : Rec) (hr : r ∈ found) :
    ∃ v n target known evs pre tnow mid closer post,
      evs = pre ++ .next tnow :: (mid ++ .success r.id closer :: post) ∧
      (Query.next (Query.runQ (Query.withConfig v (qcfg c n) target known) pre) tnow).2 = .waiting (some r.id) := by
  obtain ⟨q', t, _, hq', _, hsub⟩ := result_ids c now k i found hinv hk h hne
  obtain ⟨v, n, target, known, evs, rfl⟩ := hq'
  have hmem : r.id ∈ Query.intoResult (Query.runQ (Query.withConfig v (qcfg c n) target known) evs) :=
    hsub.subset (List.mem_map_of_mem hr)
  obtain ⟨pre, tnow, mid, closer, post, h1, h2⟩ := Query.result_sound v (qcfg c n) target known evs r.id hmem
  exact ⟨v, n, target, known, evs, pre, tnow, mid, closer, post, h1, h2⟩

end Discv5.Props.C10Service
