/- C13 — Filter exemptions track outstanding exchanges exactly (handler model). -/
import Discv5Model.Model.HandlerSpec
import Discv5Model.Proofs.HandlerExempt
namespace Discv5.H

/-
`ExemptAcc` alone is not preserved by every step from every state: it does not exclude two challenges
for one node address, and `HashMapDelay::remove` / the expiry of a challenge drops all entries of
that key while one exemption is released (`C13Ex.step_exemptAcc_needs_unique_challenges`).  Such
states are unreachable (`send_challenge` refuses a second challenge for a node address,
`handle_auth_message` re-inserts only after the removal), so the one-step theorems carry the
uniqueness of challenges as a hypothesis and re-establish it; the all-histories theorems
`exemption_accounting` and `drained` need no hypothesis.
-/

/-- Every step preserves the accounting invariant, from every state in which no node address has
two challenges. -/
theorem step_exemptAcc_partial (c : Cfg) (s : HState) (e : Ev) (h : ExemptAcc s)
    (hc : (s.challenges.map (·.1)).Nodup) : ExemptAcc (step c s e).1 :=
  (good_step c s e ⟨h, hc⟩).1

/-- … and the extra hypothesis is itself preserved by every step. -/
theorem step_challengesNodup (c : Cfg) (s : HState) (e : Ev) (h : ExemptAcc s)
    (hc : (s.challenges.map (·.1)).Nodup) : ((step c s e).1.challenges.map (·.1)).Nodup :=
  (good_step c s e ⟨h, hc⟩).2

/-- For every event history and every address: the number of exemptions equals the number of
outstanding items (active requests + active challenges) towards it; no zero entries. -/
theorem exemption_accounting (c : Cfg) (evs : List Ev) : ExemptAcc (run c evs) :=
  (good_run c evs).1

/-- When every request completed or failed and every challenge was answered or expired, no
exemption remains — whatever the remote side sent. -/
theorem drained (c : Cfg) (evs : List Ev) (h1 : (run c evs).active = [])
    (h2 : (run c evs).challenges = []) : (run c evs).exempt = [] := by
  have hacc := exemption_accounting c evs
  cases hex : (run c evs).exempt with
  | nil => rfl
  | cons p t =>
    exfalso
    have hcount := hacc.count p.1
    have hz := hacc.noZero p (by rw [hex]; exact List.mem_cons_self ..)
    have hout : outstanding (run c evs) p.1 = 0 := by
      unfold outstanding; rw [h1, h2]; rfl
    have hcnt : exemptCount (run c evs) p.1 = p.2 := by
      unfold exemptCount; rw [hex]; simp
    rw [hout, hcnt] at hcount
    exact hz hcount

/-! ### non-vacuity / counterexample -/

namespace C13Ex

def addr1 : Addr := { v6 := false, n := 1 }
def na7 : NA := { id := 7, addr := addr1 }
def na8 : NA := { id := 8, addr := addr1 }
def cfg : Cfg :=
  { localId := 1, localSeq := 1, localRec := default, requestRetries := 1, requestTimeout := 10,
    sessionTtl := 100, sessionCap := 10, listen := [], findnode0 := 0 }
def ct7 : Contact := { na := na7, record := some { id := 7, seq := 1, udp4 := some 1, udp6 := none } }

/-- A request to node 7, a WHOAREYOU challenge sent to node 8 (same address), and node 7's
WHOAREYOU answer to the request (the request stays active, now as a handshake). -/
def hist : List Ev :=
  [.appRequest ct7 5 0, .appWru na8 99 none, .dgram addr1 (.whoareyou 1000001 55 0)]

/-- The history leaves a non-empty exemption map: two exemptions for the one address, matching one
active request plus one active challenge — and it satisfies `ExemptAcc`. -/
example : (run cfg hist).exempt = [(addr1, 2)] ∧ (run cfg hist).active.length = 1 ∧
    (run cfg hist).challenges.length = 1 ∧ outstanding (run cfg hist) addr1 = 2 ∧
    ExemptAcc (run cfg hist) := by
  refine ⟨by decide +kernel, by decide +kernel, by decide +kernel, by decide +kernel,
    exemption_accounting _ _⟩

/-- `drained` is not vacuous: after the timers ran out, the same history has no active request and
no challenge left, and the exemption map (non-empty before) is empty. -/
example : (run cfg (hist ++ [.adv 100])).active = [] ∧ (run cfg (hist ++ [.adv 100])).challenges = [] ∧
    (run cfg (hist ++ [.adv 100])).exempt = [] := by
  have h1 : (run cfg (hist ++ [.adv 100])).active = [] := by decide +kernel
  have h2 : (run cfg (hist ++ [.adv 100])).challenges = [] := by decide +kernel
  exact ⟨h1, h2, drained _ _ h1 h2⟩

/-- An (unreachable) state with two challenges for the same node address. -/
def dupState : HState :=
  { challenges := [(na7, { cd := 0, remoteRec := none }, 0, 0), (na7, { cd := 0, remoteRec := none }, 0, 1)],
    exempt := [(addr1, 2)] }

/-- The one-step statement fails without the uniqueness of challenges per node address:
`dupState` satisfies `ExemptAcc`, but when its challenge timer fires both challenges disappear
while a single exemption is released. -/
theorem step_exemptAcc_needs_unique_challenges :
    ¬ (∀ (c : Cfg) (s : HState) (e : Ev), ExemptAcc s → ExemptAcc (step c s e).1) := by
  intro h
  have hs : ExemptAcc dupState := by
    refine ⟨fun a => ?_, by decide, by decide⟩
    by_cases ha : a = addr1
    · subst ha; decide
    · have ha' : ¬ addr1 = a := fun e => ha e.symm
      simp [exemptCount, outstanding, dupState, na7, ha']
  have := (h cfg dupState (.adv 1) hs).count addr1
  revert this
  decide

end C13Ex

end Discv5.H
