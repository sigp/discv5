/-
C16 — IP-diversity limits of the routing table.
The limits 2 and 10 are the literals of the property statement; the model uses the regenerated
constants.
-/
import Discv5Model.Proofs.IpFilterLemmas

namespace Discv5.KB

/-- The filter refuses exactly when `limit` other records (not identical to the candidate) share
its /24 (for `limit ≥ 1`). -/
theorem ipFilter_spec (limit : Nat) (hl : 1 ≤ limit) (v : Val) (s : Nat) (hs : v.subnet = some s)
    (others : List Val) :
    ipFilter limit v others = decide (subnetCount s (others.filter (· ≠ v)) < limit) := by
  unfold ipFilter
  rw [hs]
  simp only []
  rw [Ip.ipCountLoop_spec limit v s others 0 hl, Nat.zero_add]

/-- Nodes without an IPv4 address are never refused by the IP filters. -/
theorem no_ip4_never_refused (limit : Nat) (v : Val) (hs : v.subnet = none) (others : List Val) :
    ipFilter limit v others = true := by
  unfold ipFilter
  rw [hs]

/-- With IP limiting enabled every table operation preserves: at most 2 nodes of one /24 per
bucket and at most 10 per table, pending nodes included — for every `now` (pending timeouts
elapsing at any point), provided records are filed under their own node id. -/
theorem step_ipInv (keyOf : Val → Nat) (mi pt : Nat) (t : Table Val) (op : Op Val)
    (hT : TInv (ipCfg mi pt) t) (hI : IpInv t) (hK : ValuesMatchKeys keyOf t)
    (hop : op.Respects keyOf) :
    IpInv (t.step (ipCfg mi pt) op) ∧ ValuesMatchKeys keyOf (t.step (ipCfg mi pt) op) :=
  (Ip.step_keeps_ip_invariants rfl rfl hop ⟨hT, hI, hK⟩).2

/-- At no time does a bucket hold more than 2, or the table more than 10, nodes of one /24. -/
theorem reachable_ipInv (keyOf : Val → Nat) (mi pt localKey : Nat) (ops : List (Op Val))
    (hops : ∀ op ∈ ops, op.Respects keyOf) :
    IpInv (ops.foldl (Table.step (ipCfg mi pt)) (Table.init localKey)) :=
  Ip.foldl_step_ipInv keyOf mi pt ops _ hops (init_tinv _ localKey) (Ip.init_ipInv localKey)
    (Ip.init_vmk keyOf localKey)

/-- The bucket filter does refuse: a third record of subnet 7 is rejected, … -/
example : ipBucketFilter ⟨3, some 7⟩ [⟨1, some 7⟩, ⟨2, some 7⟩] = false := by decide
/-- … a record identical to a stored one is not counted against itself, … -/
example : ipBucketFilter ⟨1, some 7⟩ [⟨1, some 7⟩, ⟨2, some 7⟩] = true := by decide
/-- … and a record without IPv4 address passes. -/
example : ipBucketFilter ⟨3, none⟩ [⟨1, some 7⟩, ⟨2, some 7⟩] = true := by decide

/-- `Bucket.insert` with the IP configuration reports the refusal. -/
example : (({ nodes := [⟨4, ⟨4, some 7⟩, ⟨true, false⟩, 0⟩, ⟨5, ⟨5, some 7⟩, ⟨true, false⟩, 0⟩],
              fcp := some 0 } : Bucket Val).insert (ipCfg 8 60) 0
            ⟨6, ⟨6, some 7⟩, ⟨true, false⟩, 0⟩).2 = .failedFilter := by decide

/-- The hypothesis of `reachable_ipInv` is satisfiable by a non-trivial history (`keyOf := id`). -/
example : ∀ op ∈ ([.insertOrUpdate 0 4 ⟨4, some 7⟩ ⟨true, false⟩,
      .insertOrUpdate 1 5 ⟨5, some 7⟩ ⟨true, false⟩, .insertOrUpdate 2 6 ⟨6, some 7⟩ ⟨true, false⟩,
      .insertOrUpdate 3 7 ⟨7, some 8⟩ ⟨false, false⟩] : List (Op Val)), op.Respects (·.id) := by
  intro op h
  simp only [List.mem_cons, List.not_mem_nil, or_false] at h
  rcases h with rfl | rfl | rfl | rfl <;> rfl

/-- On that history the table really refuses the third node of subnet 7 in bucket 2 (keys 4–7)
and keeps the others. -/
example : (((([.insertOrUpdate 0 4 ⟨4, some 7⟩ ⟨true, false⟩,
      .insertOrUpdate 1 5 ⟨5, some 7⟩ ⟨true, false⟩, .insertOrUpdate 2 6 ⟨6, some 7⟩ ⟨true, false⟩,
      .insertOrUpdate 3 7 ⟨7, some 8⟩ ⟨false, false⟩] : List (Op Val)).foldl
        (Table.step (ipCfg 8 60)) (Table.init 0)).bucket 2).nodes.map (·.key)) = [7, 4, 5] := by
  decide +kernel

end Discv5.KB
