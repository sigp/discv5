/-
C17 — External address is updated only by a clear majority.
The property theorems (helper lemmas live in `Proofs/IpVoteLemmas.lean`).

Model: `Model/IpVote.lean` (`IpVote::{new, insert, majority}` with vote expiry and the single pass
over the hash map; `handle_ip_vote_from_pong` / `require_more_ip_votes` and the record update as
`pongStep`).  All theorems about `majority` / `pongStep` hold for EVERY hash-map visiting order
(`IsShuffle`: any permutation, chosen anew at every call), every clock reading, every minimum, and
are stated for an arbitrary threshold function `thr : Nat → Nat` with exactly the hypothesis they
need (`∀ n, thr n ≤ n` for completeness / order-independence, nothing for the safety direction);
`thrF64`, the bit-exact integer mirror of the binary64 expression
`((max_count as f64) * (1.0 - 0.3)).round() as usize`, satisfies it (`threshold_le`).
The numbers of the property statement (margin 0.3 = 3/10, the binary64 constant of `1.0 - 0.3`,
minimum ≥ 2) are spelled as literals here; the model uses the constants regenerated from
/repo/src, so a changed source constant breaks these proofs.
-/
import Discv5Model.Proofs.IpVoteLemmas

namespace Discv5.IpVote

/-- The regenerated margin literal is `0.3` (= 3/10) and the minuend of the threshold expression
is `1.0`. -/
theorem margin_literal : Consts.CLEAR_MAJORITY_TENTHS = 3 ∧ Consts.THR_MINUEND = 1 := ⟨rfl, rfl⟩

/-- The binary64 value of `1.0 - 0.3` computed by the mirror is `12610078956637388 / 2^54`
= `0x16666666666666 / 2^53`, i.e. the double `0x3FE6666666666666` (0.69999999999999996, not 0.7). -/
theorem threshold_mirror_constant : marginC = (12610078956637388, 54) := by decide

example : 12610078956637388 = 2 * 0x16666666666666 := by decide

/-- The mirrored threshold never exceeds its argument (so a tie never wins): for every `n`,
including those beyond 2^53 where `n as f64` itself rounds. -/
theorem threshold_le (n : Nat) : thrF64 n ≤ n := thrF64_le n

/-- The margin is 30 %: for every count below 2^49 the mirrored threshold is `0.7 · n` rounded to
an integer at distance at most one half (`|10·thr n − 7·n| ≤ 5`; at exact halves binary64 may go
either way, see `threshold_not_naive`).  The bound on `n` is where the error analysis of
`thrWith_seventy` stops; vote tables are nowhere near it. -/
theorem threshold_is_seventy_percent (n : Nat) (h : n < 2 ^ 49) :
    7 * n ≤ 10 * thrF64 n + 5 ∧ 10 * thrF64 n ≤ 7 * n + 5 := by
  unfold thrF64
  rw [threshold_mirror_constant]
  exact thrWith_seventy n h

/-- The mirrored threshold is NOT `⌊(7n+5)/10⌋`: it first differs at n = 45 (31.499999999999996
rounds to 31, the exact 31.5 would round to 32). -/
theorem threshold_not_naive : thrF64 45 = 31 ∧ (7 * 45 + 5) / 10 = 32 ∧ thrF64 85 = 59 ∧ thrF64 10 = 7 := by
  decide

/-- `IpVote::new` refuses (panics on) a minimum below 2. -/
theorem new_requires_two {α : Type} (m d : Nat) : (IpVote.new? (α := α) m d).isSome ↔ 2 ≤ m := by
  unfold IpVote.new?
  by_cases h : m < 2
  · rw [if_pos h]
    exact ⟨fun h' => Bool.noConfusion h', fun h' => absurd h (Nat.not_lt_of_le h')⟩
  · rw [if_neg h]
    exact ⟨fun _ => Nat.le_of_not_lt h, fun _ => rfl⟩

variable {α : Type} [DecidableEq α]

/-- For every visiting order of the two hash maps, `majority()` returns
`some a` for a family iff `a` is the clear majority of that family's unexpired votes exactly as
the code decides it: `count a ≥ minimum`, and every other address `b` has `count b < thr (count a)`
(`0 < thr (count a)` is that same condition for addresses nobody voted for).  `count` is over the
entries whose expiry is after `now`; the map holds one (the latest) entry per voter. -/
theorem majority_spec (thr : Nat → Nat) (hthr : ∀ n, thr n ≤ n) (s : IpVote α) (now : Nat)
    (sh4 sh6 : List (Entry α) → List (Entry α)) (h4 : IsShuffle sh4) (h6 : IsShuffle sh6) (a : α) :
    ((s.majority thr now sh4 sh6).2.1 = some a ↔
        (s.minimum ≤ countOf now s.v4 a ∧ 0 < thr (countOf now s.v4 a) ∧
          ∀ b, b ≠ a → countOf now s.v4 b < thr (countOf now s.v4 a))) ∧
    ((s.majority thr now sh4 sh6).2.2 = some a ↔
        (s.minimum ≤ countOf now s.v6 a ∧ 0 < thr (countOf now s.v6 a) ∧
          ∀ b, b ≠ a → countOf now s.v6 b < thr (countOf now s.v6 a))) :=
  ⟨mostFrequent_spec_perm thr hthr s.minimum now (h4 s.v4) a,
   mostFrequent_spec_perm thr hthr s.minimum now (h6 s.v6) a⟩

/-- `majority_spec` for the threshold the code computes (`thrF64`, margin 0.3). -/
theorem majority_spec_f64 (s : IpVote α) (now : Nat)
    (sh4 sh6 : List (Entry α) → List (Entry α)) (h4 : IsShuffle sh4) (h6 : IsShuffle sh6) (a : α) :
    ((s.majority thrF64 now sh4 sh6).2.1 = some a ↔
        (s.minimum ≤ countOf now s.v4 a ∧ 0 < thrF64 (countOf now s.v4 a) ∧
          ∀ b, b ≠ a → countOf now s.v4 b < thrF64 (countOf now s.v4 a))) ∧
    ((s.majority thrF64 now sh4 sh6).2.2 = some a ↔
        (s.minimum ≤ countOf now s.v6 a ∧ 0 < thrF64 (countOf now s.v6 a) ∧
          ∀ b, b ≠ a → countOf now s.v6 b < thrF64 (countOf now s.v6 a))) :=
  majority_spec thrF64 threshold_le s now sh4 sh6 h4 h6 a

/-- Safety half of `majority_spec`, for ANY threshold function (nothing assumed about `thr`):
whatever `majority()` returns has at least `minimum` unexpired votes and every rival is strictly
below `thr` of the winner's count. -/
theorem majority_sound (thr : Nat → Nat) (s : IpVote α) (now : Nat)
    (sh4 sh6 : List (Entry α) → List (Entry α)) (h4 : IsShuffle sh4) (h6 : IsShuffle sh6) (a : α) :
    ((s.majority thr now sh4 sh6).2.1 = some a →
        (s.minimum ≤ countOf now s.v4 a ∧ ∀ b, b ≠ a → countOf now s.v4 b < thr (countOf now s.v4 a))) ∧
    ((s.majority thr now sh4 sh6).2.2 = some a →
        (s.minimum ≤ countOf now s.v6 a ∧ ∀ b, b ≠ a → countOf now s.v6 b < thr (countOf now s.v6 a))) := by
  constructor
  · intro h
    have := mostFrequent_sound_perm thr s.minimum now (h4 s.v4) a h
    exact ⟨this.1, this.2.2⟩
  · intro h
    have := mostFrequent_sound_perm thr s.minimum now (h6 s.v6) a h
    exact ⟨this.1, this.2.2⟩

/-- `majority_order_independent`.  Two runs of `majority()` on the same state with different
hash-map visiting orders return the same pair of results, and leave the same maps up to order
(exactly the unexpired entries). -/
theorem majority_order_independent (thr : Nat → Nat) (hthr : ∀ n, thr n ≤ n) (s : IpVote α) (now : Nat)
    (sh4 sh6 sh4' sh6' : List (Entry α) → List (Entry α))
    (h4 : IsShuffle sh4) (h6 : IsShuffle sh6) (h4' : IsShuffle sh4') (h6' : IsShuffle sh6') :
    (s.majority thr now sh4 sh6).2 = (s.majority thr now sh4' sh6').2 ∧
    ((s.majority thr now sh4 sh6).1.v4).Perm (s.majority thr now sh4' sh6').1.v4 ∧
    ((s.majority thr now sh4 sh6).1.v6).Perm (s.majority thr now sh4' sh6').1.v6 ∧
    ((s.majority thr now sh4 sh6).1.v4).Perm (s.v4.filter (fun e => decide (now < e.expiry))) ∧
    ((s.majority thr now sh4 sh6).1.v6).Perm (s.v6.filter (fun e => decide (now < e.expiry))) := by
  have m4 := mostFrequent_perm thr hthr s.minimum now ((h4 s.v4).trans (h4' s.v4).symm)
  have m6 := mostFrequent_perm thr hthr s.minimum now ((h6 s.v6).trans (h6' s.v6).symm)
  exact ⟨Prod.ext m4.1 m6.1, m4.2, m6.2, mostFrequent_updated_perm thr s.minimum now (h4 s.v4),
    mostFrequent_updated_perm thr s.minimum now (h6 s.v6)⟩

/-- The hypothesis `thr n ≤ n` of the theorems above is needed: with a threshold above the count
a tie is won by whichever address the hash map happens to yield first (2 votes each, `thr n = n+1`). -/
example :
    let l : List (Entry Nat) := [⟨1, 1, 9⟩, ⟨2, 1, 9⟩, ⟨3, 2, 9⟩, ⟨4, 2, 9⟩]
    (mostFrequent (fun n => n + 1) 2 0 l).2 = some 1 ∧
    (mostFrequent (fun n => n + 1) 2 0 l.reverse).2 = some 2 ∧
    (mostFrequent thrF64 2 0 l).2 = none ∧ (mostFrequent thrF64 2 0 l.reverse).2 = none := by
  decide

/-- `update_needs_majority`.  If a PONG step changes the IPv4 (IPv6) socket of the local record,
then the new value `a` is, at that moment (`p.tMaj`, the clock read by `majority()`), a clear
majority of the IPv4 (IPv6) votes the step leaves in the collection: at least `minimum` entries
for `a`, every rival strictly below `thr (count a)`; the old value was different; the sequence
number grew by exactly one and exactly the event `SocketUpdated(a)` was emitted.  Holds for ANY
`thr`, any connection direction of the voter (`connOut`), any visiting orders. -/
theorem update_needs_majority (thr : Nat → Nat) (s : Svc α) (p : Pong α) :
    ((pongStep thr s p).1.enr.ip4 ≠ s.enr.ip4 →
      ∃ a v', (pongStep thr s p).1.enr.ip4 = some a ∧ (pongStep thr s p).1.votes = some v' ∧
        v'.minimum ≤ countOf p.tMaj v'.v4 a ∧
        (∀ b, b ≠ a → countOf p.tMaj v'.v4 b < thr (countOf p.tMaj v'.v4 a)) ∧
        (pongStep thr s p).1.enr.seq = s.enr.seq + 1 ∧
        (pongStep thr s p).2 = [Ev.socketUpdated (.v4 a)]) ∧
    ((pongStep thr s p).1.enr.ip6 ≠ s.enr.ip6 →
      ∃ a v', (pongStep thr s p).1.enr.ip6 = some a ∧ (pongStep thr s p).1.votes = some v' ∧
        v'.minimum ≤ countOf p.tMaj v'.v6 a ∧
        (∀ b, b ≠ a → countOf p.tMaj v'.v6 b < thr (countOf p.tMaj v'.v6 a)) ∧
        (pongStep thr s p).1.enr.seq = s.enr.seq + 1 ∧
        (pongStep thr s p).2 = [Ev.socketUpdated (.v6 a)]) :=
  ⟨pongStep_changed thr s p false, pongStep_changed thr s p true⟩

/-- The collection `majority()` leaves behind holds only unexpired entries, so the counts in
`update_needs_majority` are plain counts of the entries of the map. -/
theorem majority_leaves_unexpired (thr : Nat → Nat) (s : IpVote α) (now : Nat)
    (sh4 sh6 : List (Entry α) → List (Entry α)) :
    (∀ e, e ∈ (s.majority thr now sh4 sh6).1.v4 → now < e.expiry) ∧
    (∀ e, e ∈ (s.majority thr now sh4 sh6).1.v6 → now < e.expiry) :=
   ⟨majority_unexpired thr s now sh4 sh6 false, majority_unexpired thr s now sh4 sh6 true⟩

/-- One vote per voter, latest wins — along every history from a fresh service, with every
visiting order, each family's collection has at most one entry per voter, and each entry is a
vote that voter really cast in a PONG of the history for exactly that address. -/
theorem one_vote_per_voter (thr : Nat → Nat) (minimum : Nat) (s0 : Svc α) (hfresh : s0.Fresh minimum)
    (hist : List (Pong α)) (hvalid : ∀ q, q ∈ hist → q.Valid) (v : IpVote α)
    (hv : (runPongs thr s0 hist).1.votes = some v) :
    KeysNodup v.v4 ∧ KeysNodup v.v6 ∧ v.minimum = minimum ∧
    (∀ e, e ∈ v.v4 → ∃ q, q ∈ hist ∧ q.voter = e.voter ∧ q.sock = Sock.v4 e.vote) ∧
    (∀ e, e ∈ v.v6 → ∃ q, q ∈ hist ∧ q.voter = e.voter ∧ q.sock = Sock.v6 e.vote) := by
  have := runPongs_ok thr minimum hist [] s0 (fresh_ok hfresh) hvalid v hv
  rw [List.nil_append] at this
  exact ⟨this.k4, this.k6, this.hmin, this.b4, this.b6⟩

omit [DecidableEq α] in
/-- `insert` replaces the voter's previous vote: after `insert`, the voter has exactly one entry
in the family of the new vote and it carries the new address. -/
theorem latest_vote_wins (s : IpVote α) (now voter : Nat) (a : α) :
    (∀ e, e ∈ (s.insert now voter (.v4 a)).v4 → e.voter = voter → e.vote = a ∧ e.expiry = now + s.duration) ∧
    (∀ e, e ∈ (s.insert now voter (.v6 a)).v6 → e.voter = voter → e.vote = a ∧ e.expiry = now + s.duration) := by
  constructor <;>
  · intro e he hv
    simp only [IpVote.insert, mapInsert, List.mem_append, List.mem_filter, List.mem_singleton] at he
    rcases he with ⟨_, h⟩ | h
    · simp [hv] at h
    · subst h; exact ⟨rfl, rfl⟩

/-- `few_liars`.  Take any history of PONGs from a freshly started service with configured
minimum `minimum` (voters of any connection direction, any addresses of both families, voters
changing their votes, any clock readings, any visiting orders, any `thr`).  If all the peers that
ever voted for the IPv4 (IPv6) address `a` fit in a list `liars` shorter than `minimum`, the
record's IPv4 (IPv6) socket is `a` after the history only if it was `a` before it: fewer liars
than the minimum can never move it (the statement applies to every prefix of the history). -/
theorem few_liars (thr : Nat → Nat) (minimum : Nat) (s0 : Svc α) (hfresh : s0.Fresh minimum)
    (hist : List (Pong α)) (hvalid : ∀ q, q ∈ hist → q.Valid) (a : α) (liars : List Nat)
    (hfew : liars.length < minimum) :
    ((∀ q, q ∈ hist → q.sock = Sock.v4 a → q.voter ∈ liars) →
      (runPongs thr s0 hist).1.enr.ip4 = some a → s0.enr.ip4 = some a) ∧
    ((∀ q, q ∈ hist → q.sock = Sock.v6 a → q.voter ∈ liars) →
      (runPongs thr s0 hist).1.enr.ip6 = some a → s0.enr.ip6 = some a) := by
  have key := fun f => runPongs_few_liars thr minimum f a liars hfew hist [] s0 (fresh_ok hfresh) hvalid
  exact ⟨key false, key true⟩

/-- `seq_increases`.  Every step that changes the record strictly increases its sequence number
(by one) and announces the change with exactly one `SocketUpdated` event carrying the new socket;
a step that does not change the record emits nothing. -/
theorem seq_increases (thr : Nat → Nat) (s : Svc α) (p : Pong α) :
    ((pongStep thr s p).1.enr = s.enr ∧ (pongStep thr s p).2 = []) ∨
    (s.enr.seq < (pongStep thr s p).1.enr.seq ∧ (pongStep thr s p).1.enr.seq = s.enr.seq + 1 ∧
      ((∃ a, (pongStep thr s p).2 = [Ev.socketUpdated (.v4 a)] ∧ (pongStep thr s p).1.enr.ip4 = some a ∧
            s.enr.ip4 ≠ some a ∧ (pongStep thr s p).1.enr.ip6 = s.enr.ip6) ∨
       (∃ a, (pongStep thr s p).2 = [Ev.socketUpdated (.v6 a)] ∧ (pongStep thr s p).1.enr.ip6 = some a ∧
            s.enr.ip6 ≠ some a ∧ (pongStep thr s p).1.enr.ip4 = s.enr.ip4))) := by
  rcases pongStep_cases thr s p with h | ⟨f, a, hm⟩
  · exact Or.inl h
  · refine Or.inr ⟨by rw [hm.enr, Rec.move_seq]; exact Nat.lt_succ_self _, by rw [hm.enr, Rec.move_seq], ?_⟩
    have hold := hm.old
    have hevs := hm.evs
    have hnew : (pongStep thr s p).1.enr.ip f = some a := by rw [hm.enr, Rec.move_ip, if_pos rfl]
    have hoth : (pongStep thr s p).1.enr.ip (!f) = s.enr.ip (!f) := by
      rw [hm.enr, Rec.move_ip, if_neg (by cases f <;> decide)]
    cases f
    · exact Or.inl ⟨a, hevs, hnew, hold, hoth⟩
    · exact Or.inr ⟨a, hevs, hnew, hold, hoth⟩

/-- Along every history the sequence number has grown by exactly the number of `SocketUpdated`
events emitted: every change is announced and increments the sequence number, nothing else does. -/
theorem seq_counts_events (thr : Nat → Nat) (s : Svc α) (hist : List (Pong α)) :
    (runPongs thr s hist).1.enr.seq = s.enr.seq + (runPongs thr s hist).2.length :=
  runPongs_seq thr hist s

/-! ## Non-vacuity -/

/-- A concrete winner: 5 voters for address 1, one for address 2, minimum 3, threshold of the
code: `thrF64 5 = 4 > 1`. -/
example :
    let s : IpVote Nat :=
      { v4 := [⟨1, 1, 9⟩, ⟨2, 1, 9⟩, ⟨3, 2, 9⟩, ⟨4, 1, 9⟩, ⟨5, 1, 9⟩, ⟨6, 1, 9⟩, ⟨7, 3, 2⟩], v6 := [], minimum := 3, duration := 10 }
    (s.majority thrF64 5 id List.reverse).2 = (some 1, none) ∧ countOf 5 s.v4 1 = 5 ∧
      countOf 5 s.v4 2 = 1 ∧ countOf 5 s.v4 3 = 0 ∧ thrF64 5 = 4 := by decide

/-- At the margin: 10 against 7 is not clear (`thrF64 10 = 7`), 10 against 6 is. -/
example :
    let mk (n m : Nat) : List (Entry Nat) :=
      (List.range n).map (fun i => ⟨i, 1, 9⟩) ++ (List.range m).map (fun i => ⟨100 + i, 2, 9⟩)
    (mostFrequent thrF64 2 0 (mk 10 7)).2 = none ∧ (mostFrequent thrF64 2 0 (mk 10 6)).2 = some 1 := by
  decide

/-- A history that really changes the record: three outgoing peers vote for address 7 (minimum
2), the second PONG moves the IPv4 socket from none to 7, sequence number 1 → 2, one event; a
later lone vote for address 8 changes nothing. -/
example :
    let s0 : Svc Nat := { votes := IpVote.new? 2 100, enr := { ip4 := none, ip6 := none, seq := 1 }, dual := false }
    let pong (voter a t : Nat) : Pong Nat :=
      { voter := voter, sock := .v4 a, countable := true, connOut := true, setOk := true,
        tClear := t, tIns := t, tMaj := t, sh4 := List.reverse, sh6 := id }
    let r := runPongs thrF64 s0 [pong 1 7 0, pong 2 7 1, pong 3 7 2, pong 4 8 3]
    r.1.enr.ip4 = some 7 ∧ r.1.enr.seq = 2 ∧ r.2 = [Ev.socketUpdated (.v4 7)] ∧ s0.Fresh 2 := by
  refine ⟨by decide, by decide, by decide, ?_⟩
  intro v hv
  simp only [IpVote.new?] at hv
  cases hv
  exact ⟨rfl, rfl, rfl⟩

/-- `List.reverse` and `id` are visiting orders. -/
example : IsShuffle (List.reverse : List (Entry Nat) → _) ∧ IsShuffle (id : List (Entry Nat) → _) :=
  ⟨fun l => List.reverse_perm l, fun l => List.Perm.refl l⟩

end Discv5.IpVote
