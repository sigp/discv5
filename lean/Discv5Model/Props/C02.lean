/- C02 — Delivered messages are authentic and untampered; C19 — nonces are never reused;
C15 — sessions expire and the session cache is bounded, here stated on the handler's session list itself
and proved without the cache theory (`Props/C15Handler.lean` reads the list as an `LruTimeCache` and
gets the same facts, and more, from `Props/C15.lean`).  Handler model. -/
import Discv5Model.Proofs.HandlerCrypto
namespace Discv5.H
open Cr

/-- Whatever is handed to the application as a request or response of `na` in reaction to a
message datagram is the plaintext of an AEAD term sealed under the current or previous decryption
key of the session held for `na`, with the datagram's own nonce and its own associated data. -/
theorem delivered_was_sealed (c : Cfg) (s : HState) (src : Addr) (srcId nonce : Nat) (ct : Ct) (o : Out)
    (ho : o ∈ (step c s (.dgram src (.message srcId nonce ct))).2)
    (hd : (∃ rid b, o = .request { id := srcId, addr := src } rid b) ∨
          (∃ na rid rb, o = .response na rid rb) ∨ (∃ r a d, o = .established r a d)) :
    ∃ key ctr pt sess stamp, ct = .enc key nonce ctr pt true ∧
      ({ id := srcId, addr := src }, sess, stamp) ∈ s.sessions ∧
      (key = sess.keys.dec ∨ ∃ old, sess.oldKeys = some old ∧ key = old.dec) := by
  have h := handleMessage_out c { id := srcId, addr := src } nonce ct
    (fun o => ((∃ rid b, o = .request { id := srcId, addr := src } rid b) ∨
          (∃ na rid rb, o = .response na rid rb) ∨ (∃ r a d, o = .established r a d)) →
          SealedFor s { id := srcId, addr := src } nonce ct) (s, [])
    (by rintro rid e (⟨_, _, h⟩ | ⟨_, _, _, h⟩ | ⟨_, _, _, h⟩) <;> cases h)
    (by rintro l (⟨_, _, h⟩ | ⟨_, _, _, h⟩ | ⟨_, _, _, h⟩) <;> cases h)
    (by rintro (⟨_, _, h⟩ | ⟨_, _, _, h⟩ | ⟨_, _, _, h⟩) <;> cases h)
    (fun hs => ⟨fun _ _ _ => hs, fun _ _ _ => hs, fun _ _ _ _ => hs, fun _ _ _ _ => hs⟩)
    (by intro o ho; cases ho)
  exact h o ho hd

/-- Tampering (bad tag/ciphertext = `garbage`, wrong associated data, a nonce differing from the
header's) never leads to a delivery. -/
theorem tamper_rejected (c : Cfg) (s : HState) (src : Addr) (srcId nonce : Nat) (ct : Ct)
    (h : ct = .garbage ∨ ∃ k n ctr pt ok, ct = .enc k n ctr pt ok ∧ (ok = false ∨ n ≠ nonce)) :
    ∀ o ∈ (step c s (.dgram src (.message srcId nonce ct))).2,
      (∀ na rid b, o ≠ .request na rid b) ∧ (∀ na rid rb, o ≠ .response na rid rb) ∧
      (∀ r a d, o ≠ .established r a d) := by
  have hns : ¬ SealedFor s { id := srcId, addr := src } nonce ct := by
    rintro ⟨key, ctr, pt, sess, stamp, rfl, -, -⟩
    rcases h with h | ⟨k, n, ctr', pt', ok, h, h'⟩
    · cases h
    · cases h; rcases h' with h' | h'
      · cases h'
      · exact h' rfl
  exact handleMessage_out c { id := srcId, addr := src } nonce ct
    (fun o => (∀ na rid b, o ≠ .request na rid b) ∧ (∀ na rid rb, o ≠ .response na rid rb) ∧
      (∀ r a d, o ≠ .established r a d)) (s, [])
    (by intros; simp) (by intros; simp) (by simp)
    (fun hs => absurd hs hns)
    (by intro o ho; cases ho)

/-- Attribution follows the session: every delivered request or response names exactly the node
address (claimed source id, source address) under which the decrypting session is stored. -/
theorem delivery_attributed_to_session_key (c : Cfg) (s : HState) (src : Addr) (srcId nonce : Nat)
    (ct : Ct) (na : NA) (rid : Nat) :
    ((∃ b, Out.request na rid b ∈ (step c s (.dgram src (.message srcId nonce ct))).2) ∨
     (∃ rb, Out.response na rid rb ∈ (step c s (.dgram src (.message srcId nonce ct))).2)) →
    na = { id := srcId, addr := src } := by
  have h := handleMessage_out c { id := srcId, addr := src } nonce ct
    (fun o => ∀ na' rid', ((∃ b, o = .request na' rid' b) ∨ (∃ rb, o = .response na' rid' rb)) →
      na' = { id := srcId, addr := src }) (s, [])
    (by rintro _ _ _ _ (⟨_, h⟩ | ⟨_, h⟩) <;> cases h)
    (by rintro _ _ _ (⟨_, h⟩ | ⟨_, h⟩) <;> cases h)
    (by rintro _ _ (⟨_, h⟩ | ⟨_, h⟩) <;> cases h)
    (fun _ => ⟨(by rintro _ _ _ _ (⟨_, h⟩ | ⟨_, h⟩) <;> cases h <;> rfl),
      (by rintro _ _ _ _ (⟨_, h⟩ | ⟨_, h⟩) <;> cases h <;> rfl),
      (by rintro _ _ _ _ _ (⟨_, h⟩ | ⟨_, h⟩) <;> cases h),
      (by rintro _ _ _ _ _ (⟨_, h⟩ | ⟨_, h⟩) <;> cases h)⟩)
    (by intro o ho; cases ho)
  rintro (⟨b, hb⟩ | ⟨rb, hb⟩)
  · exact h _ hb na rid (Or.inl ⟨b, rfl⟩)
  · exact h _ hb na rid (Or.inr ⟨rb, rfl⟩)

/-- The two directions of a session never share a key (a node cannot be fed its own ciphertexts). -/
theorem keys_directional (c : Cfg) (evs : List Ev) :
    ∀ e ∈ (run c evs).sessions, e.2.1.keys.enc ≠ e.2.1.keys.dec ∧
      ∀ old, e.2.1.oldKeys = some old → old.enc ≠ old.dec := by
  intro e he
  have h := (run_B c evs).2 e he
  exact ⟨fun heq => h.1 (by rw [heq]), fun old ho heq => h.2 old ho (by rw [heq])⟩

/-! ### C19 -/

/-- Under one key a node never seals two different message packets with the same counter prefix:
two sealed message packets it sends under the same key and the same counter are the same packet
(a retransmission).  Holds for every naming of the random nonce parts. -/
theorem counter_nonces_distinct (c : Cfg) (evs : List Ev) (hw : ContactsWF evs) :
    ∀ a ∈ sentSealed (outputs c evs), ∀ b ∈ sentSealed (outputs c evs),
      a.1 = b.1 → a.2.1 = b.2.1 → a.2.2 = b.2.2 :=
  (run_K c evs).1.self

/-- The counter of a session only grows, and every sealed message carries the counter value
reached when it was made. -/
theorem encrypt_advances_counter (c : Cfg) (sess : Session) (pt : Msg) (st : HState × List Out) :
    ((encryptMessage c sess pt).run st).1.1.counter = sess.counter + 1 ∧
    ∃ n, ((encryptMessage c sess pt).run st).1.2 =
      .message c.localId n (.enc sess.keys.enc n (sess.counter + 1) pt true) :=
  ⟨rfl, _, rfl⟩

/-! ### C15 on the session list itself -/

/-- The session cache never exceeds its capacity. -/
theorem sessions_bounded (c : Cfg) (evs : List Ev) (hc : 1 ≤ c.sessionCap) :
    (run c evs).sessions.length ≤ c.sessionCap := (run_B c evs).1

/-- A session idle for longer than the timeout is never used again: the accessor through which
every use goes reports it absent and drops it. -/
theorem expired_session_absent (c : Cfg) (na : NA) (st : HState × List Out) (sess : Session) (stamp : Nat)
    (hf : st.1.sessions.find? (·.1 == na) = some (na, sess, stamp)) (hx : stamp + c.sessionTtl < st.1.rt) :
    ((sessGetMut c na).run st).1 = none ∧
    ((sessGetMut c na).run st).2.1.sessions.all (·.1 != na) = true := by
  show wp (sessGetMut c na) (fun r st' => r = none ∧ st'.1.sessions.all (·.1 != na) = true) st
  exact wp_sessGetMut_expired hf hx ⟨rfl, by simp [List.all_filter]⟩

/-- … so the next request to that peer starts a fresh handshake (a random packet, not a message
sealed under the old keys), and a message from that peer is answered with a who-are-you query. -/
theorem expired_session_not_used (c : Cfg) (s : HState) (na : NA) (sess : Session) (stamp : Nat)
    (hf : s.sessions.find? (·.1 == na) = some (na, sess, stamp)) (hx : stamp + c.sessionTtl < s.rt)
    (hl : c.listen.contains na.addr = false) :
    (∀ r rid body o, o ∈ (step c s (.appRequest { na := na, record := r } rid body)).2 →
        ∀ dst src n k n' ctr pt ok, o ≠ .send dst (.message src n (.enc k n' ctr pt ok))) ∧
    (∀ nonce ct, (step c s (.dgram na.addr (.message na.id nonce ct))).2 = [.wru na nonce]) := by
  constructor
  · intro r rid body
    show wp (stepM c (.appRequest { na := na, record := r } rid body)) (fun _ => AllOut NotSealedSend) (s, [])
    unfold stepM
    rw [wp_bind]
    refine wp_mono (sendRequest_expired c s na sess stamp r rid body false hf hx hl NotSealedSend
      (by intro _ _; unfold NotSealedSend; simp)) (fun a st' h' => ?_)
    cases a with
    | none => exact h'
    | some e => cr_wpsimp; exact AllOut.snoc h' (by unfold NotSealedSend; simp)
  · intro nonce ct
    show wp (handleMessage c na nonce ct) (fun _ st' => st'.2 = [.wru na nonce]) (s, [])
    unfold handleMessage
    rw [wp_bind]
    exact wp_sessGetMut_expired (st := (s, [])) hf hx rfl

/-- When the cache is full the least recently used session (the head) is the one dropped. -/
theorem eviction_is_lru (c : Cfg) (na : NA) (sess : Session) (st : HState × List Out)
    (hn : st.1.sessions.all (·.1 != na) = true) (hfull : st.1.sessions.length = c.sessionCap)
    (hc : 1 ≤ c.sessionCap) :
    ((sessInsert c na sess).run st).2.1.sessions = st.1.sessions.drop 1 ++ [(na, sess, st.1.rt)] := by
  have hfil : st.1.sessions.filter (·.1 != na) = st.1.sessions := by
    rw [List.filter_eq_self]; simpa [List.all_eq_true] using hn
  show (if (st.1.sessions.filter (·.1 != na) ++ [(na, sess, st.1.rt)]).length > c.sessionCap
    then (st.1.sessions.filter (·.1 != na) ++ [(na, sess, st.1.rt)]).drop 1
    else st.1.sessions.filter (·.1 != na) ++ [(na, sess, st.1.rt)]) = _
  rw [hfil, if_pos (by simp [hfull])]
  cases h : st.1.sessions with
  | nil => simp [h] at hfull; omega
  | cons x xs => simp

/-! ### Non-vacuity -/
namespace C02Ex

def exCfg : Cfg :=
  { localId := 1, localSeq := 1, localRec := { id := 1, seq := 1, udp4 := some 10, udp6 := none },
    requestRetries := 1, requestTimeout := 1000, sessionTtl := 10, sessionCap := 4, listen := [],
    findnode0 := 0 }
def exAddr : Addr := { v6 := false, n := 20 }
def exNA : NA := { id := 2, addr := exAddr }
def exKeys : Keys :=
  { enc := { eph := 1000001, cd := 7, ini := 1, rcp := 2, toRcp := true },
    dec := { eph := 1000001, cd := 7, ini := 1, rcp := 2, toRcp := false } }
def exSess : Session := { keys := exKeys }
def exState : HState := { sessions := [(exNA, exSess, 0)] }
def exCt (ok : Bool) : Ct := .enc exKeys.dec 55 3 (.request 7 3) ok

/-- A sealed message under the session's decryption key, with the right nonce and associated data, IS
delivered (the hypotheses of `delivered_was_sealed` are inhabited). -/
example : Out.request exNA 7 3 ∈ (step exCfg exState (.dgram exAddr (.message 2 55 (exCt true)))).2 := by decide

/-- The same message presented with the wrong associated data is not delivered (a WHOAREYOU goes out). -/
example : (step exCfg exState (.dgram exAddr (.message 2 55 (exCt false)))).2 = [.wru exNA 55] := by decide

/-- A concrete expired session: the hypotheses of `expired_session_not_used` hold. -/
example : ({ exState with rt := 100 } : HState).sessions.find? (·.1 == exNA) = some (exNA, exSess, 0) ∧
    0 + exCfg.sessionTtl < ({ exState with rt := 100 } : HState).rt ∧
    exCfg.listen.contains exNA.addr = false := by decide

/-- … and `expired_session_not_used` applies to it: even a correctly sealed message is answered with
WHOAREYOU once the session has expired. -/
example : (step exCfg { exState with rt := 100 } (.dgram exAddr (.message 2 55 (exCt true)))).2 = [.wru exNA 55] :=
  (expired_session_not_used exCfg { exState with rt := 100 } exNA exSess 0 (by decide) (by decide) (by decide)).2 55 _

def exEvs : List Ev :=
  [ .appRequest { na := exNA, record := some { id := 2, seq := 1, udp4 := some 20, udp6 := none } } 5 1,
    .dgram exAddr (.whoareyou 1000001 77 0),
    .appRequest { na := exNA, record := none } 6 1,
    .appResponse exNA 9 (.other 0) ]

/-- A history with a handshake and two sealed messages under the same key: counters 1 and 2. -/
example : (sentSealed (outputs exCfg exEvs)).map (fun x => (x.1, x.2.1)) =
    [({ eph := 1000001, cd := 77, ini := 1, rcp := 2, toRcp := true }, 1),
     ({ eph := 1000001, cd := 77, ini := 1, rcp := 2, toRcp := true }, 2)] := by decide +kernel

def exCfg2 : Cfg := { exCfg with requestRetries := 2 }
/-- With a retry left, the request timer retransmits the stored packet: the same (key, counter) appears
twice in the history — the case `counter_nonces_distinct` identifies as "the same packet". -/
example : (sentSealed (outputs exCfg2 (exEvs ++ [.adv 1000]))).map (fun x => (x.1, x.2.1)) =
    [({ eph := 1000001, cd := 77, ini := 1, rcp := 2, toRcp := true }, 1),
     ({ eph := 1000001, cd := 77, ini := 1, rcp := 2, toRcp := true }, 2),
     ({ eph := 1000001, cd := 77, ini := 1, rcp := 2, toRcp := true }, 1)] := by decide +kernel

end C02Ex

end Discv5.H
