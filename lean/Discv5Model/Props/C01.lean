/- C01 — Handshake proves node identity; C03 — handshakes answer only fresh, outstanding
challenges (handler model, symbolic cryptography). -/
import Discv5Model.Proofs.HandlerIdentity
import Discv5Model.Proofs.HandlerLru
namespace Discv5.H
open HI

/-- What an accepted handshake proves (pure function): the chosen record belongs to the claimed
id, the signature was made by that id's key over exactly this challenge, this ephemeral key and
this node's id, and the session keys are the ones derived from them. -/
theorem establish_binds_identity (c : Cfg) (remoteId : Id) (ch : Challenge) (sig : Sig) (eph : Nat)
    (record : Option Rec) (sess : Session) (r : Rec)
    (h : establishFromChallenge c remoteId ch sig eph record = some (some (sess, r))) :
    r.id = remoteId ∧ sig.signer = remoteId ∧ sig.cd = ch.cd ∧ sig.eph = eph ∧ sig.dst = c.localId ∧
    sess.keys.dec = { eph := eph, cd := ch.cd, ini := remoteId, rcp := c.localId, toRcp := true } ∧
    sess.keys.enc = { eph := eph, cd := ch.cd, ini := remoteId, rcp := c.localId, toRcp := false } ∧
    (r = record.getD r ∨ ch.remoteRec = some r) := by
  obtain ⟨h1, h2, h3, h4, h5, h6, h7⟩ := establish_ok c remoteId ch sig eph record sess r h
  subst h6
  exact ⟨h1, h2, h3, h4, h5, rfl, rfl, h7⟩

/-- Every session held for a node id `x` is justified: this node dialled `x` itself, or a
handshake carrying a signature by `x`'s key, addressed to this node, was received. -/
theorem session_needs_proof (c : Cfg) (evs : List Ev) (hw : ContactsWF evs) :
    ∀ e ∈ (run c evs).sessions,
      e.1.id ∈ dialled evs ∨
      ∃ p ∈ handshakeSigs evs, p.2.signer = e.1.id ∧ p.2.dst = c.localId ∧ p.1 = e.1 :=
  fun e he => (invA c evs hw).1.sess e he

/-- No forgery: if no received handshake carries a signature made with `x`'s key and this node
never dialled `x`, then nothing is ever attributed to `x` — no session, no established /
unverifiable report, no request or response — whatever records, sequence numbers or source
addresses the datagrams present. -/
theorem no_forgery (c : Cfg) (evs : List Ev) (x : Id) (hw : ContactsWF evs)
    (hs : ∀ p ∈ handshakeSigs evs, p.2.signer ≠ x) (hd : x ∉ dialled evs) :
    (∀ e ∈ (run c evs).sessions, e.1.id ≠ x) ∧ ∀ o ∈ outputs c evs, attributesTo x o = false := by
  have bad : ∀ na : NA, Justified c evs na → na.id ≠ x := by
    intro na hg hx
    rcases hg with h | ⟨p, hp, h1, -, -⟩
    · exact hd (hx ▸ h)
    · exact hs p hp (h1.trans hx)
  refine ⟨fun e he => bad _ ((invA c evs hw).1.sess e he), ?_⟩
  intro o ho
  cases hb : attributesTo x o with
  | false => rfl
  | true =>
    obtain ⟨na, hn, hid⟩ := (invA c evs hw).2 o ho x hb
    exact absurd hid (bad na hn)

/- `hnew` below speaks of keys, not of whole cache entries: under `e ∉ s.sessions` an old session
whose time stamp or counter the step refreshed would count as new, and the statement fails in the
ill-formed state `C01Ex.sBadQueue` (a request for node 3 queued under node 2's address, which
`send_request` never produces); see the example there. -/

/-- Initiator side: every session whose keys were not already held for that node address before
this node answered a WHOAREYOU (i.e. the session created or re-keyed by that answer) has keys
derived from an ECDH with `na.id`'s static key (only its holder can use them) and from exactly the
challenge data of this WHOAREYOU. -/
theorem initiator_keys_bound (c : Cfg) (s : HState) (src : Addr) (nonce cd enrSeq : Nat)
    (e : NA × Session × Nat) (he : e ∈ (step c s (.dgram src (.whoareyou nonce cd enrSeq))).1.sessions)
    (hnew : ∀ e' ∈ s.sessions, e'.1 = e.1 → e'.2.1.keys ≠ e.2.1.keys) :
    e.2.1.keys.enc.ini = c.localId ∧ e.2.1.keys.dec.ini = c.localId ∧
    e.2.1.keys.enc.rcp = e.1.id ∧ e.2.1.keys.dec.rcp = e.1.id ∧ e.2.1.keys.enc.cd = cd ∧
    e.2.1.keys.dec.cd = cd := by
  rcases handleChallenge_keys c s src nonce cd enrSeq e he with ⟨e', he', h1, h2⟩ | ⟨eph, h⟩
  · exact absurd h2 (hnew e' he' h1)
  · rw [h]; exact ⟨rfl, rfl, rfl, rfl, rfl, rfl⟩

/-! ### C03 -/

/-- A handshake from a node address for which no challenge is outstanding changes nothing. -/
theorem handshake_needs_challenge (c : Cfg) (s : HState) (src : Addr) (srcId nonce : Nat) (sig : Sig)
    (eph : Nat) (record : Option Rec) (ct : Ct)
    (h : s.challenges.any (·.1 == { id := srcId, addr := src }) = false) :
    step c s (.dgram src (.handshake srcId nonce sig eph record ct)) = (s, []) := by
  have hf : s.challenges.find? (fun x => x.1 == ({ id := srcId, addr := src } : NA)) = none := by
    rw [List.find?_eq_none]
    intro x hx
    simpa using List.any_eq_false.1 h x hx
  show wp (handleAuthMessage c { id := srcId, addr := src } nonce sig eph record ct)
    (fun _ st' => st' = (s, [])) (s, [])
  unfold handleAuthMessage
  simp only [wp_bind, wp_getS, hf, wp_pure]

/-- The id-nonces (challenge data) of all WHOAREYOU packets this node ever sends are pairwise
distinct. -/
theorem issued_challenges_distinct (c : Cfg) (evs : List Ev) : (sentCds (outputs c evs)).Nodup :=
  (invD c evs).2.1

/-- The session cache never holds two entries for the same node address. -/
theorem session_keys_nodup (c : Cfg) (evs : List Ev) : ((run c evs).sessions.map (·.1)).Nodup :=
  HL.run_keys_nodup c evs

/- `hnd` below is needed: the right-hand side selects the surviving entries by node address, and with
a duplicated address of which only the older entry expires during the step it selects both
(`C01Ex.sDup`).  No run produces such a cache (`session_keys_nodup`), hence `stale_handshake_rejected_run`. -/

/-- A handshake whose signature is not over the currently outstanding challenge for that node
address (a replay of an earlier handshake, or one signed over an expired / foreign challenge)
never creates or re-keys a session: the (address, keys) list afterwards is the old one restricted
to the addresses that survive. -/
theorem stale_handshake_rejected (c : Cfg) (s : HState) (src : Addr) (srcId nonce : Nat) (sig : Sig)
    (eph : Nat) (record : Option Rec) (ct : Ct)
    (hnd : (s.sessions.map (·.1)).Nodup)
    (h : ∀ e ∈ s.challenges, e.1 = { id := srcId, addr := src } → e.2.1.cd ≠ sig.cd) :
    (step c s (.dgram src (.handshake srcId nonce sig eph record ct))).1.sessions.map (fun e => (e.1, e.2.1.keys)) =
      (s.sessions.filter (fun e => (step c s (.dgram src (.handshake srcId nonce sig eph record ct))).1.sessions.any (·.1 == e.1))).map
        (fun e => (e.1, e.2.1.keys)) :=
  map_eq_map_survivors (fun e => (e.1, e.2.1.keys)) s.sessions _ { id := srcId, addr := src } c.sessionTtl s.rt hnd
    (handleAuthMessage_stale c s { id := srcId, addr := src } nonce sig eph record ct h)

/-- The same for every state reached by a history, where `hnd` holds. -/
theorem stale_handshake_rejected_run (c : Cfg) (evs : List Ev) (src : Addr) (srcId nonce : Nat) (sig : Sig)
    (eph : Nat) (record : Option Rec) (ct : Ct)
    (h : ∀ e ∈ (run c evs).challenges, e.1 = { id := srcId, addr := src } → e.2.1.cd ≠ sig.cd) :
    (step c (run c evs) (.dgram src (.handshake srcId nonce sig eph record ct))).1.sessions.map (fun e => (e.1, e.2.1.keys)) =
      ((run c evs).sessions.filter (fun e => (step c (run c evs) (.dgram src (.handshake srcId nonce sig eph record ct))).1.sessions.any (·.1 == e.1))).map
        (fun e => (e.1, e.2.1.keys)) :=
  stale_handshake_rejected c (run c evs) src srcId nonce sig eph record ct (session_keys_nodup c evs) h

/-- Acceptance consumes the challenge: after a handshake was processed, either it was rejected for
its signature (the challenge stays, nothing else changed) or no challenge for that node address
remains. -/
theorem challenge_consumed (c : Cfg) (s : HState) (src : Addr) (srcId nonce : Nat) (sig : Sig)
    (eph : Nat) (record : Option Rec) (ct : Ct) :
    let s' := (step c s (.dgram src (.handshake srcId nonce sig eph record ct))).1
    s'.challenges.any (·.1 == { id := srcId, addr := src }) = false ∨
      (s'.sessions = s.sessions ∧ s'.active = s.active) :=
  handleAuthMessage_consumes c s { id := srcId, addr := src } nonce sig eph record ct

/-- A WHOAREYOU is acted on only if it echoes the nonce of a request in flight to the address it
came from: otherwise no output is produced and sessions, challenges and queued requests are
unchanged. -/
theorem whoareyou_needs_request (c : Cfg) (s : HState) (src : Addr) (nonce cd enrSeq : Nat)
    (h : ∀ call ∈ s.active, ¬ (call.pkt.nonce = nonce ∧ call.contact.na.addr = src)) :
    (step c s (.dgram src (.whoareyou nonce cd enrSeq))).2 = [] ∧
    (step c s (.dgram src (.whoareyou nonce cd enrSeq))).1.sessions = s.sessions ∧
    (step c s (.dgram src (.whoareyou nonce cd enrSeq))).1.pending = s.pending := by
  show wp (handleChallenge c src nonce cd enrSeq)
    (fun _ st' => st'.2 = [] ∧ st'.1.sessions = s.sessions ∧ st'.1.pending = s.pending) (s, [])
  unfold handleChallenge activeRemoveByNonce
  simp only [wp_bind, wp_getS]
  rcases hf : s.active.find? (fun x => x.pkt.nonce == nonce) with _ | call0
  · simp only [hf, wp_pure]; exact ⟨trivial, trivial, trivial⟩
  · simp only [hf, wp_bind, wp_setS, wp_pure, wp_ite]
    have hne : ((callNA call0).addr != src) = true := by
      have := h call0 (List.mem_of_find?_eq_some hf)
      simp only [not_and] at this
      simpa [callNA] using this (by simpa using List.find?_some hf)
    rw [if_pos hne]
    exact ⟨rfl, rfl, rfl⟩

/-- A request is answered with at most one handshake: a second WHOAREYOU for a request whose
handshake was already sent produces no datagram at all. -/
theorem one_handshake_per_request (c : Cfg) (s : HState) (src : Addr) (nonce cd enrSeq : Nat)
    (call : Call) (hc : s.active.find? (·.pkt.nonce == nonce) = some call)
    (ha : call.contact.na.addr = src) (hs : call.hsSent = true) :
    ∀ o ∈ (step c s (.dgram src (.whoareyou nonce cd enrSeq))).2, ∀ na p, o ≠ .send na p := by
  show wp (handleChallenge c src nonce cd enrSeq) (fun _ => NoSend) (s, [])
  unfold handleChallenge activeRemoveByNonce
  simp only [wp_bind, wp_getS, hc, wp_setS, wp_pure, wp_ite]
  have hne : ¬ ((callNA call).addr != src) = true := by simp [callNA, ha]
  rw [if_neg hne, if_pos hs]
  unfold removeExpected failRequest
  simp only [wp_modS, wp_bind, wp_ite, wp_emit]
  split
  · exact noSend_failSession c _ _ true _
      (forall_mem_snoc (l := []) (fun _ h => nomatch h) fun _ _ hh => nomatch hh)
  · exact noSend_failSession c _ _ true _ fun _ h => nomatch h

/-! ### non-vacuity and counterexamples -/

namespace C01Ex

def cfg : Cfg where
  localId := 1
  localSeq := 1
  localRec := { id := 1, seq := 1, udp4 := none, udp6 := none }
  requestRetries := 1
  requestTimeout := 1000
  sessionTtl := 100000
  sessionCap := 100
  listen := []
  findnode0 := 0

def na2 : NA := { id := 2, addr := { v6 := false, n := 2 } }
def na3 : NA := { id := 3, addr := { v6 := false, n := 3 } }

/-- The challenge data of the first WHOAREYOU node 1 sends. -/
def cd1 : Nat := 1000001

/-- Handshake answering that challenge, claiming to come from node 2, signed by `signer`, carrying
the record of `recId`; the sealed message is a request under the keys a genuine node 2 derives. -/
def hsFrom (signer recId : Id) : Ev :=
  .dgram na2.addr (.handshake 2 6 { signer := signer, cd := cd1, eph := 77, dst := 1 } 77
    (some { id := recId, seq := 1, udp4 := none, udp6 := none })
    (.enc { eph := 77, cd := cd1, ini := 2, rcp := 1, toRcp := true } 6 0 (.request 9 0) true))

/-- (a) node 1 challenges node 2's address; the handshake signed by node 2 arrives. -/
def honest : List Ev := [.appWru na2 5 none, hsFrom 2 2]
/-- (b) same, but signed by node 9 and carrying node 9's record, while claiming source id 2. -/
def forged : List Ev := [.appWru na2 5 none, hsFrom 9 9]

/-- (a) the honest handshake creates a session for node 2, which was never dialled: the right
disjunct of `session_needs_proof` is the one that holds, and the session is reported. -/
example : (run cfg honest).sessions.any (·.1 == na2) = true ∧ 2 ∉ dialled honest ∧
    (∃ p ∈ handshakeSigs honest, p.2.signer = 2 ∧ p.2.dst = cfg.localId ∧ p.1 = na2) ∧
    (outputs cfg honest).any (attributesTo 2) = true := by decide +kernel

/-- (b) the forgery attempt: hypotheses of `no_forgery` hold for `x = 2` … -/
example : ContactsWF forged ∧ (∀ p ∈ handshakeSigs forged, p.2.signer ≠ 2) ∧ 2 ∉ dialled forged :=
  ⟨by simp [forged, hsFrom, ContactsWF], by decide +kernel, by decide +kernel⟩

/-- … and indeed (computed, not via the theorem) there is no session for node 2 and no output
attributed to node 2, although the datagram claimed source id 2 (the challenge is consumed). -/
example : (run cfg forged).sessions = [] ∧ (outputs cfg forged).all (fun o => !attributesTo 2 o) = true ∧
    (run cfg forged).challenges = [] := by decide +kernel

/-- `no_forgery` applied to the forged history. -/
example : (∀ e ∈ (run cfg forged).sessions, e.1.id ≠ 2) ∧ ∀ o ∈ outputs cfg forged, attributesTo 2 o = false :=
  no_forgery cfg forged 2 (by simp [forged, hsFrom, ContactsWF]) (by decide +kernel) (by decide +kernel)

/-! Why `initiator_keys_bound` and `stale_handshake_rejected` carry the hypotheses `hnew` and `hnd`
(both counterexamples need a state that no history produces). -/

def weird : Keys where
  enc := { eph := 0, cd := 0, ini := 1, rcp := 99, toRcp := true }
  dec := { eph := 0, cd := 0, ini := 1, rcp := 99, toRcp := false }

def call2 : Call where
  contact := { na := na2, record := some { id := 2, seq := 1, udp4 := none, udp6 := none } }
  pkt := .message 1 7 .garbage
  rid := 1
  internal := false
  body := 0
  initiating := true

/-- Ill-formed state: a request for node 3 is queued under node 2's address. -/
def sBadQueue : HState where
  sessions := [(na3, { keys := weird }, 0)]
  active := [call2]
  pending := [(na2, [{ contact := { na := na3, record := none }, rid := 5, internal := false, body := 0 }])]
  rt := 5

def eBad : NA × Session × Nat := (na3, { keys := weird, counter := 1 }, 5)

/-- `initiator_keys_bound` with `e ∉ s.sessions` for `hnew` fails here. -/
example : eBad ∈ (step cfg sBadQueue (.dgram na2.addr (.whoareyou 7 42 0))).1.sessions ∧
    eBad ∉ sBadQueue.sessions ∧ eBad.2.1.keys.enc.ini = cfg.localId ∧
    eBad.2.1.keys.enc.rcp ≠ eBad.1.id := by decide +kernel

/-- Ill-formed state: two cache entries for node 3's address, the older one expired. -/
def sDup : HState where
  sessions := [(na3, { keys := weird }, 0), (na3, { keys := weird, counter := 7 }, 100)]
  challenges := [(na2, { cd := 1, remoteRec := none }, 0, 0)]
  rt := 50

def staleHs : Ev :=
  .dgram na2.addr (.handshake 2 6 { signer := 2, cd := 2, eph := 77, dst := 1 } 77 none .garbage)

/-- `stale_handshake_rejected` without `hnd` fails here: one entry remains, the address filter
selects two. -/
example : (∀ e ∈ sDup.challenges, e.1 = na2 → e.2.1.cd ≠ 2) ∧
    (step { cfg with sessionTtl := 10 } sDup staleHs).1.sessions.map (fun e => (e.1, e.2.1.keys)) ≠
      (sDup.sessions.filter (fun e =>
        (step { cfg with sessionTtl := 10 } sDup staleHs).1.sessions.any (·.1 == e.1))).map
        (fun e => (e.1, e.2.1.keys)) := by decide +kernel

end C01Ex

end Discv5.H
