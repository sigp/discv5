/-
C15 (what is a *use* of a session) — handler model.

The session cache is an LRU cache with a time-to-live: an entry lives as long as it is used at least
once per `session_timeout`, and a use makes it the most recently used entry.  Which handler actions
are uses of a session:

A. Not a request that runs out of retries: it is failed with `timeout`, and the session list is left
   exactly as it is (`fail_session(…, remove_session = false)` does not even sweep expired entries).
   At the level of one handler step the reading "a step that reports a timeout leaves the session list
   as it is" is FALSE: one `adv` step fires all due timers, and a challenge timer due in the same step
   releases the requests queued behind it, which use the sessions they are sent under (counterexample
   at the end of part A).  True is: the list is unchanged if no challenge timer is due in the step, and
   in every case no live session is lost, created or re-keyed.
B. The application's response (`HandlerIn::Response`, event `appResponse`) goes on the wire exactly when
   there is a live session for the destination, as one packet sealed under that session's key.
C. Answering is a use: the entry of the destination becomes the last one, stamped with the current
   real-time clock — the cache's `get_mut`.
D. Not a request that is merely queued because a WHOAREYOU challenge to its destination is outstanding:
   the test for the challenge comes first and short-circuits the session lookup.

"A live session for `na`" always means: `sessGetMut c na` returns a session, i.e. the list holds an
entry for `na` whose stamp has not outlived the session timeout (`AT.sessGetMut_some_iff`).
-/
import Discv5Model.Proofs.HandlerSessionUse

namespace Discv5.H
open SU HL

/-! ### A. A request timeout leaves the session alone -/

/-- When the timer of a request fires — whether the request is retransmitted or given up — the
session list, the open challenges and both clocks are afterwards exactly what they were: same
entries, same sessions, same stamps, same order. -/
theorem request_timeout_leaves_sessions (c : Cfg) (call : Call) (s : HState) (os : List Out) :
    ((handleRequestTimeout c call).run (s, os)).2.1.sessions = s.sessions ∧
    ((handleRequestTimeout c call).run (s, os)).2.1.challenges = s.challenges ∧
    ((handleRequestTimeout c call).run (s, os)).2.1.rt = s.rt ∧
    ((handleRequestTimeout c call).run (s, os)).2.1.now = s.now :=
  handleRequestTimeout_frame c call (s, os)

/-- A request that has used up its retries: it is reported as `failed … timeout` (unless it is an
internal request of the handler itself), and so are — with the same error — the other requests of
the same peer, queued (`rest1`) or active (`rest2`).  Those requests are forgotten; nothing is
sent; and the session list is exactly the one before.  In particular the session with the peer, if
there is one, is neither removed nor refreshed, and `fail_session` does not sweep expired entries
here (`remove_session = false`). -/
theorem request_timeout_exhausted (c : Cfg) (call : Call) (s : HState) (os : List Out)
    (h : call.retries ≥ c.requestRetries) :
    ((handleRequestTimeout c call).run (s, os)).2.1.sessions = s.sessions ∧
    ((handleRequestTimeout c call).run (s, os)).2.1.active =
      s.active.filter (fun x => callNA x != callNA call) ∧
    ((handleRequestTimeout c call).run (s, os)).2.1.pending =
      s.pending.filter (·.1 != callNA call) ∧
    ∃ rest1 rest2,
      ((handleRequestTimeout c call).run (s, os)).2.2 =
        os ++ (if call.internal then [] else [Out.failed call.rid .timeout]) ++ rest1 ++ rest2 ∧
      (∀ o, o ∈ rest1 ↔ ∃ pr ∈ queuedFor s (callNA call), pr.internal = false ∧ o = .failed pr.rid .timeout) ∧
      (∀ o, o ∈ rest2 ↔ ∃ cl ∈ s.active, callNA cl = callNA call ∧ cl.internal = false ∧
        o = .failed cl.rid .timeout) := by
  obtain ⟨ex, hx⟩ := handleRequestTimeout_exhausted_run c call (s, os) h
  rw [hx]
  refine ⟨rfl, rfl, rfl, _, _, rfl, fun o => mem_pendOuts, fun o => ?_⟩
  rw [mem_callOuts]
  constructor
  · rintro ⟨cl, hcl, hi, ho⟩
    obtain ⟨h1, h2⟩ := List.mem_filter.1 hcl
    exact ⟨cl, h1, by simpa using h2, hi, ho⟩
  · rintro ⟨cl, hcl, hna, hi, ho⟩
    exact ⟨cl, List.mem_filter.2 ⟨hcl, by simpa using hna⟩, hi, ho⟩

/-- … in short: the timer of an (external) request that has used up its retries
reports `failed rid timeout`, every output of the call is such a report, and every entry of the
session list — for the call's own node address as for all other keys — is still there afterwards,
with the same session and the same stamp. -/
theorem request_timeout_reports_and_keeps_entries (c : Cfg) (call : Call) (s : HState) (os : List Out)
    (h : call.retries ≥ c.requestRetries) (hext : call.internal = false) :
    (∃ new, ((handleRequestTimeout c call).run (s, os)).2.2 = os ++ Out.failed call.rid .timeout :: new ∧
      ∀ o ∈ new, ∃ rid, o = .failed rid .timeout) ∧
    (∀ e, e ∈ ((handleRequestTimeout c call).run (s, os)).2.1.sessions ↔ e ∈ s.sessions) := by
  obtain ⟨hs, -, -, rest1, rest2, ho, h1, h2⟩ := request_timeout_exhausted c call s os h
  refine ⟨⟨rest1 ++ rest2, ?_, fun o hm => ?_⟩, fun e => by rw [hs]⟩
  · rw [ho, hext]; simp
  · rcases List.mem_append.1 hm with hm | hm
    · obtain ⟨pr, -, -, rfl⟩ := (h1 o).1 hm; exact ⟨_, rfl⟩
    · obtain ⟨cl, -, -, -, rfl⟩ := (h2 o).1 hm; exact ⟨_, rfl⟩

/-- The step-level corollary, in the form that is true: if the outputs of a handler step contain
`failed rid timeout`, then the step is a timer step `adv dt`, and — provided no challenge timer is due
within it — the session list after the step is the list before it.
What is missing for the unconditional statement: a challenge timer due in the same `adv` step
releases the requests queued behind that challenge (`send_pending_requests`), and sending them is a
use of the sessions they are sent under (see the counterexample below and
`timeout_step_keeps_live_sessions` for what holds without the proviso). -/
theorem timeout_step_keeps_sessions_partial (c : Cfg) (s : HState) (ev : Ev) (rid : Nat)
    (h : Out.failed rid .timeout ∈ (step c s ev).2) :
    ∃ dt, ev = .adv dt ∧
      ((∀ e ∈ s.challenges, s.now + dt < e.2.2.1) → (step c s ev).1.sessions = s.sessions) := by
  obtain ⟨dt, rfl⟩ := RQ.timeout_failure_only_on_adv c s ev rid h
  exact ⟨dt, rfl, step_adv_no_challenge c s dt⟩

/-- Without any proviso: a step that reports a timeout (it is a timer step) does not move the
real-time clock, loses no live session — every node address for which `sessGetMut` would hand out a
session before the step still gets one after it — and creates or re-keys none: every entry after
the step carries, for its address, the keys of an entry from before the step. -/
theorem timeout_step_keeps_live_sessions (c : Cfg) (s : HState) (ev : Ev) (rid : Nat)
    (h : Out.failed rid .timeout ∈ (step c s ev).2) :
    (step c s ev).1.rt = s.rt ∧
    (∀ na, (∃ sess, ((sessGetMut c na).run (s, [])).1 = some sess) →
      ∃ sess', ((sessGetMut c na).run ((step c s ev).1, [])).1 = some sess') ∧
    (∀ e' ∈ (step c s ev).1.sessions,
      ∃ e ∈ s.sessions, e.1 = e'.1 ∧ e.2.1.keys = e'.2.1.keys ∧ e.2.1.oldKeys = e'.2.1.oldKeys) := by
  obtain ⟨dt, rfl⟩ := RQ.timeout_failure_only_on_adv c s ev rid h
  have hrt := step_rt c s (.adv dt) (fun _ h => nomatch h)
  refine ⟨hrt, fun na hn => ?_, step_adv_no_new_session c s dt⟩
  have := step_adv_keeps_live c s dt na ((liveIn_iff c s [] na).2 hn)
  rw [← hrt] at this
  exact (liveIn_iff c _ [] na).1 this

/-- … and when the list holds one entry per node address (as it does in every reachable state,
`timeout_step_live_session_survives_run`): the live session with `na` is after the step still live
and still the same session — same keys, same previous keys; only its message counter, its stamp
and its place in the list may have changed (by requests released in the same step). -/
theorem timeout_step_live_session_survives (c : Cfg) (s : HState) (ev : Ev) (rid : Nat) (na : NA)
    (sess : Session) (hnd : (s.sessions.map (·.1)).Nodup)
    (h : Out.failed rid .timeout ∈ (step c s ev).2)
    (hs : ((sessGetMut c na).run (s, [])).1 = some sess) :
    ∃ sess', ((sessGetMut c na).run ((step c s ev).1, [])).1 = some sess' ∧
      sess'.keys = sess.keys ∧ sess'.oldKeys = sess.oldKeys := by
  obtain ⟨-, hlive, hkeys⟩ := timeout_step_keeps_live_sessions c s ev rid h
  obtain ⟨sess', hs'⟩ := hlive na ⟨sess, hs⟩
  refine ⟨sess', hs', ?_⟩
  obtain ⟨stamp, hf, -⟩ := (AT.sessGetMut_some_iff c na (s, []) sess).1 hs
  obtain ⟨stamp', hf', -⟩ := (AT.sessGetMut_some_iff c na (_, []) sess').1 hs'
  obtain ⟨e, he, hk, h1, h2⟩ := hkeys _ (List.mem_of_find?_eq_some hf')
  have hpw : s.sessions.Pairwise (fun a b => a.1 ≠ b.1) := List.pairwise_map.1 hnd
  have : e = (na, sess, stamp) := Cr.entry_unique hpw he (List.mem_of_find?_eq_some hf) hk
  subst this
  exact ⟨h1.symm, h2.symm⟩

/-- The same along a history. -/
theorem timeout_step_live_session_survives_run (c : Cfg) (evs : List Ev) (ev : Ev) (rid : Nat) (na : NA)
    (sess : Session) (h : Out.failed rid .timeout ∈ (step c (run c evs) ev).2)
    (hs : ((sessGetMut c na).run (run c evs, [])).1 = some sess) :
    ∃ sess', ((sessGetMut c na).run (run c (evs ++ [ev]), [])).1 = some sess' ∧
      sess'.keys = sess.keys ∧ sess'.oldKeys = sess.oldKeys := by
  rw [RQ.run_snoc]
  exact timeout_step_live_session_survives c (run c evs) ev rid na sess (run_keys_nodup c evs) h hs

/-! ### B. A response goes out exactly when there is a live session -/

/-- A live session for `na`: the response is put on the wire — exactly one output is appended, a
datagram to `na`; it is a message packet under a fresh nonce whose ciphertext is sealed under the
*encryption key of that session*, with the session's next message counter and the response itself
as plaintext.  Besides, the nonce counter is bumped and the session entry is refreshed (part C);
nothing else changes. -/
theorem response_sent_under_live_session (c : Cfg) (s : HState) (os : List Out) (na : NA) (rid : Nat)
    (rb : RespBody) (sess : Session) (h : ((sessGetMut c na).run (s, os)).1 = some sess) :
    (sendResponse c na rid rb).run (s, os) =
      ((), ({ s with
              sessions := s.sessions.filter (·.1 != na) ++ [(na, { sess with counter := sess.counter + 1 }, s.rt)],
              fresh := { s.fresh with nonce := s.fresh.nonce + 1 } },
        os ++ [.send na (.message c.localId (mkName c (s.fresh.nonce + 1))
          (.enc sess.keys.enc (mkName c (s.fresh.nonce + 1)) (sess.counter + 1) (.response rid rb) true))])) := by
  unfold sendResponse
  simp only [run_bind, h, sessGetMut_some_run h, RQ.encryptMessage_run, sessPut, run_modS, run_send,
    map_put_touch]

/-- No live session for `na` (none at all, or one that has outlived the session timeout): the
response is dropped — no output whatsoever — and the only change of the state is that a stale entry
for `na`, if there was one, is gone. -/
theorem response_dropped_without_session (c : Cfg) (s : HState) (os : List Out) (na : NA) (rid : Nat)
    (rb : RespBody) (h : ((sessGetMut c na).run (s, os)).1 = none) :
    (sendResponse c na rid rb).run (s, os) =
      ((), ({ s with sessions := s.sessions.filter (·.1 != na) }, os)) := by
  unfold sendResponse
  simp only [run_bind, h, sessGetMut_none_run h, run_pure]

/-- Both directions in one: the step for the application's response sends something — indeed
outputs anything at all — if and only if there is a live session for the destination. -/
theorem response_sent_iff_live_session (c : Cfg) (s : HState) (na : NA) (rid : Nat) (rb : RespBody) :
    ((∃ p, Out.send na p ∈ (step c s (.appResponse na rid rb)).2) ↔
      ∃ sess, ((sessGetMut c na).run (s, [])).1 = some sess) ∧
    ((step c s (.appResponse na rid rb)).2 ≠ [] ↔
      ∃ sess, ((sessGetMut c na).run (s, [])).1 = some sess) := by
  rw [RQ.step_eq, stepM_appResponse]
  cases hs : ((sessGetMut c na).run (s, [])).1 with
  | none =>
    rw [response_dropped_without_session c s [] na rid rb hs]
    refine ⟨⟨?_, ?_⟩, fun h => absurd rfl h, ?_⟩ <;> exact fun ⟨_, h⟩ => nomatch h
  | some sess =>
    rw [response_sent_under_live_session c s [] na rid rb sess hs]
    exact ⟨⟨fun _ => ⟨sess, rfl⟩, fun _ => ⟨_, List.mem_singleton.2 rfl⟩⟩, fun _ => ⟨sess, rfl⟩,
      fun _ h => nomatch h⟩

/-! ### C. Answering is a use of the session -/

/-- In the live case the session list after the step is: all entries of the other node addresses, in
their old order and with their old stamps, followed by the entry of `na` — the session with its
message counter bumped — stamped with the current real-time clock. -/
theorem answering_refreshes_session (c : Cfg) (s : HState) (na : NA) (rid : Nat) (rb : RespBody)
    (sess : Session) (h : ((sessGetMut c na).run (s, [])).1 = some sess) :
    (step c s (.appResponse na rid rb)).1.sessions =
      s.sessions.filter (·.1 != na) ++ [(na, { sess with counter := sess.counter + 1 }, s.rt)] := by
  rw [RQ.step_eq, stepM_appResponse, response_sent_under_live_session c s [] na rid rb sess h]

/-- … so the entry of `na` is the most recently used one: it sits at the back of the list, with
stamp `s.rt`, and it is the only entry for `na`. -/
theorem answering_makes_most_recently_used (c : Cfg) (s : HState) (na : NA) (rid : Nat) (rb : RespBody)
    (sess : Session) (h : ((sessGetMut c na).run (s, [])).1 = some sess) :
    (step c s (.appResponse na rid rb)).1.sessions.getLast? =
      some (na, { sess with counter := sess.counter + 1 }, s.rt) ∧
    (∀ e ∈ (step c s (.appResponse na rid rb)).1.sessions.dropLast, e.1 ≠ na) := by
  rw [answering_refreshes_session c s na rid rb sess h]
  refine ⟨by simp, ?_⟩
  rw [List.dropLast_concat]
  exact AT.gone_filter na s.sessions

/-- The same in the vocabulary of the cache model (`Model/Lru.lean`, `Props/C15Handler.lean`): on the
session cache the step for the application's response is `LruTimeCache::get_mut` at the real-time
clock, the handed-out reference being used to bump the message counter — with or without a live
session (without one, `get_mut` hands out nothing and at most drops the stale entry). -/
theorem answering_is_get_mut (c : Cfg) (s : HState) (na : NA) (rid : Nat) (rb : RespBody) :
    toCache c (step c s (.appResponse na rid rb)).1 =
      (Lru.getMutWith (toCache c s) s.rt na (fun v => { v with counter := v.counter + 1 })).1 := by
  rw [RQ.step_eq, stepM_appResponse]
  obtain ⟨h1, h2, -, -⟩ := sessGetMut_refines c na s []
  cases hr : ((sessGetMut c na).run (s, [])).1 with
  | none =>
    rw [response_dropped_without_session c s [] na rid rb hr, getMutWith_miss_eq _ _ _ _ (h1 ▸ hr), ← h2,
      sessGetMut_none_run hr]
  | some sess =>
    rw [response_sent_under_live_session c s [] na rid rb sess hr,
      getMutWith_hit_eq_put _ _ _ _ sess (h1 ▸ hr), ← h2, sessGetMut_some_run hr]
    refine congrArg (fun m => ({ map := m, ttl := c.sessionTtl, capacity := c.sessionCap } : Lru.Cache NA Session)) ?_
    rw [← map_put_touch s.sessions na sess _ s.rt, toMap_put]
    rfl

/-! ### D. A request that is only queued does not touch the session -/

/-- `send_request` first refuses requests to the node's own socket, then tests for an outstanding
WHOAREYOU challenge to the destination, and only if there is none looks at the session
(`is_awaiting_session`, a `get_mut` of the cache).  In the situation "not to self, challenge
outstanding" the call returns without error, appends the request to the pending queue and changes
nothing else — the session list, order and stamps included, is untouched — and outputs nothing. -/
theorem queued_request_exact (c : Cfg) (contact : Contact) (rid : Nat) (internal : Bool) (body : Nat)
    (s : HState) (os : List Out) (hself : c.listen.contains contact.na.addr = false)
    (hch : s.challenges.any (·.1 == contact.na) = true) :
    (sendRequest c contact rid internal body).run (s, os) =
      (none, ({ s with pending := pushPending s.pending contact rid internal body }, os)) := by
  rw [sendRequest_split]
  simp only [hself, Bool.false_eq_true, if_false, run_bind, run_getS, hch, if_true, queueRequest_run]

/-- … spelled out: same session list, no output, and the queue kept for the destination is the old
one with the request appended. -/
theorem queued_request_leaves_sessions (c : Cfg) (contact : Contact) (rid : Nat) (internal : Bool)
    (body : Nat) (s : HState) (os : List Out) (hself : c.listen.contains contact.na.addr = false)
    (hch : s.challenges.any (·.1 == contact.na) = true) :
    ((sendRequest c contact rid internal body).run (s, os)).1 = none ∧
    ((sendRequest c contact rid internal body).run (s, os)).2.1.sessions = s.sessions ∧
    ((sendRequest c contact rid internal body).run (s, os)).2.2 = os ∧
    queuedFor ((sendRequest c contact rid internal body).run (s, os)).2.1 contact.na =
      queuedFor s contact.na ++ [{ contact := contact, rid := rid, internal := internal, body := body }] := by
  rw [queued_request_exact c contact rid internal body s os hself hch]
  exact ⟨rfl, rfl, rfl, queuedFor_pushPending s contact rid internal body⟩

/-- One handler step for the application's request in that situation: no outputs (nothing is sent,
nothing is reported), and the state differs only in the pending queue. -/
theorem queued_request_step (c : Cfg) (contact : Contact) (rid body : Nat) (s : HState)
    (hself : c.listen.contains contact.na.addr = false)
    (hch : s.challenges.any (·.1 == contact.na) = true) :
    (step c s (.appRequest contact rid body)).2 = [] ∧
    (step c s (.appRequest contact rid body)).1 =
      { s with pending := pushPending s.pending contact rid false body } ∧
    (step c s (.appRequest contact rid body)).1.sessions = s.sessions := by
  have h : (stepM c (.appRequest contact rid body)).run (s, []) =
      ((), ({ s with pending := pushPending s.pending contact rid false body }, [])) := by
    simp only [stepM, run_bind, queued_request_exact c contact rid false body s [] hself hch, run_pure]
  rw [RQ.step_eq, h]
  exact ⟨rfl, rfl, rfl⟩

/-! ### Non-vacuity, and the counterexample of part A -/
namespace C15UseEx

/-- One transmission per request, 10 ms request timeout, 1000 ms session timeout. -/
def uCfg : Cfg where
  localId := 1
  localSeq := 1
  localRec := { id := 1, seq := 1, udp4 := some 100, udp6 := none }
  requestRetries := 1
  requestTimeout := 10
  sessionTtl := 1000
  sessionCap := 8
  listen := [⟨false, 100⟩]
  findnode0 := 0

def uB : NA := { id := 2, addr := ⟨false, 7⟩ }
def uC : NA := { id := 3, addr := ⟨false, 8⟩ }
def uRecB : Rec := { id := 2, seq := 1, udp4 := some 7, udp6 := none }
def uCtB : Contact := { na := uB, record := some uRecB }
def uCtC : Contact := { na := uC, record := some { id := 3, seq := 1, udp4 := some 8, udp6 := none } }
/-- the keys of the session the handshake below creates with B -/
def uKeys : Keys :=
  { enc := { eph := 1000001, cd := 500, ini := 1, rcp := 2, toRcp := true },
    dec := { eph := 1000001, cd := 500, ini := 1, rcp := 2, toRcp := false } }

/-- A request to B, B challenges it, the handshake packet goes out: a session with B (stamp 0), and
request 7 is still unanswered (timer at 10). -/
def uOne : List Ev := [.appRequest uCtB 7 5, .dgram uB.addr (.whoareyou 1000001 500 0)]

example : (run uCfg uOne).sessions = [(uB, { keys := uKeys }, 0)] ∧ (run uCfg uOne).challenges = [] ∧
    (run uCfg uOne).active.map (fun cl => (cl.rid, cl.retries, cl.deadline)) = [(7, 1, 10)] := by
  decide +kernel

/-- A. Request 7 to B times out (hypothesis of `timeout_step_keeps_sessions_partial`, no challenge is
open): the failure is reported and the session with B — the very peer that did not answer — is still
there, same stamp. -/
example : (step uCfg (run uCfg uOne) (.adv 10)).2 = [.failed 7 .timeout] ∧
    (step uCfg (run uCfg uOne) (.adv 10)).1.sessions = [(uB, { keys := uKeys }, 0)] := by
  decide +kernel

/-- The hypotheses of `request_timeout_exhausted` / `request_timeout_reports_and_keeps_entries` on the
call whose timer fires there. -/
def uCall : Call :=
  { contact := uCtB, pkt := .message 1 1000009 .garbage, rid := 7, internal := false, body := 5,
    initiating := false, deadline := 10 }
example : uCall.retries ≥ uCfg.requestRetries ∧ uCall.internal = false ∧
    ((handleRequestTimeout uCfg uCall).run ({ sessions := [(uB, { keys := uKeys }, 0)] }, [])).2.2 =
      [.failed 7 .timeout] := by decide

/-- The response of B to request 7 arrives; 3 ms (real time) later the application asks for a
WHOAREYOU to B, then issues request 8 to B — queued behind that challenge — and request 9 to C. -/
def uPre : List Ev :=
  uOne ++ [.dgram uB.addr (.message 2 55 (.enc uKeys.dec 55 1 (.response 7 (.other 0)) true)),
    .rtAdv 3, .appWru uB 77 (some uRecB), .appRequest uCtB 8 5, .appRequest uCtC 9 5]

/-- **Counterexample** to "a step that reports a timeout leaves the session list as it is": at time
10 request 9 (to C) times out *and* the challenge to B expires; the latter releases request 8, which
is sent under the session with B.  The step reports `failed 9 timeout`, and the entry of B has
changed: stamp 0 → 3, message counter 0 → 1.  (The proviso of `timeout_step_keeps_sessions_partial`
fails: the challenge's deadline 10 is within the step.)  The session itself — its keys — is the same
and still live, as `timeout_step_live_session_survives` says. -/
example : Out.failed 9 .timeout ∈ (step uCfg (run uCfg uPre) (.adv 10)).2 ∧
    (run uCfg uPre).sessions = [(uB, { keys := uKeys }, 0)] ∧
    (step uCfg (run uCfg uPre) (.adv 10)).1.sessions = [(uB, { keys := uKeys, counter := 1 }, 3)] ∧
    (run uCfg uPre).challenges.map (fun e => (e.1, e.2.2.1)) = [(uB, 10)] := by
  decide +kernel

/-- B. A live session with B (hypothesis of `response_sent_under_live_session`):
the response goes out sealed under the session's encryption key … -/
example : ((sessGetMut uCfg uB).run (run uCfg uOne, [])).1 = some { keys := uKeys } ∧
    (step uCfg (run uCfg uOne) (.appResponse uB 4 (.other 0))).2 =
      [.send uB (.message 1 1000003 (.enc uKeys.enc 1000003 1 (.response 4 (.other 0)) true))] := by
  decide +kernel

/-- … no session with C (hypothesis of `response_dropped_without_session`): nothing happens; and
1001 ms after its last use the session with B is no longer live either: the response is dropped and
the stale entry is gone. -/
example : ((sessGetMut uCfg uC).run (run uCfg uOne, [])).1 = none ∧
    (step uCfg (run uCfg uOne) (.appResponse uC 4 (.other 0))).2 = [] ∧
    ((sessGetMut uCfg uB).run (run uCfg (uOne ++ [.rtAdv 1001]), [])).1 = none ∧
    (step uCfg (run uCfg (uOne ++ [.rtAdv 1001])) (.appResponse uB 4 (.other 0))).2 = [] ∧
    (step uCfg (run uCfg (uOne ++ [.rtAdv 1001])) (.appResponse uB 4 (.other 0))).1.sessions = [] := by
  decide +kernel

/-- C. Two sessions, B used at 0 and C used at 2; at real time 5 a response to B is sent: B moves
behind C and is stamped 5. -/
def uTwo : HState :=
  { sessions := [(uB, { keys := uKeys }, 0), (uC, { keys := uKeys }, 2)], rt := 5 }
example : (step uCfg uTwo (.appResponse uB 4 (.other 0))).1.sessions.map (fun e => (e.1, e.2.2)) =
    [(uC, 2), (uB, 5)] := by decide

/-- D. A challenge to B is open and the list holds a *stale* entry for B (last use 2000 ms ago).  A
request to B (hypotheses of `queued_request_exact`) is queued, nothing is sent, and the session list
is not even looked at: the stale entry is still there … -/
def uStale : HState :=
  { sessions := [(uB, { keys := uKeys }, 0)], rt := 2000,
    challenges := [(uB, { cd := 9, remoteRec := some uRecB }, 10, 0)] }
example : uCfg.listen.contains uCtB.na.addr = false ∧ uStale.challenges.any (·.1 == uCtB.na) = true ∧
    (step uCfg uStale (.appRequest uCtB 8 5)).2 = [] ∧
    (step uCfg uStale (.appRequest uCtB 8 5)).1.sessions = uStale.sessions ∧
    (step uCfg uStale (.appRequest uCtB 8 5)).1.pending.map (fun e => (e.1, e.2.map (·.rid))) = [(uB, [8])] := by
  decide

/-- … whereas without the open challenge the same request does go through the session lookup, which
drops the stale entry, and a handshake is started with a random packet. -/
example : (step uCfg { uStale with challenges := [] } (.appRequest uCtB 8 5)).1.sessions = [] ∧
    (step uCfg { uStale with challenges := [] } (.appRequest uCtB 8 5)).2 =
      [.send uB (.message 1 1000001 .garbage)] := by decide

end C15UseEx

end Discv5.H
