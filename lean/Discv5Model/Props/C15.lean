/-
C15 — Sessions expire and the session cache is bounded.

Part 1 (`namespace Discv5.C15.Cache`, this file): the cache itself, `LruTimeCache`
(`src/lru_time_cache.rs`, model `Model/Lru.lean`).  All theorems are for every key and value
type, every ttl, every capacity and every operation sequence (`insert`, `get`, `get_mut` + write,
`peek`, `len`, `remove`, `remove_expired_values`) at arbitrary times; where the order of time
matters the hypothesis is only that times never decrease (`NonDecreasing`).

Part 2 (`namespace Discv5.C15.Handler`, in `Props/C15Handler.lean`): the handler reaches its
sessions only through the accessors of this cache.
-/
import Discv5Model.Proofs.LruLemmas

namespace Discv5.C15.Cache
open Discv5.Lru

variable {K V : Type} [DecidableEq K]

/-! ### 1. The cache is bounded -/

/-- `len ≤ capacity` is preserved by every operation at every time, from every state. -/
theorem len_le_capacity_step (c : Cache K V) (now : Nat) (op : Op K V)
    (h : len c ≤ c.capacity) :
    len (step c now op).1 ≤ c.capacity ∧ (step c now op).1.capacity = c.capacity :=
  ⟨by have := step_bounded now op (c := c) h
      unfold Bounded at this
      rwa [step_capacity] at this,
    step_capacity c now op⟩

/-- A cache created with capacity `Some(cap)` never holds more than `cap` entries, whatever is
done to it and whenever (for every `cap`, including the degenerate `0`; no assumption on the
times at all). -/
theorem len_le_capacity (ttl cap : Nat) (ops : List (Nat × Op K V)) :
    len (run (new ttl (some cap) : Cache K V) ops) ≤ cap := by
  have h := run_bounded ops (c := (new ttl (some cap) : Cache K V)) (Nat.zero_le _)
  unfold Bounded at h
  rwa [run_capacity] at h

/-- … after every single operation of the sequence, not just at its end. -/
theorem len_le_capacity_always (ttl cap : Nat) (ops : List (Nat × Op K V)) (n : Nat) :
    len (run (new ttl (some cap) : Cache K V) (ops.take n)) ≤ cap :=
  len_le_capacity ttl cap _

/-- Capacity `None` means unbounded: the limit is `usize::MAX` = 18446744073709551615, below
which an `insert` of a new key never evicts — the list only grows. -/
theorem none_capacity_is_unbounded (ttl : Nat) (ops : List (Nat × Op K V)) (now : Nat) (k : K)
    (v : V) (hlen : len (run (new ttl none : Cache K V) ops) < 18446744073709551615)
    (hk : k ∉ keys (run (new ttl none : Cache K V) ops)) :
    (insert (run (new ttl none : Cache K V) ops) now k v).map =
      (run (new ttl none : Cache K V) ops).map ++ [⟨k, v, now⟩] := by
  apply insert_room_fresh
  · rw [run_capacity]
    exact hlen
  · intro e he hek
    exact hk (by rw [← hek]; exact List.mem_map_of_mem he)

/-! ### 2. When the capacity is reached the least recently used key is dropped -/

/-- Inserting a new key into a full cache (capacity ≥ 1), after any history: the front entry
`lru` and nothing else disappears, all other entries stay as they are and in order, the new
entry becomes the last one; and `lru` is the least recently used key — the last use (`insert`,
or `get`/`get_mut` that returned a value) of every other key held is later in the history than
the last use of `lru`. -/
theorem insert_evicts_lru (ttl cap : Nat) (ops : List (Nat × Op K V)) (now : Nat) (k : K) (v : V)
    (hcap : 1 ≤ cap) (hfull : len (run (new ttl (some cap) : Cache K V) ops) = cap)
    (hk : k ∉ keys (run (new ttl (some cap) : Cache K V) ops)) :
    ∃ lru rest, (run (new ttl (some cap) : Cache K V) ops).map = lru :: rest ∧
      (insert (run (new ttl (some cap) : Cache K V) ops) now k v).map = rest ++ [⟨k, v, now⟩] ∧
      ∀ e ∈ rest, UsedBefore (useLog (new ttl (some cap) : Cache K V) ops) lru.key e.key := by
  have hrec := run_recency (log := []) ops (c := (new ttl (some cap) : Cache K V))
    ⟨List.Pairwise.nil, fun _ h => by cases h⟩
  have hc : (run (new ttl (some cap) : Cache K V) ops).capacity = cap := run_capacity _ _
  have hins := insert_full_fresh (c := run (new ttl (some cap) : Cache K V) ops) now (k := k) v
    (by rw [hc]; exact hfull) (by rw [hc]; exact hcap)
    (fun e he hek => hk (by rw [← hek]; exact List.mem_map_of_mem he))
  unfold len at hfull
  cases hm : (run (new ttl (some cap) : Cache K V) ops).map with
  | nil => rw [hm] at hfull; simp at hfull; omega
  | cons lru rest =>
    rw [hm] at hins hrec
    refine ⟨lru, rest, rfl, hins, ?_⟩
    rw [List.nil_append] at hrec
    exact (List.pairwise_cons.1 hrec.1).1

/-- The entry dropped by such an insert carries the oldest stamp (times non-decreasing). -/
theorem lru_has_oldest_stamp (ttl : Nat) (cap : Option Nat) (ops : List (Nat × Op K V))
    (hm : NonDecreasing 0 ops) (lru : Entry K V) (rest : List (Entry K V))
    (h : (run (new ttl cap : Cache K V) ops).map = lru :: rest) :
    ∀ e ∈ rest, lru.stamp ≤ e.stamp := by
  have hwf := run_wf ops (new_wf ttl cap 0) hm
  have := hwf.sorted.1
  rw [h] at this
  exact (List.pairwise_cons.1 this).1

/-- Nothing is dropped before the capacity is reached. -/
theorem insert_below_capacity_keeps_all (c : Cache K V) (now : Nat) (k : K) (v : V)
    (hroom : len c < c.capacity) (hk : k ∉ keys c) :
    (insert c now k v).map = c.map ++ [⟨k, v, now⟩] :=
  insert_room_fresh now v hroom (fun e he hek => hk (by rw [← hek]; exact List.mem_map_of_mem he))

/-- Re-inserting a key that is held replaces its value and stamp, makes it the most recently
used entry and evicts nothing. -/
theorem insert_existing_moves_to_back (c : Cache K V) (now : Nat) (k : K) (v : V)
    (hb : len c ≤ c.capacity) (hk : k ∈ keys c) :
    (insert c now k v).map = lhmErase c.map k ++ [⟨k, v, now⟩] := by
  obtain ⟨e, he, hek⟩ := List.mem_map.1 hk
  have := length_lhmErase_lt he hek
  unfold len at hb
  rw [insert_map, if_neg (by rw [List.length_append, List.length_singleton]; omega)]

/-! ### 3. Expiry: a value is returned only within `ttl` of its last use -/

/-- `get_mut` (with any use `f` of the reference; `get` is `f = id`) returns `v` exactly if the
cache holds `k ↦ v` and no more than `ttl` has passed since the stamp of that entry. -/
theorem get_fresh (c : Cache K V) (hd : Distinct c) (now : Nat) (k : K) (f : V → V) (v : V) :
    (getMutWith c now k f).2 = some v ↔
      ∃ e ∈ c.map, e.key = k ∧ e.val = v ∧ now ≤ e.stamp + c.ttl := by
  constructor
  · intro h
    rcases getMutWith_cases c now k f with ⟨_, hr⟩ | ⟨e, _, _, hr⟩ | ⟨e, hg, hx, hr⟩ <;>
      rw [hr] at h
    · cases h
    · cases h
    · injection h with h
      exact ⟨e, (lhmGet_some hg).1, (lhmGet_some hg).2, h, by omega⟩
  · rintro ⟨e, he, hk, hv, hx⟩
    have hg := lhmGet_of_mem hd he
    rw [hk] at hg
    rw [getMutWith_hit hg (by omega), hv]

/-- The same for `get`. -/
theorem get_fresh' (c : Cache K V) (hd : Distinct c) (now : Nat) (k : K) (v : V) :
    (get c now k).2 = some v ↔ ∃ e ∈ c.map, e.key = k ∧ e.val = v ∧ now ≤ e.stamp + c.ttl :=
  get_fresh c hd now k id v

/-- A hit refreshes stamp and recency: the entry of `k` (with the caller's write applied) is
re-stamped `now` and moved to the back; every other entry is untouched and keeps its place. -/
theorem get_hit_refreshes (c : Cache K V) (now : Nat) (k : K) (f : V → V) (v : V)
    (h : (getMutWith c now k f).2 = some v) :
    (getMutWith c now k f).1.map = lhmErase c.map k ++ [⟨k, f v, now⟩] := by
  rcases getMutWith_cases c now k f with ⟨_, hr⟩ | ⟨e, _, _, hr⟩ | ⟨e, hg, hx, hr⟩ <;>
    rw [hr] at h ⊢
  · cases h
  · cases h
  · injection h with h
    rw [← h, (lhmGet_some hg).2]

/-- An expired entry is reported absent and is gone afterwards (everything else stays). -/
theorem get_expired_is_absent_and_removed (c : Cache K V) (hd : Distinct c) (now : Nat) (k : K)
    (f : V → V) (e : Entry K V) (he : e ∈ c.map) (hk : e.key = k) (hx : e.stamp + c.ttl < now) :
    (getMutWith c now k f).2 = none ∧ (getMutWith c now k f).1.map = lhmErase c.map k ∧
      k ∉ keys (getMutWith c now k f).1 := by
  have hg := lhmGet_of_mem hd he
  rw [hk] at hg
  rw [getMutWith_expired hg hx]
  refine ⟨rfl, rfl, ?_⟩
  intro hmem
  obtain ⟨a, ha, hak⟩ := List.mem_map.1 hmem
  exact (mem_lhmErase.1 ha).2 hak

/-- `peek` returns `v` exactly if the cache holds `k ↦ v` stamped no more than `ttl` ago. -/
theorem peek_fresh (c : Cache K V) (hd : Distinct c) (now : Nat) (k : K) (v : V) :
    peek c now k = some v ↔ ∃ e ∈ c.map, e.key = k ∧ e.val = v ∧ now ≤ e.stamp + c.ttl := by
  rw [peek_eq_getMutWith c now k id]
  exact get_fresh c hd now k id v

/-- Expired entries are never returned.  Take any cache in which whatever is held for `k` was
last stamped at `s` or before.  Let any operations follow that do not use `k` (`pre`: no
`insert k`, `get k`, `get_mut k`; any times), and then any operations `post` that all happen
later than `s + ttl` and do not insert `k` again.  Then every `get k`, `get_mut k` and `peek k`
in `post` reports the key absent. -/
theorem expired_never_returned (c : Cache K V) (k : K) (s : Nat) (pre post : List (Nat × Op K V))
    (hs : StampLe c k s) (hpre : ∀ p ∈ pre, usesKey k p.2 = false)
    (hpost : ∀ p ∈ post, s + c.ttl < p.1 ∧ insertsKey k p.2 = false) :
    ∀ x ∈ trace (run c pre) post, queriesKey k x.2.1 = true → x.2.2 = Reply.val none := by
  apply trace_after_deadline post (run_stampLe_of_not_uses pre hs hpre)
  rw [run_ttl]
  exact hpost

/-- The same over whole histories: run any history `hist` (times non-decreasing) up to time
`s`, then operations that do not use `k`, then operations later than `s + ttl` that do not
insert `k`: none of the latter gets a value for `k`. -/
theorem expired_never_returned_history (ttl : Nat) (cap : Option Nat) (k : K)
    (hist pre post : List (Nat × Op K V)) (hm : NonDecreasing 0 hist)
    (hpre : ∀ p ∈ pre, usesKey k p.2 = false)
    (hpost : ∀ p ∈ post, lastTime 0 hist + ttl < p.1 ∧ insertsKey k p.2 = false) :
    ∀ x ∈ trace (run (run (new ttl cap : Cache K V) hist) pre) post,
      queriesKey k x.2.1 = true → x.2.2 = Reply.val none := by
  have hwf := run_wf hist (new_wf ttl cap 0) hm
  apply expired_never_returned _ k (lastTime 0 hist) pre post
    (fun e he _ => hwf.sorted.2 e he) hpre
  rw [run_ttl]
  exact hpost

omit [DecidableEq K] in
/-- The sweep (`remove_expired_values`) removes exactly the expired entries: it only walks the
front of the list, but the list is sorted by stamp. -/
theorem sweep_removes_exactly_expired (c : Cache K V) (t now : Nat) (h : WF c t) :
    (removeExpired c now).1.map = live c.ttl now c.map :=
  dropWhile_eq_live h.sorted.1

/-! ### 4. Refinement: a bounded LRU map of live entries -/

/-- Each operation commutes with the abstraction "live entries in recency order": the cache
behaves like a map `key ↦ (value, time of last use)` that forgets an entry once it is older
than `ttl`, holds at most `capacity` entries and drops the least recently used one when a new
key does not fit.  Replies agree (see `ReplyRefines` for `len`, `remove` and the sweep, which
can see entries that are dead but not yet dropped). -/
theorem refines_spec_step (c : Cache K V) (t now : Nat) (op : Op K V) (h : WF c t) (ht : t ≤ now) :
    live c.ttl now (step c now op).1.map =
        (Spec.step c.ttl c.capacity now (live c.ttl t c.map) op).1 ∧
      ReplyRefines op (step c now op).2
        (Spec.step c.ttl c.capacity now (live c.ttl t c.map) op).2 ∧
      WF (step c now op).1 now :=
  ⟨(step_refines now op h ht).1, (step_refines now op h ht).2, step_wf now op h ht⟩

/-- … and so does every history with non-decreasing times, from a new cache. -/
theorem refines_spec (ttl : Nat) (cap : Option Nat) (ops : List (Nat × Op K V))
    (hm : NonDecreasing 0 ops) :
    live ttl (lastTime 0 ops) (run (new ttl cap : Cache K V) ops).map =
      Spec.run ttl (new ttl cap : Cache K V).capacity [] ops :=
  run_refines ops (new_wf ttl cap 0) hm

/-- Dead entries never displace a live one: if an insert of a new key makes a live entry
disappear, the live entries alone already filled the capacity. -/
theorem eviction_of_live_entry_only_when_full_of_live (c : Cache K V) (t now : Nat) (k : K) (v : V)
    (h : WF c t) (ht : t ≤ now) (e : Entry K V) (he : e ∈ live c.ttl now c.map) (hek : e.key ≠ k)
    (hgone : e ∉ (insert c now k v).map) :
    c.capacity ≤ (lhmErase (live c.ttl now c.map) k).length := by
  have hr := insert_refines now k v h ht
  have hnot : e ∉ live c.ttl now (insert c now k v).map := fun hm => hgone (mem_live.1 hm).1
  rw [hr] at hnot
  unfold Spec.insert at hnot
  have hmem : e ∈ lhmErase (live c.ttl now c.map) k ++ [(⟨k, v, now⟩ : Entry K V)] :=
    List.mem_append_left _ (mem_lhmErase.2 ⟨he, hek⟩)
  by_cases hgt : (lhmErase (live c.ttl now c.map) k ++ [(⟨k, v, now⟩ : Entry K V)]).length
      > c.capacity
  · rw [List.length_append, List.length_singleton] at hgt; omega
  · rw [if_neg hgt] at hnot
    exact absurd hmem hnot

/-! ### Non-vacuity: concrete histories satisfying the hypotheses -/

/-- capacity 2: insert 1, insert 2, read 1, insert 3 — key 2 (least recently used) is dropped. -/
example : keys (run (new 10 (some 2) : Cache Nat Nat)
    [(0, .insert 1 10), (1, .insert 2 20), (2, .get 1), (3, .insert 3 30)]) = [1, 3] := by decide

/-- hypotheses of `insert_evicts_lru`: a full cache and a key it does not hold. -/
example : len (run (new 10 (some 2) : Cache Nat Nat) [(0, .insert 1 10), (1, .insert 2 20), (2, .get 1)])
      = 2 ∧ 3 ∉ keys (run (new 10 (some 2) : Cache Nat Nat)
        [(0, .insert 1 10), (1, .insert 2 20), (2, .get 1)]) := by decide

example : NonDecreasing 0 ([(0, .insert 1 10), (1, .insert 2 20), (2, .get 1)] : List (Nat × Op Nat Nat)) := by
  simp [NonDecreasing]

/-- ttl 10: a read exactly 10 after the insert hits and refreshes; 11 after that refresh it
misses, and the entry is gone. -/
example : (trace (new 10 none : Cache Nat Nat) [(0, .insert 1 7), (10, .get 1), (21, .get 1), (21, .len)]).map
    (fun x => match x.2.2 with | .val o => o | .num n => some n | _ => none)
      = [none, some 7, none, some 0] := by decide

/-- hypotheses of `expired_never_returned`: key 1 stamped at 0, ttl 10, other traffic, then
queries after time 10. -/
example : StampLe (run (new 10 none : Cache Nat Nat) [(0, .insert 1 7)]) 1 0 ∧
    (∀ p ∈ ([(5, .insert 2 8), (6, .peek 1)] : List (Nat × Op Nat Nat)), usesKey 1 p.2 = false) ∧
    (∀ p ∈ ([(11, .get 1), (12, .peek 1)] : List (Nat × Op Nat Nat)),
      0 + (run (new 10 none : Cache Nat Nat) [(0, .insert 1 7)]).ttl < p.1 ∧ insertsKey 1 p.2 = false) := by
  refine ⟨?_, by decide, by decide⟩
  intro e he _
  have : e.stamp = 0 := by
    have : e ∈ [(⟨1, 7, 0⟩ : Entry Nat Nat)] := he
    rw [List.mem_singleton] at this
    rw [this]
  omega

/-- a well-formed cache with a dead and a live entry: the live part is a proper part. -/
example : live 10 20 (run (new 10 (some 3) : Cache Nat Nat) [(0, .insert 1 7), (15, .insert 2 8)]).map
    = [⟨2, 8, 15⟩] ∧ len (run (new 10 (some 3) : Cache Nat Nat) [(0, .insert 1 7), (15, .insert 2 8)]) = 2 := by
  constructor
  · rfl
  · rfl

end Discv5.C15.Cache
