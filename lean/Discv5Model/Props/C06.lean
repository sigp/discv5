/-
C06 — RPC message codec is exact, total and strict.
Numbers are the literals of the property statement (8, 256, 4, 16, 65535, message types 1…6); the
model uses the constants regenerated from /repo/src, so a changed source constant breaks these
proofs.  All theorems hold for every record decoder `recDec` (only `decode_never_panics` needs the
assumption `OracleSound`: a decoded record is re-encoded to at least one and at most as many bytes
as the item it was read from, which is how `payload.advance(enr.size())` stays in range).
-/
import Discv5Model.Proofs.RpcLemmas

namespace Discv5.Rpc
open Discv5.Rlp

/-- Round trip.  For every well-formed message of the six types (id of 0..8 bytes, `enr_seq` and
`total` below 2^64, any list of distances each ≤ 256, any list of canonical valid records,
arbitrary protocol / request / response bytes, port 1..65535, an IPv4 address or an IPv6 address
that is `::1` or not IPv4-mapped or IPv4-compatible) decoding the encoded bytes yields the same message. -/
theorem decode_encode (recDec : Bytes → Option Bytes) (m : Message) (h : WF recDec m) :
    decode recDec (encode m) = .ok m := by
  obtain ⟨id, body⟩ := m
  rw [decode_encode_eq recDec id body h.size, if_neg (by have := h.id; dsimp only at this; omega)]
  exact decodeBody_tail recDec id body h.body (tail_size id body h.size)

/-- Layout: the bytes are the message-type byte followed by one RLP list holding the request id
and the fields in the order of the discv5 wire specification:
PING `[id, enr-seq]` (1), PONG `[id, enr-seq, ip, port]` (2), FINDNODE `[id, [distances…]]` (3),
NODES `[id, total, [records…]]` (4), TALKREQ `[id, protocol, request]` (5), TALKRESP `[id,
response]` (6). -/
theorem encode_layout (id : Bytes) :
    (∀ s, encode ⟨id, .ping s⟩ = 1 :: rlpList (encodeBytes id ++ encodeUint s)) ∧
    (∀ s ip port, encode ⟨id, .pong s ip port⟩ =
      2 :: rlpList (encodeBytes id ++ encodeUint s ++ encodeBytes ip.octets ++ encodeUint port)) ∧
    (∀ ds, encode ⟨id, .findNode ds⟩ =
      3 :: rlpList (encodeBytes id ++ rlpList ((ds.map encodeUint).flatten))) ∧
    (∀ total rs, encode ⟨id, .nodes total rs⟩ =
      4 :: rlpList (encodeBytes id ++ encodeUint total ++ rlpList rs.flatten)) ∧
    (∀ p r, encode ⟨id, .talkReq p r⟩ = 5 :: rlpList (encodeBytes id ++ encodeBytes p ++ encodeBytes r)) ∧
    (∀ r, encode ⟨id, .talkResp r⟩ = 6 :: rlpList (encodeBytes id ++ encodeBytes r)) := by
  refine ⟨fun s => ?_, fun s ip port => ?_, fun ds => ?_, fun total rs => ?_, fun p r => ?_,
    fun r => ?_⟩
  · rw [encode_eq]; rfl
  · rw [encode_eq]; simp [frame, rlpList, Body.tail, msgType_pong]
  · rw [encode_eq]
    show frame 3 (encodeBytes id ++ encodeU64List ds) = _
    unfold encodeU64List
    rw [← flatten_encodeUint_length]
    rfl
  · rw [encode_eq]; simp [frame, rlpList, Body.tail, msgType_nodes]
  · rw [encode_eq]; simp [frame, rlpList, Body.tail, msgType_talkReq]
  · rw [encode_eq]; rfl

/-- Layout of the items: an integer below 2^64 is the byte string of its minimal big-endian
representation (no leading zero, zero = empty string); a byte string is itself when it is a
single byte below `0x80`, otherwise `header ‖ bytes`; a header is `base + len` for `len < 56`
and `base' + |len| ‖ len` (minimal big-endian) otherwise. -/
theorem item_layout :
    (∀ x, x < 2 ^ 64 → encodeUint x = encodeBytes (beMin x)) ∧
    (∀ b : Bytes, encodeBytes b =
      if b.length = 1 ∧ (∀ x ∈ b, x.toNat < 0x80) then b else encodeHeader false b.length ++ b) ∧
    (∀ list len, len < 56 →
      encodeHeader list len = [UInt8.ofNat ((if list then 0xC0 else 0x80) + len)]) ∧
    (∀ list len, 56 ≤ len → encodeHeader list len =
      UInt8.ofNat ((if list then 0xF7 else 0xB7) + (beMin len).length) :: beMin len) := by
  refine ⟨encodeUint_eq, encodeBytes_eq, fun list len h => ?_, fun list len h => ?_⟩
  · unfold encodeHeader; rw [if_pos h]
  · unfold encodeHeader; rw [if_neg (by omega)]

/-- Totality: `Message::decode` terminates without panicking on every byte string (every slice,
index and `advance` is in range), for every record decoder whose re-encoding of an accepted record
is non-empty and not longer than the item it was read from. -/
theorem decode_never_panics (recDec : Bytes → Option Bytes) (horacle : OracleSound recDec)
    (b : Bytes) : decode recDec b ≠ .panic :=
  decode_ne_panic recDec horacle b

/-- Trailing bytes are rejected: no accepted byte string stays accepted when bytes are appended. -/
theorem reject_trailing (recDec : Bytes → Option Bytes) (b t : Bytes) (m : Message)
    (h : decode recDec b = .ok m) (ht : t ≠ []) : decode recDec (b ++ t) = .err .extraData := by
  obtain ⟨ty, p, hd, payload, idB, rest, rfl, hp, hh, hl, hlen, _⟩ := decode_inv recDec b m h
  have htl : 0 < t.length := List.length_pos_iff.mpr ht
  rw [List.cons_append, decode_cons recDec ty (p ++ t) (by simp; omega),
    Header.decode_append p t hd payload hh, Res.ok_bind]
  simp only [hl, Bool.not_true, Bool.false_eq_true, if_false]
  rw [if_pos (by simp; omega)]

/-- Missing bytes are rejected: every strict prefix of an accepted byte string is rejected. -/
theorem reject_truncated (recDec : Bytes → Option Bytes) (b : Bytes) (m : Message) (n : Nat)
    (h : decode recDec b = .ok m) (hn : n < b.length) :
    ∃ e, decode recDec (b.take n) = .err e := by
  obtain ⟨ty, p, hd, payload, idB, rest, rfl, hp, hh, hl, hlen, _⟩ := decode_inv recDec b m h
  by_cases h3 : n < 3
  · exact ⟨_, decode_short recDec _ (by simp; omega)⟩
  · obtain ⟨k, rfl⟩ : ∃ k, n = k + 1 := ⟨n - 1, by omega⟩
    simp only [List.length_cons] at hn
    rw [List.take_succ_cons, decode_cons recDec ty (p.take k) (by simp; omega)]
    cases hq : Header.decode (p.take k) with
    | panic => exact absurd hq (Header.decode_ne_panic _)
    | err e => exact ⟨e, rfl⟩
    | ok x =>
      obtain ⟨h', r'⟩ := x
      have happ := Header.decode_append (p.take k) (p.drop k) h' r' hq
      rw [List.take_append_drop, hh] at happ
      simp only [Res.ok.injEq, Prod.mk.injEq] at happ
      obtain ⟨rfl, rfl⟩ := happ
      refine ⟨.extraData, ?_⟩
      rw [Res.ok_bind]
      simp only [hl, Bool.not_true, Bool.false_eq_true, if_false]
      rw [if_pos (by simp at hlen; omega)]

/-- Request ids longer than 8 bytes are rejected: every accepted message has an id of at most 8
bytes. -/
theorem reject_long_id (recDec : Bytes → Option Bytes) (b : Bytes) (m : Message)
    (h : decode recDec b = .ok m) : m.id.length ≤ 8 :=
  (decode_sound recDec b m h).1

/-- … and the encoding of any message whose id has more than 8 bytes is rejected. -/
theorem reject_long_id_encoded (recDec : Bytes → Option Bytes) (id : Bytes) (body : Body)
    (hid : 8 < id.length) (hsize : (encode ⟨id, body⟩).length < 2 ^ 64) :
    decode recDec (encode ⟨id, body⟩) = .err .invalidIdLength := by
  rw [decode_encode_eq recDec id body hsize, if_pos hid]

/-- FINDNODE distances above 256 are rejected: every accepted FINDNODE holds only distances
≤ 256. -/
theorem reject_distance_gt_256 (recDec : Bytes → Option Bytes) (b id : Bytes) (ds : List Nat)
    (h : decode recDec b = .ok ⟨id, .findNode ds⟩) : ∀ d ∈ ds, d ≤ 256 :=
  (decode_sound recDec b _ h).2

/-- … and the encoding of a FINDNODE with a distance above 256 is rejected. -/
theorem reject_distance_gt_256_encoded (recDec : Bytes → Option Bytes) (id : Bytes)
    (ds : List Nat) (hid : id.length ≤ 8) (hds : ∀ d ∈ ds, d < 2 ^ 64) (d : Nat) (hd : d ∈ ds)
    (hbig : 256 < d) (hsize : (encode ⟨id, .findNode ds⟩).length < 2 ^ 64) :
    decode recDec (encode ⟨id, .findNode ds⟩) = .err .badDistance := by
  rw [decode_encode_eq recDec id _ hsize, if_neg (by omega), msgType_findNode, Body.tail,
    decodeBody_findNode_raw recDec id ds hds (tail_size id _ hsize), if_pos]
  simp only [List.any_eq_true, decide_eq_true_eq]
  exact ⟨d, hd, hbig⟩

/-- A zero port is rejected: the port of every accepted PONG is in 1..65535. -/
theorem reject_zero_port (recDec : Bytes → Option Bytes) (b id : Bytes) (s : Nat) (ip : Ip)
    (port : Nat) (h : decode recDec b = .ok ⟨id, .pong s ip port⟩) : 1 ≤ port ∧ port ≤ 65535 :=
  (decode_sound recDec b _ h).2.2.2

/-- … and the encoding of a PONG with port 0 (and otherwise valid fields) is rejected. -/
theorem reject_zero_port_encoded (recDec : Bytes → Option Bytes) (id : Bytes) (s : Nat) (ip : Ip)
    (hid : id.length ≤ 8) (hs : s < 2 ^ 64) (hip : ip.octets.length = 4 ∨ ip.octets.length = 16)
    (hsize : (encode ⟨id, .pong s ip 0⟩).length < 2 ^ 64) :
    decode recDec (encode ⟨id, .pong s ip 0⟩) = .err .zeroPort := by
  obtain ⟨ip', hip'⟩ := ipOfBytes_total ip.octets hip
  have h16 : (16 : Nat) < 2 ^ 64 := by decide
  rw [decode_encode_eq recDec id _ hsize, if_neg (by omega), msgType_pong, Body.tail,
    decodeBody_pong_raw recDec id s ip.octets 0 hs (by omega) (by omega), hip', Res.ok_bind]
  rfl

/-- An IP field that has neither 4 nor 16 bytes is rejected: the address of every accepted PONG
has 4 (IPv4) or 16 (IPv6) octets. -/
theorem reject_bad_ip_len (recDec : Bytes → Option Bytes) (b id : Bytes) (s : Nat) (ip : Ip)
    (port : Nat) (h : decode recDec b = .ok ⟨id, .pong s ip port⟩) : IpLenOk ip :=
  (decode_sound recDec b _ h).2.2.1

/-- … and the encoding of a PONG whose IP field has another length is rejected. -/
theorem reject_bad_ip_len_encoded (recDec : Bytes → Option Bytes) (id : Bytes) (s : Nat) (ip : Ip)
    (port : Nat) (hid : id.length ≤ 8) (hs : s < 2 ^ 64) (hp : port ≤ 65535)
    (h4 : ip.octets.length ≠ 4) (h16 : ip.octets.length ≠ 16)
    (hsize : (encode ⟨id, .pong s ip port⟩).length < 2 ^ 64) :
    decode recDec (encode ⟨id, .pong s ip port⟩) = .err .badIpLength := by
  have ho := encodeBytes_length_ge ip.octets
  have ht := tail_size id _ hsize
  simp only [Body.tail, List.length_append] at ht
  rw [decode_encode_eq recDec id _ hsize, if_neg (by omega), msgType_pong, Body.tail,
    decodeBody_pong_raw recDec id s ip.octets port hs (by omega) hp, ipOfBytes_bad _ h4 h16]
  rfl

/-- Records that are not valid signed records are rejected: every record of an accepted NODES
message is an answer of the record decoder (`Enr::decode` verified it). -/
theorem reject_invalid_record (recDec : Bytes → Option Bytes) (b id : Bytes) (total : Nat)
    (rs : List Bytes) (h : decode recDec b = .ok ⟨id, .nodes total rs⟩) :
    ∀ r ∈ rs, ∃ item, recDec item = some r :=
  (decode_sound recDec b _ h).2.2

/-- … and the encoding of a NODES message that holds, behind any number of valid records, a list
item the record decoder refuses is rejected. -/
theorem reject_invalid_record_encoded (recDec : Bytes → Option Bytes) (id : Bytes) (total : Nat)
    (pre post : List Bytes) (c : Bytes) (hid : id.length ≤ 8) (ht : total < 2 ^ 64)
    (hpre : ∀ r ∈ pre, RecordWF recDec r) (hbad : recDec (rlpList c) = none)
    (hsize : (encode ⟨id, .nodes total (pre ++ rlpList c :: post)⟩).length < 2 ^ 64) :
    decode recDec (encode ⟨id, .nodes total (pre ++ rlpList c :: post)⟩) = .err .invalidEnr := by
  have hts := tail_size id _ hsize
  rw [Body.tail, List.length_append] at hts
  have hle : (pre ++ rlpList c :: post).flatten.length ≤
      (rlpList (pre ++ rlpList c :: post).flatten).length := by simp [rlpList]
  have hfl : (pre ++ rlpList c :: post).flatten =
      pre.flatten ++ (encodeHeader true c.length ++ c) ++ post.flatten := by
    simp [rlpList]
  have hlen : (pre.flatten ++ (encodeHeader true c.length ++ c) ++ post.flatten).length < 2 ^ 64 := by
    rw [← hfl]; omega
  rw [decode_encode_eq recDec id _ hsize, if_neg (by omega), msgType_nodes, Body.tail,
    decodeBody_nodes_frame recDec id total _ ht (by rw [hfl]; exact hlen), hfl,
    nodesLoop_reject recDec pre c post.flatten _ hpre hbad hlen (Nat.le_refl _)]
  rfl

/-! ### Non-vacuity: concrete messages of each type satisfy `WF`, with a record decoder that
accepts exactly one record; the hypotheses of the rejection theorems are satisfiable. -/

private def exRec : Bytes := [0xc1, 0x80]
private def exRecDec : Bytes → Option Bytes := fun b => if b = exRec then some exRec else none

example : OracleSound exRecDec := by
  intro item r h
  unfold exRecDec at h
  split at h
  · rename_i hi
    simp only [Option.some.injEq] at h
    subst h hi
    simp [exRec]
  · simp at h

example : RecordWF exRecDec exRec := ⟨by simp [exRecDec], [0x80], by decide⟩

example : WF exRecDec ⟨[1], .ping 1⟩ := ⟨by decide, by simp [BodyWF], by decide +kernel⟩

example : WF exRecDec ⟨[1, 2, 3, 4, 5, 6, 7, 8], .pong (2 ^ 64 - 1) (.v4 [127, 0, 0, 1]) 65535⟩ :=
  ⟨by decide, by simp [BodyWF, IpWF], by decide +kernel⟩

example : WF exRecDec ⟨[], .pong 0
    (.v6 [0x20, 0x01, 0x0d, 0xb8, 0, 0, 0, 0, 0, 0, 0, 0, 0, 0, 0, 1]) 1⟩ :=
  ⟨by decide, ⟨by decide, ⟨by decide, Or.inr (by decide)⟩, by decide, by decide⟩, by decide +kernel⟩

example : WF exRecDec ⟨[0x80], .pong 5 (.v6 [0, 0, 0, 0, 0, 0, 0, 0, 0, 0, 0, 0, 0, 0, 0, 1]) 9000⟩ :=
  ⟨by decide, ⟨by decide, ⟨by decide, Or.inl (by decide)⟩, by decide, by decide⟩, by decide +kernel⟩

example : WF exRecDec ⟨[1], .findNode [0, 255, 256]⟩ :=
  ⟨by decide, by simp [BodyWF], by decide +kernel⟩

theorem exRecs_wf : ∀ r ∈ [exRec, exRec], RecordWF exRecDec r := by
  intro r hr
  have : r = exRec := by simpa using hr
  subst this
  exact ⟨by simp [exRecDec], [0x80], by decide⟩

example : WF exRecDec ⟨[1], .nodes 1 [exRec, exRec]⟩ :=
  ⟨by decide, ⟨by decide, exRecs_wf⟩, by decide +kernel⟩

example : WF exRecDec ⟨[1], .talkReq [0x75, 0x74, 0x70] [1, 0, 0xa0]⟩ :=
  ⟨by decide, trivial, by decide +kernel⟩

example : WF exRecDec ⟨[1], .talkResp []⟩ := ⟨by decide, trivial, by decide +kernel⟩

example : decode exRecDec (encode ⟨[1, 2, 3, 4, 5, 6, 7, 8, 9], .ping 1⟩) = .err .invalidIdLength :=
  reject_long_id_encoded _ _ _ (by decide) (by decide +kernel)

example : decode exRecDec (encode ⟨[1], .findNode [3, 257]⟩) = .err .badDistance :=
  reject_distance_gt_256_encoded _ _ _ (by decide) (by simp) 257 (by simp) (by decide) (by decide +kernel)

example : decode exRecDec (encode ⟨[1], .pong 1 (.v4 [10, 0, 0, 1]) 0⟩) = .err .zeroPort :=
  reject_zero_port_encoded _ _ _ _ (by decide) (by decide) (Or.inl (by decide)) (by decide +kernel)

example : decode exRecDec (encode ⟨[1], .pong 1 (.v4 [10, 0, 1]) 30303⟩) = .err .badIpLength :=
  reject_bad_ip_len_encoded _ _ _ _ _ (by decide) (by decide) (by decide) (by decide) (by decide)
    (by decide +kernel)

example : decode exRecDec (encode ⟨[1], .nodes 1 ([exRec] ++ rlpList [1, 2] :: [])⟩) =
    .err .invalidEnr :=
  reject_invalid_record_encoded exRecDec [1] 1 [exRec] [] [1, 2] (by decide) (by decide)
    (fun r hr => exRecs_wf r (by simp at hr; simp [hr])) (by decide) (by decide +kernel)

end Discv5.Rpc
