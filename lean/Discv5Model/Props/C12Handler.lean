/-
C12 (handler half) — which record an incoming session is reported with.

`Session::establish_from_challenge` chooses between the record attached to the handshake and the
record the application supplied with its WHOAREYOU answer; `Handler::verify_enr` compares the
chosen record with the observed source.  The service admits whoever is reported `Established`, so
these two functions are the handler's part of "a record learnt from the network replaces a stored
one only if it is for the same id with a strictly higher sequence number" and of "an incoming
session admits a node only if the UDP address in its record equals the address its packets came
from".
-/
import Discv5Model.Model.Handler

namespace Discv5.Props.C12H
open Discv5.H

/-- The choice between the attached record and the known one: the known record stays unless the
attached one is the only one or strictly newer. -/
theorem chosen_cases {record known : Option Rec} {r : Rec}
    (h : (match record, known with
      | some n, some k => if n.seq > k.seq then some n else some k
      | some n, none => some n
      | none, some k => some k
      | none, none => none) = some r) :
    known = some r ∨ (record = some r ∧ ∀ k, known = some k → k.seq < r.seq) := by
  rcases record with _ | n <;> rcases known with _ | k <;> dsimp only at h
  · cases h
  · exact Or.inl h
  · exact Or.inr ⟨h, fun _ hk => nomatch hk⟩
  · split at h <;> cases h
    · rename_i hnew
      exact Or.inr ⟨rfl, fun _ hk => Option.some.inj hk ▸ hnew⟩
    · exact Or.inl rfl

/-- The record a handshake is accepted with is the attached one or the known one — never anything
else —, it carries the claimed id, it is not older than the known record, and the attached record
is used only if no record is known or it is strictly newer than the known one. -/
theorem chosen_record (c : Cfg) (remoteId : Id) (ch : Challenge) (sig : Sig) (eph : Nat)
    (record : Option Rec) (sess : Session) (r : Rec)
    (h : establishFromChallenge c remoteId ch sig eph record = some (some (sess, r))) :
    (record = some r ∨ ch.remoteRec = some r) ∧ r.id = remoteId ∧
    (∀ k, ch.remoteRec = some k → k.seq ≤ r.seq) ∧
    (∀ k, ch.remoteRec = some k → r ≠ k → k.seq < r.seq) := by
  unfold establishFromChallenge at h
  simp only at h
  split at h
  · cases h
  · rename_i r' hch
    split at h
    · cases h
    · rename_i hid
      split at h
      · cases h
      · obtain ⟨-, rfl⟩ := Prod.mk.inj (Option.some.inj (Option.some.inj h))
        have hid' : r'.id = remoteId := by simpa using hid
        rcases chosen_cases hch with hk | ⟨hn, hlt⟩
        · exact ⟨Or.inr hk, hid', fun k hk' => Option.some.inj (hk.symm.trans hk') ▸ Nat.le_refl _,
            fun k hk' hne => absurd (Option.some.inj (hk.symm.trans hk')) hne⟩
        · exact ⟨Or.inl hn, hid', fun k hk' => Nat.le_of_lt (hlt k hk'), fun k hk' _ => hlt k hk'⟩

/-- `verify_enr`: a record is accepted for a node address exactly if it carries that node's id and
its UDP socket of the observed address family, when it has one, is the observed socket. -/
theorem verifyEnr_spec (r : Rec) (na : NA) :
    verifyEnr r na = true ↔
      r.id = na.id ∧
      (na.addr.v6 = false → ∀ a, r.udp4 = some a → a = na.addr.n) ∧
      (na.addr.v6 = true → ∀ a, r.udp6 = some a → a = na.addr.n) := by
  unfold verifyEnr
  rw [Bool.and_eq_true, beq_iff_eq]
  refine and_congr_right (fun _ => ?_)
  cases na.addr.v6
  · cases r.udp4 <;> simp
  · cases r.udp6 <;> simp

/-- Non-vacuity: a handshake carrying seq 3 against a known seq 5 is accepted with the known record;
carrying seq 7 with the attached one. -/
example :
    let c : Cfg := { localId := 1, localSeq := 1, localRec := { id := 1, seq := 1, udp4 := some 1, udp6 := none },
                     requestRetries := 1, requestTimeout := 10, sessionTtl := 10, sessionCap := 4, listen := [], findnode0 := 2 }
    let known : Rec := { id := 2, seq := 5, udp4 := some 2, udp6 := none }
    let ch : Challenge := { cd := 9, remoteRec := some known }
    let sig : Sig := { signer := 2, cd := 9, eph := 4, dst := 1 }
    ((establishFromChallenge c 2 ch sig 4 (some { known with seq := 3 })).map (·.map (·.2.seq))) = some (some 5) ∧
    ((establishFromChallenge c 2 ch sig 4 (some { known with seq := 7 })).map (·.map (·.2.seq))) = some (some 7) := by
  decide

end Discv5.Props.C12H
