/-
C13 (receive path) — exemptions are per socket address.

`RecvHandler::handle_inbound` (`src/socket/recv.rs`) lets a datagram skip the packet filter exactly
when its own source socket address is in `expected_responses`.  `Model/Filter.lean` (`Recv`) is
the model; the limiter engine runs the real `handle_inbound` against it (receive-path profile).
-/
import Discv5Model.Model.Filter
import Discv5Model.Props.C18

namespace Discv5.Props.C13R
open Discv5.Filter Discv5.Limiter

/-- A source is exempt exactly while its own socket address is registered. -/
theorem permitted_iff_registered (r : Recv) (ip : Ip) (port : Nat) :
    r.permitted ip port = true ↔ (ip, port) ∈ r.expected := by
  simp [Recv.permitted]

theorem expect_then_permitted (r : Recv) (ip : Ip) (port : Nat) :
    (r.expect ip port).permitted ip port = true := by
  simp [Recv.permitted, Recv.expect, expectAddr]

/-- Releasing an address ends its exemption. -/
theorem release_then_not_permitted (r : Recv) (ip : Ip) (port : Nat) :
    (r.release ip port).permitted ip port = false := by
  simp [Recv.permitted, Recv.release, releaseAddr]

/-- Registering or releasing another port of the same host, or another host, does not change
whether this address is exempt. -/
theorem other_address_unaffected (r : Recv) (ip ip' : Ip) (port port' : Nat)
    (h : (ip', port') ≠ (ip, port)) :
    (r.expect ip' port').permitted ip port = r.permitted ip port ∧
    (r.release ip' port').permitted ip port = r.permitted ip port := by
  have hne : (ip, port) ≠ (ip', port') := fun e => h e.symm
  -- dropping the entries equal to another address does not change whether this one is listed
  have hf : (r.expected.filter (· != (ip', port'))).contains (ip, port)
      = r.expected.contains (ip, port) := by
    rw [Bool.eq_iff_iff]
    simp [List.mem_filter, hne]
  constructor
  · simp only [Recv.permitted, Recv.expect, expectAddr, List.contains_cons, hf,
      beq_eq_false_iff_ne.mpr hne, Bool.false_or]
  · exact hf

/-- An awaited datagram is never dropped and is not charged to any quota or list. -/
theorem awaited_passes (r : Recv) (now : Nat) (ip : Ip) (port : Nat) (d : Decoded)
    (h : (ip, port) ∈ r.expected) :
    (r.inbound now ip port d).2 ≠ .dropped ∧ (r.inbound now ip port d).1.filter = r.filter ∧
    (r.inbound now ip port d).1.pb = r.pb := by
  have hp : r.permitted ip port = true := (permitted_iff_registered r ip port).mpr h
  have := exempt_bypasses r.filter r.pb now ip d
  simp only [Recv.inbound, hp]
  exact ⟨this.2.2, this.1, this.2.1⟩

/-- A datagram from a banned (and not permitted) host passes only on an exemption of its own socket
address: with only other addresses registered - another port of the same host included - it is
dropped. -/
theorem banned_host_needs_own_exemption (r : Recv) (now : Nat) (ip : Ip) (port : Nat) (d : Decoded)
    (hn : (ip, port) ∉ r.expected) (hperm : r.pb.permitIps ip = false)
    (hban : (r.pb.banIps ip).isSome = true) :
    (r.inbound now ip port d).2 = .dropped := by
  have hp : r.permitted ip port = false := by
    cases hq : r.permitted ip port with
    | false => rfl
    | true => exact absurd ((permitted_iff_registered r ip port).mp hq) hn
  have hb := (banned_dropped r.filter r.pb now ip 0).1 hperm hban
  simp [Recv.inbound, hp, handleInbound, hb]

/-- Non-vacuity: port 1000 of host 7 is awaited, host 7 is banned; a datagram from port 1000 passes,
one from port 1001 is dropped. -/
example :
    let pb : PermitBan := { PermitBan.empty with banIps := fun i => if i = 7 then some none else none }
    let f : Filter := Filter.new true none none none none
    let r : Recv := ({ filter := f, pb := pb } : Recv).expect 7 1000
    (r.inbound 0 7 1000 (.src 3)).2 = .inbound ∧ (r.inbound 0 7 1001 (.src 3)).2 = .dropped := by
  decide

end Discv5.Props.C13R
