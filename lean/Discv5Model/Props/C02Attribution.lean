/- C02 (attribution part) — an undecryptable packet ends the session it was received under, and a
response is credited only to a request outstanding to the very node address it came from.
Handler model. -/
import Discv5Model.Proofs.HandlerAttribution
namespace Discv5.H
open Cr AT

/-! ### A. An undecryptable packet ends the session -/

/-- `sessGetMut` hands out a session for `na` exactly when the cache holds an entry for `na` whose
stamp has not outlived the session timeout (this is what "a live session for `na`" means in the
theorems below). -/
theorem live_session_iff (c : Cfg) (s : HState) (os : List Out) (na : NA) (sess : Session) :
    ((sessGetMut c na).run (s, os)).1 = some sess ↔
      ∃ stamp, s.sessions.find? (·.1 == na) = some (na, sess, stamp) ∧ ¬ stamp + c.sessionTtl < s.rt :=
  sessGetMut_some_iff c na (s, os) sess

/-- A packet is undecryptable for a session exactly when it is not an AEAD term sealed, with the
packet's own nonce and associated data, under the current or the previous decryption key. -/
theorem undecryptable_iff (sess : Session) (nonce : Nat) (ct : Ct) :
    (decryptMessage sess nonce ct).2 = none ↔
      ¬ ∃ key ctr pt, ct = .enc key nonce ctr pt true ∧
        (key = sess.keys.dec ∨ ∃ old, sess.oldKeys = some old ∧ key = old.dec) := by
  constructor
  · rintro h ⟨key, ctr, pt, rfl, hk⟩
    revert h
    unfold decryptMessage
    rcases hk with rfl | ⟨old, ho, rfl⟩
    · simp
    · by_cases hk : old.dec = sess.keys.dec
      · simp [hk]
      · simp [ho, hk]
  · intro h
    cases hm : (decryptMessage sess nonce ct).2 with
    | none => rfl
    | some m =>
      obtain ⟨key, ctr, hct, hk⟩ := decrypt_some hm
      exact absurd ⟨key, ctr, m, hct, hk⟩ h

/-- An undecryptable packet is not a "use" that keeps a session alive — it ends it.  If
`handleMessage` for a packet claiming to come from `na` finds a live session for `na` and the
packet does not decrypt under it, then afterwards the session cache has no entry for `na` at all
(although the lookup had just refreshed the entry), and the only outputs of the call are failure
reports for the requests that were outstanding to `na`, expiry reports, and at most one
who-are-you query to `na` for this packet. -/
theorem undecryptable_ends_session (c : Cfg) (s : HState) (os : List Out) (na : NA) (nonce : Nat)
    (ct : Ct) (sess : Session)
    (hs : ((sessGetMut c na).run (s, os)).1 = some sess)
    (hd : (decryptMessage sess nonce ct).2 = none) :
    (∀ e ∈ ((handleMessage c na nonce ct).run (s, os)).2.1.sessions, e.1 ≠ na) ∧
    ∃ new, ((handleMessage c na nonce ct).run (s, os)).2.2 = os ++ new ∧
      ∀ o ∈ new, (∃ rid e, o = .failed rid e) ∨ (∃ l, o = .expired l) ∨ o = .wru na nonce :=
  (handleMessage_undecryptable c na nonce ct sess os hd).out (s, os) ⟨hs, Ext.refl _ _⟩

/-- … in particular nothing is delivered by that call: no request, no response, no
"session established". -/
theorem undecryptable_delivers_nothing (c : Cfg) (s : HState) (os : List Out) (na : NA) (nonce : Nat)
    (ct : Ct) (sess : Session)
    (hs : ((sessGetMut c na).run (s, os)).1 = some sess)
    (hd : (decryptMessage sess nonce ct).2 = none) :
    ∃ new, ((handleMessage c na nonce ct).run (s, os)).2.2 = os ++ new ∧
      ∀ o ∈ new, (∀ na' rid b, o ≠ .request na' rid b) ∧ (∀ na' rid rb, o ≠ .response na' rid rb) ∧
        (∀ r a d, o ≠ .established r a d) := by
  obtain ⟨-, new, h1, h2⟩ := undecryptable_ends_session c s os na nonce ct sess hs hd
  refine ⟨new, h1, fun o ho => ?_⟩
  rcases h2 o ho with ⟨_, _, rfl⟩ | ⟨_, rfl⟩ | rfl <;>
    exact ⟨fun _ _ _ h => (nomatch h), fun _ _ _ h => (nomatch h), fun _ _ _ h => (nomatch h)⟩

/-- The same at the level of one handler step: a message datagram from `(srcId, src)` that does not
decrypt under the live session held for `(srcId, src)` leaves no session for that node address, and
the step reports only request failures, expiries and a who-are-you query. -/
theorem undecryptable_datagram_ends_session (c : Cfg) (s : HState) (src : Addr) (srcId nonce : Nat)
    (ct : Ct) (sess : Session)
    (hs : ((sessGetMut c { id := srcId, addr := src }).run (s, [])).1 = some sess)
    (hd : (decryptMessage sess nonce ct).2 = none) :
    (∀ e ∈ (step c s (.dgram src (.message srcId nonce ct))).1.sessions,
        e.1 ≠ { id := srcId, addr := src }) ∧
    (∀ o ∈ (step c s (.dgram src (.message srcId nonce ct))).2,
        (∃ rid e, o = .failed rid e) ∨ (∃ l, o = .expired l) ∨
          o = .wru { id := srcId, addr := src } nonce) := by
  obtain ⟨h1, h2⟩ := (handleMessage_undecryptable c { id := srcId, addr := src } nonce ct sess [] hd).out
    (s, []) ⟨hs, Ext.refl _ _⟩
  exact ⟨h1, h2.all⟩

/-- … and along a history: after such a datagram the reached state holds no session for its
sender. -/
theorem undecryptable_datagram_ends_session_run (c : Cfg) (evs : List Ev) (src : Addr)
    (srcId nonce : Nat) (ct : Ct) (sess : Session)
    (hs : ((sessGetMut c { id := srcId, addr := src }).run (run c evs, [])).1 = some sess)
    (hd : (decryptMessage sess nonce ct).2 = none) :
    ∀ e ∈ (run c (evs ++ [.dgram src (.message srcId nonce ct)])).sessions,
      e.1 ≠ { id := srcId, addr := src } := by
  rw [RQ.run_snoc]
  exact (undecryptable_datagram_ends_session c (run c evs) src srcId nonce ct sess hs hd).1

/-! ### B. A response is credited only to a request outstanding to its sender -/

/-- `handleResponse c na rid rb` — a response `rid` arrived from node address `na` — reports a
response only as `response na rid rb`, and only if an active request with id `rid` to exactly
`na` exists.  A request with the same id that is outstanding to another node address is never
matched. -/
theorem response_attributed_handleResponse (c : Cfg) (s : HState) (os : List Out) (na : NA)
    (rid : Nat) (rb : RespBody) :
    ∃ new, ((handleResponse c na rid rb).run (s, os)).2.2 = os ++ new ∧
      ∀ na' rid' rb', Out.response na' rid' rb' ∈ new →
        na' = na ∧ rid' = rid ∧ rb' = rb ∧ ∃ cl ∈ s.active, callNA cl = na ∧ cl.rid = rid :=
  ((handleResponse_ext (os0 := os)
    (P := fun o => ∀ na' rid' rb', o = .response na' rid' rb' →
      na' = na ∧ rid' = rid ∧ rb' = rb ∧ ∃ cl ∈ s.active, callNA cl = na ∧ cl.rid = rid)
    (O := fun r => ∃ cl ∈ s.active, callNA cl = na ∧ cl.rid = r) c na rid rb
    (by rintro hc _ _ _ h; cases h; exact ⟨rfl, rfl, rfl, hc⟩)).out (s, os)
    ⟨Ext.refl _ _, fun cl hcl hna => ⟨cl, hcl, hna, rfl⟩⟩).imp
    (fun _ h => ⟨h.1, fun _ _ _ hm => h.2 _ hm _ _ _ rfl⟩)

/-- One handler step on a message datagram: whatever `handleMessage` reports as a response names the
datagram's sender `(srcId, src)` and the id of a request that was active to exactly that node
address before the step. -/
theorem response_attributed (c : Cfg) (s : HState) (src : Addr) (srcId nonce : Nat) (ct : Ct)
    (na' : NA) (rid : Nat) (rb : RespBody)
    (h : Out.response na' rid rb ∈ (step c s (.dgram src (.message srcId nonce ct))).2) :
    na' = { id := srcId, addr := src } ∧
      ∃ cl ∈ s.active, callNA cl = { id := srcId, addr := src } ∧ cl.rid = rid := by
  have hw := (handleMessage_ext (os0 := [])
    (P := fun o => ∀ na' rid rb, o = .response na' rid rb →
      na' = { id := srcId, addr := src } ∧ ∃ cl ∈ s.active, callNA cl = { id := srcId, addr := src } ∧ cl.rid = rid)
    (O := fun r => ∃ cl ∈ s.active, callNA cl = { id := srcId, addr := src } ∧ cl.rid = r)
    (fun o ho _ _ _ h => absurd h (ho _ _ _)) c { id := srcId, addr := src } nonce ct
    (by rintro _ _ hc _ _ _ h; cases h; exact ⟨rfl, hc⟩)).out (s, [])
    ⟨Ext.refl _ _, fun cl hcl hna => ⟨cl, hcl, hna, rfl⟩⟩
  exact hw.all _ h _ _ _ rfl

/-- Contrapositive: a request id that is outstanding only to other node addresses is never
answered by a message datagram from `(srcId, src)`. -/
theorem foreign_request_not_matched (c : Cfg) (s : HState) (src : Addr) (srcId nonce : Nat) (ct : Ct)
    (rid : Nat)
    (hforeign : ∀ cl ∈ s.active, cl.rid = rid → callNA cl ≠ { id := srcId, addr := src }) :
    ∀ na' rb, Out.response na' rid rb ∉ (step c s (.dgram src (.message srcId nonce ct))).2 := by
  intro na' rb h
  obtain ⟨-, cl, hcl, h1, h2⟩ := response_attributed c s src srcId nonce ct na' rid rb h
  exact hforeign cl hcl h2 h1

/-- Request `rid` is outstanding to `na`: it is the id of an active request to `na`, or of a
request for contact `na` that is queued until a session exists. -/
def OutstandingTo (s : HState) (na : NA) (rid : Nat) : Prop :=
  (∃ cl ∈ s.active, callNA cl = na ∧ cl.rid = rid) ∨
  (∃ e ∈ s.pending, ∃ pr ∈ e.2, pr.contact.na = na ∧ pr.rid = rid)

/-- A handshake datagram also carries a message.  A response reported in that step names the
datagram's sender `(srcId, src)`, and its id is that of a request that, before the step, was
active to that node address or queued for it (queued requests are sent out when the handshake
completes the session, just before the carried message is handled). -/
theorem response_attributed_handshake (c : Cfg) (s : HState) (src : Addr) (srcId nonce : Nat)
    (sig : Sig) (eph : Nat) (record : Option Rec) (ct : Ct) (na' : NA) (rid : Nat) (rb : RespBody)
    (h : Out.response na' rid rb ∈
      (step c s (.dgram src (.handshake srcId nonce sig eph record ct))).2) :
    na' = { id := srcId, addr := src } ∧ OutstandingTo s { id := srcId, addr := src } rid := by
  have hw := (handleAuthMessage_ext (os0 := [])
    (P := fun o => ∀ na' rid rb, o = .response na' rid rb →
      na' = { id := srcId, addr := src } ∧ OutstandingTo s { id := srcId, addr := src } rid)
    (O := OutstandingTo s { id := srcId, addr := src })
    (fun o ho _ _ _ h => absurd h (ho _ _ _)) c { id := srcId, addr := src } nonce sig eph record ct
    (by rintro _ _ hc _ _ _ h; cases h; exact ⟨rfl, hc⟩)).out (s, [])
    ⟨Ext.refl _ _, fun cl hcl hna => Or.inl ⟨cl, hcl, hna, rfl⟩,
      fun e he pr hpr hna => Or.inr ⟨e, he, pr, hpr, hna, rfl⟩⟩
  exact hw.all _ h _ _ _ rfl

/-- Whatever the event: if a handler step reports a response for `(na', rid)`, then the event was
a message or handshake datagram whose sender is exactly `na'`, and request `rid` was outstanding to
exactly `na'` before the step.  No other event, and no datagram from another node address, makes
the handler credit a response to `na'`. -/
theorem response_attributed_step (c : Cfg) (s : HState) (ev : Ev) (na' : NA) (rid : Nat)
    (rb : RespBody) (h : Out.response na' rid rb ∈ (step c s ev).2) :
    OutstandingTo s na' rid ∧
    ((∃ src srcId nonce ct, ev = .dgram src (.message srcId nonce ct) ∧
        na' = { id := srcId, addr := src }) ∨
     (∃ src srcId nonce sig eph r ct, ev = .dgram src (.handshake srcId nonce sig eph r ct) ∧
        na' = { id := srcId, addr := src })) := by
  by_cases hm : ∃ src srcId nonce ct, ev = .dgram src (.message srcId nonce ct)
  · obtain ⟨src, srcId, nonce, ct, rfl⟩ := hm
    obtain ⟨h1, h2⟩ := response_attributed c s src srcId nonce ct na' rid rb h
    exact ⟨Or.inl (h1 ▸ h2), Or.inl ⟨src, srcId, nonce, ct, rfl, h1⟩⟩
  · by_cases hh : ∃ src srcId nonce sig eph r ct, ev = .dgram src (.handshake srcId nonce sig eph r ct)
    · obtain ⟨src, srcId, nonce, sig, eph, r, ct, rfl⟩ := hh
      obtain ⟨h1, h2⟩ := response_attributed_handshake c s src srcId nonce sig eph r ct na' rid rb h
      exact ⟨h1 ▸ h2, Or.inr ⟨src, srcId, nonce, sig, eph, r, ct, rfl, h1⟩⟩
    · have hn := (N_stepM (os0 := []) (P := fun o => ∀ na rid rb, o ≠ .response na rid rb)
        (fun _ ho => ho) c ev
        (fun src srcId nonce ct he => hm ⟨src, srcId, nonce, ct, he⟩)
        (fun src srcId nonce sig eph r ct he => hh ⟨src, srcId, nonce, sig, eph, r, ct, he⟩)).out
        (s, []) (Ext.refl _ _)
      exact absurd rfl (Ext.all hn _ h na' rid rb)

/-! ### Non-vacuity -/
namespace C02AttrEx

def exCfg : Cfg :=
  { localId := 1, localSeq := 1, localRec := { id := 1, seq := 1, udp4 := some 10, udp6 := none },
    requestRetries := 1, requestTimeout := 1000, sessionTtl := 10, sessionCap := 4, listen := [],
    findnode0 := 0 }
def exAddr : Addr := { v6 := false, n := 20 }
def exAddrB : Addr := { v6 := false, n := 30 }
/-- the peer the session is held with -/
def exNA : NA := { id := 2, addr := exAddr }
/-- the same node id seen at another address: a different node address -/
def exNB : NA := { id := 2, addr := exAddrB }
def exKeys : Keys :=
  { enc := { eph := 1000001, cd := 7, ini := 1, rcp := 2, toRcp := true },
    dec := { eph := 1000001, cd := 7, ini := 1, rcp := 2, toRcp := false } }
def exSess : Session := { keys := exKeys }
/-- an active (already sent) request with id 7 to `na` -/
def exCall (na : NA) : Call :=
  { contact := { na := na, record := none }, pkt := .message 1 1000009 .garbage, rid := 7,
    internal := false, body := 3, initiating := false, deadline := 1000 }
/-- a live session with `exNA`, and request 7 outstanding to `na` -/
def exState (na : NA) : HState := { sessions := [(exNA, exSess, 0)], active := [exCall na] }
/-- a response to request 7, correctly sealed under the session with `exNA` -/
def exResp : Ct := .enc exKeys.dec 55 3 (.response 7 (.other 0)) true

/-- The hypotheses of `undecryptable_ends_session` / `undecryptable_datagram_ends_session` are
satisfiable: a live session, and a packet that does not decrypt under it. -/
example : ((sessGetMut exCfg exNA).run (exState exNA, [])).1 = some exSess ∧
    (decryptMessage exSess 55 .garbage).2 = none := by decide

/-- … and on that state the step indeed drops the session, fails the outstanding request and asks
who-are-you. -/
example : (step exCfg (exState exNA) (.dgram exAddr (.message 2 55 .garbage))).1.sessions = [] ∧
    (step exCfg (exState exNA) (.dgram exAddr (.message 2 55 .garbage))).2 =
      [.failed 7 .invalidRemotePacket, .wru exNA 55] := by decide

/-- A response from `exNA` to a request outstanding to `exNA` is reported (the hypothesis of
`response_attributed` is satisfiable) … -/
example : (step exCfg (exState exNA) (.dgram exAddr (.message 2 55 exResp))).2 =
    [.response exNA 7 (.other 0)] := by decide

/-- … while the same, correctly sealed, response from `exNA` is not matched against request 7 when
that request is outstanding to the other node address `exNB` (`foreign_request_not_matched`): nothing
is reported and the request stays active. -/
example : (step exCfg (exState exNB) (.dgram exAddr (.message 2 55 exResp))).2 = [] ∧
    (step exCfg (exState exNB) (.dgram exAddr (.message 2 55 exResp))).1.active = [exCall exNB] := by
  decide

def exRec : Rec := { id := 2, seq := 1, udp4 := some 20, udp6 := none }
/-- no session yet: a who-are-you challenge to `exNA` is open and request 7 is queued for `exNA` -/
def exStateH : HState :=
  { challenges := [(exNA, { cd := 7, remoteRec := some exRec }, 1000, 0)],
    pending := [(exNA, [{ contact := { na := exNA, record := some exRec }, rid := 7, internal := false,
                          body := 3 }])] }
/-- the key under which the handshake's initiator seals its messages -/
def exHsKey : Key := { eph := 99, cd := 7, ini := 2, rcp := 1, toRcp := true }

/-- The second alternative of `OutstandingTo` in `response_attributed_handshake` is needed: a
handshake datagram completes the session, the queued request 7 is sent, and the message carried by
the same datagram is then accepted as the response to it — no request was active before the step. -/
example : Out.response exNA 7 (.other 0) ∈
      (step exCfg exStateH (.dgram exAddr (.handshake 2 55 { signer := 2, cd := 7, eph := 99, dst := 1 }
        99 none (.enc exHsKey 55 0 (.response 7 (.other 0)) true)))).2 ∧
    exStateH.active = [] := by decide +kernel

end C02AttrEx

end Discv5.H
