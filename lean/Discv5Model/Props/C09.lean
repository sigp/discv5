/-
C09 — Iterative queries terminate with bounded parallelism.

Property theorems only (helper lemmas: `Proofs/QueryLemmas.lean`, `Proofs/QueryPool.lean`; model:
`Model/Query.lean`, a transliteration of `query_pool.rs`, `query_pool/peers/closest.rs` and
`…/predicate.rs`).

All query-level theorems quantify over every variant (`closest` = `FindNodeQuery`, `predicate` =
`PredicateQuery`), every configuration, target and initial candidate list, and every history
`evs : List Ev` of `next now` / `on_success peer closer` / `on_failure peer` calls, in any order and
with arbitrary arguments (late, duplicate or unsolicited answers, arbitrary `closer` lists, time
going in any direction).  The pool-level theorems quantify over every history of pool calls and
every visiting order of the hash map in every `poll`.
-/
import Discv5Model.Proofs.QueryPool

namespace Discv5.Query

/-- `waiting_counter`: after every history, `num_waiting` is exactly the number of peers in state
`Waiting`. -/
theorem waiting_counter (v : Variant) (cfg : Config) (target : Nat) (known : List (Nat × Bool))
    (evs : List Ev) :
    (runQ (withConfig v cfg target known) evs).numWaiting =
      (runQ (withConfig v cfg target known) evs).peers.countP (fun e => e.state.isWaiting) :=
  (linv_reach v cfg target known evs).wc

/-- The `debug_assert!(self.num_waiting > 0)` before every `num_waiting -= 1` holds: whenever some
peer is `Waiting`, the counter is positive (so the subtraction never wraps). -/
theorem waiting_counter_no_underflow (v : Variant) (cfg : Config) (target : Nat)
    (known : List (Nat × Bool)) (evs : List Ev) (e : Peer)
    (he : e ∈ (runQ (withConfig v cfg target known) evs).peers) (hw : e.state.isWaiting = true) :
    0 < (runQ (withConfig v cfg target known) evs).numWaiting := by
  rw [waiting_counter]
  exact List.countP_pos_iff.mpr ⟨e, he, hw⟩

/-- `parallelism` (issuing): `next` returns `Waiting(Some(peer))` only if, before the call, fewer
than `parallelism` requests were in flight while the query was iterating, resp. fewer than
`num_results` once it had stalled (`MayIssue`).  Holds in every state. -/
theorem parallelism_issue (q : Q) (now k : Nat) (h : (next q now).2 = .waiting (some k)) :
    MayIssue q :=
  mayIssue_of_not_atCapacity (next_emit q now k h).1

/-- `parallelism` (global): along every history the number of requests in flight never exceeds
`max parallelism num_results`.  (Requests already in flight when the progress state changes back
from stalled to iterating are not recalled — the code's documented behaviour — so the bound that
holds at all times is the larger of the two.) -/
theorem parallelism_bound (v : Variant) (cfg : Config) (target : Nat) (known : List (Nat × Bool))
    (evs : List Ev) :
    (runQ (withConfig v cfg target known) evs).peers.countP (fun e => e.state.isWaiting)
      ≤ max cfg.parallelism cfg.numResults :=
  inflight_le v cfg target known evs

/-- While the query is iterating the bound is `parallelism` itself at the moment of issuing: a
request is handed out only when fewer than `parallelism` are in flight, so at most `parallelism` are
afterwards. -/
theorem parallelism_iterating (v : Variant) (cfg : Config) (target : Nat) (known : List (Nat × Bool))
    (evs : List Ev) (now k n : Nat)
    (hit : (runQ (withConfig v cfg target known) evs).progress = .iterating n)
    (h : (next (runQ (withConfig v cfg target known) evs) now).2 = .waiting (some k)) :
    (runQ (withConfig v cfg target known) evs).numWaiting < cfg.parallelism := by
  have hm := parallelism_issue _ now k h
  have hc := (runQ_init_const v cfg target known evs).1
  rcases hm with ⟨n', _, hlt⟩ | ⟨hs, _⟩
  · rw [hc] at hlt; exact hlt
  · rw [hit] at hs; cases hs

/-- `no_recontact`: the list of peers handed out by `next` along any history has no duplicates. -/
theorem no_recontact (v : Variant) (cfg : Config) (target : Nat) (known : List (Nat × Bool))
    (evs : List Ev) : (requests (withConfig v cfg target known) evs).Nodup :=
  requests_nodup v cfg target known evs

/-- A request is only ever sent to a peer that is `NotContacted`, and afterwards that peer is
never `NotContacted` again (`rank_never_increases`): every peer that was handed out has left the
`NotContacted` state for good. -/
theorem contacted_forever (v : Variant) (cfg : Config) (target : Nat) (known : List (Nat × Bool))
    (evs : List Ev) (k : Nat) (hk : k ∈ requests (withConfig v cfg target known) evs) :
    ∃ e ∈ (runQ (withConfig v cfg target known) evs).peers, e.key = k ∧ e.state ≠ .notContacted :=
  (linv_reach v cfg target known evs).em k (List.mem_reverse.mpr hk)

/-- `no_recontact` (rank): from every state reachable along a history, one more event never raises
the rank of a candidate (NotContacted 3 > Waiting 2 > Unresponsive 1 > Failed / Succeeded 0) and
never drops a candidate; only `NotContacted` candidates are handed out (`next_emit`), so a peer
that has left `NotContacted` can never be handed out again. -/
theorem rank_never_increases (v : Variant) (cfg : Config) (target : Nat) (known : List (Nat × Bool))
    (evs : List Ev) (ev : Ev) :
    ∀ e ∈ (runQ (withConfig v cfg target known) evs).peers,
      ∃ e' ∈ (runQ (withConfig v cfg target known) (evs ++ [ev])).peers,
        e'.key = e.key ∧ e'.dist = e.dist ∧ e'.state.rank ≤ e.state.rank := by
  rw [runQ_append]
  intro e he
  obtain ⟨e', he', h⟩ := stepQ_steps _ ev e he
  exact ⟨e', he', h.1, h.2.1, h.2.2.2⟩

/-- A request goes only to a candidate that is `NotContacted` at that moment. -/
theorem request_only_to_not_contacted (q : Q) (now k : Nat) (h : (next q now).2 = .waiting (some k)) :
    ∃ e ∈ q.peers, e.key = k ∧ e.state = .notContacted :=
  (next_emit q now k h).2

/-- `terminates` (requests): a query never hands out more requests than the number of distinct
node ids it was ever told about — for every list `U` containing the ids of the (truncated) initial
candidates and of all `closer_peers` of the history, at most `|U|` requests are emitted. -/
theorem requests_bounded (v : Variant) (cfg : Config) (target : Nat) (known : List (Nat × Bool))
    (evs : List Ev) (U : List Nat)
    (hU : ∀ x ∈ (runL (Led.init v cfg target known) evs).reported, x.1 ∈ U) :
    (requests (withConfig v cfg target known) evs).length ≤ U.length := by
  have h := linv_reach v cfg target known evs
  apply (no_recontact v cfg target known evs).length_le_of_subset
  intro k hk
  obtain ⟨e, he, hek, _⟩ := h.em k (List.mem_reverse.mpr hk)
  have := hU _ (h.rep e he)
  rw [← hek]; exact this

/-- The ledger `reported` used above contains nothing but what the caller supplied: the first
`num_results` initial candidates and the `closer_peers` of `on_success` calls. -/
theorem reported_origin (v : Variant) (cfg : Config) (target : Nat) (known : List (Nat × Bool))
    (evs : List Ev) (x : Nat × Bool) (hx : x ∈ (runL (Led.init v cfg target known) evs).reported) :
    x ∈ known.take cfg.numResults ∨
      ∃ pre p closer post, evs = pre ++ .success p closer :: post ∧ x ∈ closer :=
  reported_spec _ evs x hx

/-- `terminates` (cut-off), query visited first: a `poll` at a time when query `i` is past the
query timeout (`now - started ≥ timeout`) that visits `i` first either hands out a request for `i`
or hands `i` back (`Finished` or `Timeout`) and removes it from the pool. -/
theorem poll_timeout_removes (p : Pool) (now i : Nat) (rest : List Nat) (x : PQ)
    (hx : p.get i = some x) (hto : TimedOut p.timeout now x) :
    (∃ k, (p.poll now (i :: rest)).2 = .waitingSome i k) ∨
    ((∃ q, (p.poll now (i :: rest)).2 = .finished i q ∨ (p.poll now (i :: rest)).2 = .timeout i q) ∧
      (p.poll now (i :: rest)).1.get i = none) :=
  poll_timed_out_first p now i rest x hx hto

/-- `terminates` (cut-off), every visiting order: once all queries of the pool are past the query
timeout, every `poll` (whose visiting order reaches at least one query of the pool) hands out a
request or hands a query back, and in the latter case the pool shrinks.  Together with
`requests_bounded` this bounds the number of such polls. -/
theorem poll_timeout_any_order (p : Pool) (now : Nat) (order : List Nat)
    (hall : ∀ x ∈ p.queries, TimedOut p.timeout now x) (hord : ∃ i ∈ order, i ∈ p.ids) :
    (∃ i k, (p.poll now order).2 = .waitingSome i k) ∨
    (∃ i, retId (p.poll now order).2 = some i ∧ (p.poll now order).1.ids.length < p.ids.length) :=
  poll_all_timed_out p now order hall hord

/-- `result_once` (afterwards): once `poll` has handed query `r` back, the id is gone for good: in
every later state `get r` is `None` — so `on_success` / `on_failure` for `r` reach nothing — and no
later return value of `poll` (request, `Finished`, `Timeout`) mentions `r`. -/
theorem after_result_unreachable (p : Pool) (hp : PoolInv p) (ev : PEv) (evs : List PEv)
    (hw : NoWrap p (ev :: evs)) (o : PoolOut) (r : Nat)
    (ho : (stepP p ev).2 = some o) (hr : retId o = some r) :
    (∀ o' ∈ outsP (stepP p ev).1 evs, mentions r o' = false) ∧
    (∀ pre post, evs = pre ++ post → (runP (stepP p ev).1 pre).get r = none) := by
  obtain ⟨hp', hn, _, hout⟩ := stepP_spec hp ev (noWrap_head hw)
  have hrr := (hout o ho).2 r hr
  have hlt : r < (stepP p ev).1.nextId := by have := hp.lt r hrr.1; omega
  obtain ⟨h1, h2⟩ := absent_forever hp' r evs (noWrap_tail hp hw) hrr.2 hlt
  refine ⟨h1, ?_⟩
  intro pre post he
  have hn := h2 pre post he
  cases hg : (runP (stepP p ev).1 pre).get r with
  | none => rfl
  | some x =>
    exfalso
    obtain ⟨hx, hxi⟩ := find_id (show (runP (stepP p ev).1 pre).queries.find? (fun y => y.id == r) = some x from hg)
    exact hn (List.mem_map.mpr ⟨x, hx, hxi⟩)

/-- From any pool that satisfies the pool invariant, no id is handed back twice. -/
theorem returned_nodup : ∀ (evs : List PEv) (p : Pool), PoolInv p → NoWrap p evs → (returned p evs).Nodup
  | [], _, _, _ => by simp [returned, outsP]
  | ev :: evs, p, hp, hw => by
    have ih := returned_nodup evs _ (stepP_spec hp ev (noWrap_head hw)).1 (noWrap_tail hp hw)
    unfold returned
    rw [outsP_cons, List.filterMap_append]
    cases ho : (stepP p ev).2 with
    | none => simpa [returned] using ih
    | some o =>
      cases hr : retId o with
      | none => simpa [hr, returned] using ih
      | some r =>
        have : (List.filterMap retId (some o).toList) = [r] := by simp [hr]
        rw [this]
        refine List.nodup_cons.mpr ⟨fun hmem => ?_, ih⟩
        -- no later return value mentions `r`, let alone hands it back
        obtain ⟨o', ho', hr'⟩ := List.mem_filterMap.mp hmem
        have := (after_result_unreachable p hp ev evs hw o r ho hr).1 o' ho'
        rw [mentions_of_retId hr'] at this
        cases this

/-- `result_once`: along every history of pool calls (with every visiting order in every `poll`),
no query id is handed back (`Finished` / `Timeout`) twice — as long as the `usize` id counter does
not wrap (`NoWrap`: fewer than 2^64 queries are added). -/
theorem result_once (timeout : Nat) (evs : List PEv) (hw : NoWrap (Pool.new timeout) evs) :
    (returned (Pool.new timeout) evs).Nodup :=
  returned_nodup evs _ ⟨List.nodup_nil, fun i hi => by cases hi⟩ hw

/-- Events for an id that is not in the pool change nothing. -/
theorem event_for_absent_query (p : Pool) (id peer : Nat) (closer : List (Nat × Bool))
    (h : p.get id = none) : p.onSuccess id peer closer = p ∧ p.onFailure id peer = p := by
  unfold Pool.onSuccess Pool.onFailure
  rw [h]; exact ⟨rfl, rfl⟩

/-- The empty pool satisfies the pool invariant (the hypothesis of `after_result_unreachable`), and
every event preserves it. -/
theorem pool_invariant (timeout : Nat) (evs : List PEv) (hw : NoWrap (Pool.new timeout) evs) :
    PoolInv (runP (Pool.new timeout) evs) :=
  ((runP_inv (J := fun _ => True) (O := fun _ => True) (fun _ _ _ _ _ => ⟨trivial, fun _ _ => trivial⟩)
    evs (Pool.new timeout) ⟨List.nodup_nil, fun i hi => by cases hi⟩ hw trivial).1
      evs [] (List.append_nil _).symm).1

/-- The pool drives its queries only through `next` / `on_success` / `on_failure`: every query in
the pool, and every query handed back by `poll` as `Finished` or `Timeout`, is in a state reached
from its constructor by some history of such calls (`Reach`) — so all query-level theorems of C09
and C10 (which hold for every history) apply to it, whatever the pool history and the visiting
orders were. -/
theorem pool_queries_reachable (timeout : Nat) (evs : List PEv) :
    (∀ x ∈ (runP (Pool.new timeout) evs).queries, Reach x.q) ∧
    (∀ o ∈ outsP (Pool.new timeout) evs, ∀ q, retQuery o = some q → Reach q) :=
  reach_runP evs (Pool.new timeout) (by intro y hy; cases hy)

/-- `terminates` (measure, `next`): the measure `Σ rank + 4·(N − known)` (`potential N`, an id not
yet known counts 4) never increases in `next` and strictly decreases whenever `next` hands out a
request.  Holds in every state, for every `N`. -/
theorem measure_next (N : Nat) (q : Q) (now : Nat) :
    potential N (next q now).1 ≤ potential N q ∧
    (∀ k, (next q now).2 = .waiting (some k) → potential N (next q now).1 < potential N q) :=
  potential_next N q now

/-- `terminates` (measure, `on_failure`): never increases, strictly decreases whenever the call
has an effect. -/
theorem measure_failure (N : Nat) (q : Q) (p : Nat) :
    potential N (onFailure q p) ≤ potential N q ∧
    (onFailure q p ≠ q → potential N (onFailure q p) < potential N q) :=
  potential_failure N q p

/-- `terminates` (measure, `on_success`): never increases, strictly decreases whenever the call
has an effect — provided `N` bounds the number of candidates after the call (every newly learned
id turns 4 units of budget into a `NotContacted` entry of rank 3).  Hence along any history whose
ids come from a set of size `N`, at most `4·N` emitted requests / effective answers occur in total;
`requests_bounded` gives the sharp bound `N` for the requests. -/
theorem measure_success (N : Nat) (q : Q) (p : Nat) (closer : List (Nat × Bool))
    (hN : (onSuccess q p closer).peers.length ≤ N) :
    potential N (onSuccess q p closer) ≤ potential N q ∧
    (onSuccess q p closer ≠ q → potential N (onSuccess q p closer) < potential N q) :=
  potential_success N q p closer hN

/-! ### non-vacuity: concrete histories -/

private def exCfg : Config := ⟨2, 3, 10⟩
private def exKnown : List (Nat × Bool) := [(5, true), (3, true), (9, false), (12, true)]
/-- Three polls (the third hits the parallelism bound), an answer that reports a closer peer, a
duplicate and the target itself, a failure, answers without news (the query stalls), an answer
after the peer timeout, and a final poll. -/
private def exEvs : List Ev :=
  [.next 0, .next 0, .next 0, .success 3 [(1, true), (5, true), (0, false)], .next 1, .failure 5, .next 2,
   .success 1 [], .next 20, .success 0 [(2, true)], .next 21, .next 40, .success 9 [], .next 41]

/-- Six requests, all different, in this order (the initial list is cut to `num_results = 3`). -/
example : requests (withConfig .closest exCfg 0 exKnown) exEvs = [3, 5, 0, 1, 9, 2] := by decide
/-- With two requests in flight (`parallelism = 2`) the third poll is refused. -/
example : (next (runQ (withConfig .closest exCfg 0 exKnown) (exEvs.take 2)) 0).2 = .waitingAtCapacity := by
  decide
example : (runQ (withConfig .closest exCfg 0 exKnown) (exEvs.take 2)).numWaiting = 2 := by decide
/-- The history passes through the stalled phase and ends finished. -/
example : (runQ (withConfig .closest exCfg 0 exKnown) (exEvs.take 10)).progress = .stalled := by decide
example : (runQ (withConfig .closest exCfg 0 exKnown) exEvs).progress = .finished := by decide
/-- The hypothesis of `parallelism_iterating` / `parallelism_issue` is satisfiable. -/
example : (next (withConfig .predicate exCfg 0 exKnown) 0).2 = .waiting (some 3) := by decide
/-- The measure really decreases along the example (N = 8 ≥ number of ids involved). -/
example : potential 8 (runQ (withConfig .closest exCfg 0 exKnown) exEvs) <
    potential 8 (withConfig .closest exCfg 0 exKnown) := by decide

private def exPool : List PEv :=
  [.add .closest exCfg 0 exKnown, .add .predicate ⟨1, 1, 5⟩ 7 [(6, true)],
   .poll 0 [1, 0], .poll 0 [0, 1], .poll 0 [1, 0], .poll 0 [1, 0],
   .success 1 6 [], .poll 1 [1, 0], .success 1 6 [], .poll 2 [0], .poll 60 [0, 1], .poll 61 [0], .failure 0 3]

/-- Query 1 finishes, query 0 is cut off by the query timeout (50) — each handed back once. -/
example : returned (Pool.new 50) exPool = [1, 0] := by decide
example : NoWrap (Pool.new 50) exPool := by unfold NoWrap; decide
/-- The hypotheses of `poll_timeout_removes` are satisfiable: at time 60 query 0 (started at 0)
is past the timeout 50. -/
example : ∃ x, (runP (Pool.new 50) (exPool.take 10)).get 0 = some x ∧ TimedOut 50 60 x := by
  refine ⟨_, rfl, ?_⟩
  unfold TimedOut; decide

end Discv5.Query
