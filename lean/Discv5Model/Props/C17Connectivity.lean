/-
C17, the connectivity state (`src/service/connectivity_state.rs`) and the two places of
`src/service.rs` that are outside the vote path proper: the gate `should_count_ip_vote` in front of
`handle_ip_vote_from_pong`, and the timer arm of `Service::start` that takes a socket out of the
local record again.  Model: `Model/Connectivity.lean` (`KSvc` = service model + `Conn`).

What is shown, for every state / every history of the model:

* with the feature off (`auto_nat_listen_duration = None`, or ENR updates off) the connectivity state
  never interferes: every vote is admitted, no timer ever runs;
* the local record changes only (a) in a PONG step that reaches the vote path while the connectivity
  state admits votes of the reported family - the change itself is the subject of
  `Props/C17Service.lean` - or (b) in a timer step whose timer was due, which removes exactly that
  family's socket and increases the sequence number by one;
* a PONG reporting a family whose votes are not admitted changes nothing at all, and after a failed
  connectivity test the family stays blocked for the six hours that follow, whatever else happens;
* every announced socket change starts the wait for incoming sessions of its family, `duration`
  from that moment, counting from zero; the wait ends only by the timer or by the second incoming
  session of that family.
-/
import Discv5Model.Proofs.ConnectivityLemmas

namespace Discv5.Props.C17Conn

open Discv5.KB
open Discv5.Svc
open Discv5.Svc.Svc
open Discv5.Conn
open Discv5.SvcVotes (Fr FrS reachesVote votePong step_fr)

/-- The numbers of the connectivity state as literals: six hours of back-off, two incoming sessions.
(The models use the constants regenerated from the source; these two equations are where a changed
source constant breaks the proofs.) -/
theorem retryMs_eq : retryMs = 21600000 := by decide
theorem required_eq : required = 2 := by decide

/-- The invariant of the connectivity state along every history of `KSvc`: nothing is awaited while
the feature is off, and a family that is awaited has seen fewer than `required` incoming sessions.
(Unrelated to the handler's invariant of the same short name, which lives in another namespace.) -/
def KInv (k : KSvc) : Prop := k.conn.Quiet ∧ k.conn.Counting

theorem init_inv (cfg : Cfg) (localRec : Rec) (autoNat : Option Nat) (inst : Nat) :
    KInv (KSvc.init cfg localRec autoNat inst) :=
  Conn.new_inv _ _

theorem step_duration (k : KSvc) (tok inst : Nat) (i : KInput) :
    (k.step tok inst i).1.conn.duration = k.conn.duration :=
  KSvc.step_conn_preserves (P := fun c => c.duration = k.conn.duration) tok inst
    (fun c v6 h => (Conn.receivedIncoming_duration c v6).trans h)
    (fun c v6 h => (Conn.enrSocketUpdate_duration c tok v6).trans h)
    (fun c f h => (Conn.fire_duration c inst f).trans h) k i rfl

theorem step_inv (k : KSvc) (tok inst : Nat) (i : KInput) (h : KInv k) : KInv (k.step tok inst i).1 :=
  KSvc.step_conn_preserves (P := fun c => c.Quiet ∧ c.Counting) tok inst Conn.receivedIncoming_inv
    (fun c => Conn.enrSocketUpdate_inv c tok) (fun c => Conn.fire_inv c inst) k i h

theorem run_inv (steps : List (Nat × Nat × KInput)) (k : KSvc) (h : KInv k) : KInv (k.run steps).1 :=
  KSvc.run_preserves steps (fun k s _ => step_inv k s.1 s.2.1 s.2.2) k h

theorem run_duration (steps : List (Nat × Nat × KInput)) (k : KSvc) :
    (k.run steps).1.conn.duration = k.conn.duration :=
  KSvc.run_preserves (P := fun k' => k'.conn.duration = k.conn.duration) steps
    (fun k' s _ h => (step_duration k' s.1 s.2.1 s.2.2).trans h) k rfl

/-- **Feature off.**  Over every history the connectivity state admits every vote and no timer
fires: the vote path is exactly the one of `Props/C17Service.lean`. -/
theorem disabled_never_interferes (k0 : KSvc) (h0 : KInv k0) (hd : k0.conn.duration = none)
    (steps : List (Nat × Nat × KInput)) :
    (∀ inst f, (k0.run steps).1.conn.shouldCount inst f = true) ∧
    (∀ tok, (k0.run steps).1.conn.firing tok = none) := by
  have hd' : (k0.run steps).1.conn.duration = none := (run_duration steps k0).trans hd
  refine ⟨fun inst f => ?_, fun tok => Conn.quiet_firing _ tok (run_inv steps k0 h0).1 hd'⟩
  rw [Conn.shouldCount_eq, hd']
  rfl

/-- `ConfigBuilder::build` switches the feature off together with ENR updates. -/
theorem no_enr_update_no_revocation (configured : Option Nat) : autoNatOf false configured = none := rfl

/-- **A vote the connectivity state does not admit changes nothing**: the record, the announced
sockets and the connectivity state itself stay as they were. -/
theorem blocked_pong_changes_nothing (k : KSvc) (tok inst : Nat) (o : Oracle) (peer : Nat) (addr : Addr)
    (id enrSeq : Nat) (observed : Addr) (hb : k.conn.shouldCount inst observed.v6 = false) :
    (k.step tok inst (.svc o (.response peer addr id (.pong enrSeq observed)))).1.svc.localRec
        = k.svc.localRec ∧
    sockEvs (k.step tok inst (.svc o (.response peer addr id (.pong enrSeq observed)))).2 = [] ∧
    (k.step tok inst (.svc o (.response peer addr id (.pong enrSeq observed)))).1.conn = k.conn := by
  have hfr := step_uncounted_fr k.svc { o with countable := k.conn.shouldCount inst observed.v6 }
    (.response peer addr id (.pong enrSeq observed)) hb
  have hev : sockEvs (k.step tok inst (.svc o (.response peer addr id (.pong enrSeq observed)))).2 = [] :=
    (sockEvs_eq _).trans hfr.outs
  refine ⟨hfr.st.loc, hev, ?_⟩
  show List.foldl _ k.conn
    (sockEvs (k.step tok inst (.svc o (.response peer addr id (.pong enrSeq observed)))).2) = k.conn
  rw [hev]
  rfl

/-- The timer of a family fires only when that family is being awaited and its deadline passed. -/
theorem timer_fires_only_when_due (k : Conn) (tok : Nat) (f : Bool) (h : k.firing tok = some f) :
    ∃ d, k.wait f = some d ∧ d ≤ tok :=
  (Conn.due_iff _ tok).1 (Conn.firing_due k tok f h)

/-- The socket of a family in a record (`SvcVotes.udpOf` under the name the statements use). -/
def sockOfFam (r : Rec) (f : Bool) : Option Nat := if f then r.udp6 else r.udp4

/-- **The timer step**: the socket of the family whose test failed is taken out of the record, the
sequence number goes up by exactly one, the other family's socket stays, nothing is announced as a
new socket, and the family is blocked until six hours (21 600 000 ms) after the `Instant` read in
this step. -/
theorem timer_step (k : KSvc) (tok inst sz sg : Nat) (f : Bool) (h : k.conn.firing tok = some f) :
    (k.step tok inst (.timer sz sg)).1.svc.localRec = removeSocket k.svc.localRec f sz sg ∧
    sockOfFam (k.step tok inst (.timer sz sg)).1.svc.localRec f = none ∧
    sockOfFam (k.step tok inst (.timer sz sg)).1.svc.localRec (!f) = sockOfFam k.svc.localRec (!f) ∧
    (k.step tok inst (.timer sz sg)).1.svc.localRec.seq = k.svc.localRec.seq + 1 ∧
    (k.step tok inst (.timer sz sg)).1.svc.localRec.id = k.svc.localRec.id ∧
    sockEvs (k.step tok inst (.timer sz sg)).2 = [] ∧
    (k.step tok inst (.timer sz sg)).1.conn.wait f = none ∧
    (k.step tok inst (.timer sz sg)).1.conn.next f = inst + 21600000 := by
  rw [KSvc.step_timer_fires k tok inst sz sg f h]
  dsimp only
  rw [(pingConnected_fr _).st.loc, (sockEvs_eq _).trans (pingConnected_fr _).outs, Conn.fire_wait,
    Conn.fire_next, if_pos rfl, if_pos rfl, retryMs_eq]
  refine ⟨rfl, ?_, ?_, ?_, ?_, rfl, rfl, rfl⟩ <;> cases f <;> rfl

/-- **The record changes only for a cause**: a due timer (case 1), or a PONG that reaches the vote
path while votes of the reported family are admitted (case 2; what such a PONG may do is the subject
of `Props/C17Service.lean`). -/
theorem record_change_has_cause (k : KSvc) (tok inst : Nat) (i : KInput)
    (h : (k.step tok inst i).1.svc.localRec ≠ k.svc.localRec) :
    (∃ sz sg f, i = .timer sz sg ∧ k.conn.firing tok = some f) ∨
    (∃ o peer addr id enrSeq observed, i = .svc o (.response peer addr id (.pong enrSeq observed)) ∧
      k.conn.shouldCount inst observed.v6 = true ∧ reachesVote k.svc peer addr id = true) := by
  cases i with
  | timer sz sg =>
    cases hf : k.conn.firing tok with
    | none => exact absurd (by rw [KSvc.step_timer_idle k tok inst sz sg hf]) h
    | some f => exact .inl ⟨sz, sg, f, rfl, rfl⟩
  | svc o inp =>
    right
    cases hv : votePong k.svc env0 inp with
    | none => exact absurd (step_fr k.svc _ env0 inp hv).st.loc h
    | some p =>
      obtain ⟨peer, addr, id, enrSeq, observed, rfl, hr, _⟩ := SvcVotes.votePong_some hv
      refine ⟨o, peer, addr, id, enrSeq, observed, rfl, ?_, hr⟩
      cases hc : k.conn.shouldCount inst observed.v6 with
      | true => rfl
      | false => exact absurd (blocked_pong_changes_nothing k tok inst o peer addr id enrSeq observed hc).1 h

/-- **Every announced socket change starts the wait for incoming sessions** of its family: the
deadline is the configured duration after the tokio time of the step, the count starts at zero. -/
theorem socket_update_starts_wait (k : KSvc) (tok inst d : Nat) (o : Oracle) (inp : Input) (a : Addr)
    (hd : k.conn.duration = some d) (ha : a ∈ sockEvs (k.step tok inst (.svc o inp)).2) :
    (k.step tok inst (.svc o inp)).1.conn.wait a.v6 = some (tok + d) ∧
    (k.step tok inst (.svc o inp)).1.conn.cnt a.v6 = 0 := by
  obtain ⟨c1, hc1, heq⟩ := KSvc.step_svc_conn k tok inst o inp
  rw [heq]
  refine Conn.foldUpdate_arms tok d a.v6 _ c1 ?_ ⟨a, ha, rfl⟩
  rcases hc1 with rfl | ⟨_, addr, _, rfl⟩
  · exact hd
  · exact (Conn.receivedIncoming_duration ..).trans hd

/-- **The wait for incoming sessions of a family ends only in one of two ways**: its timer fires
(and the socket is revoked), or an incoming session of that family is reported which is at least
the second one since the socket was announced. -/
theorem wait_ends_only_by_timer_or_two_incoming (k : KSvc) (tok inst : Nat) (i : KInput) (f : Bool) (d : Nat)
    (hw : k.conn.wait f = some d) (hc : (k.step tok inst i).1.conn.wait f = none) :
    (∃ sz sg, i = .timer sz sg ∧ k.conn.firing tok = some f) ∨
    (∃ o r addr, i = .svc o (.established r addr true) ∧ addr.v6 = f ∧ k.conn.cnt f + 1 ≥ 2) := by
  cases i with
  | timer sz sg =>
    left
    cases hf : k.conn.firing tok with
    | none =>
      rw [KSvc.step_timer_idle k tok inst sz sg hf, hw] at hc
      cases hc
    | some g =>
      rw [KSvc.step_timer_fires k tok inst sz sg g hf] at hc
      rw [Conn.fire_wait] at hc
      split at hc
      · subst g
        exact ⟨sz, sg, rfl, rfl⟩
      · rw [hw] at hc
        cases hc
  | svc o inp =>
    right
    obtain ⟨c1, hc1, heq⟩ := KSvc.step_svc_conn k tok inst o inp
    rw [heq] at hc
    have h1 := Conn.foldUpdate_keeps_wait tok f _ c1 hc
    rcases hc1 with rfl | ⟨r, addr, rfl, rfl⟩
    · rw [hw] at h1
      cases h1
    · obtain ⟨h2, h3⟩ := Conn.receivedIncoming_clears k.conn addr.v6 f d hw h1
      exact ⟨o, r, addr, rfl, h2, required_eq ▸ h3⟩

/-- Votes of family `f` are blocked until `t0 + 6 h`. -/
def Blocked (f : Bool) (t0 : Nat) (k : KSvc) : Prop :=
  k.conn.duration.isSome = true ∧ t0 + 21600000 ≤ k.conn.next f

theorem step_blocked (f : Bool) (t0 : Nat) (k : KSvc) (tok inst : Nat) (i : KInput)
    (hb : Blocked f t0 k) (hi : t0 ≤ inst) : Blocked f t0 (k.step tok inst i).1 := by
  refine ⟨by rw [step_duration]; exact hb.1, ?_⟩
  refine KSvc.step_conn_preserves (P := fun c => t0 + 21600000 ≤ c.next f) tok inst
    (fun c v6 h => by rw [Conn.receivedIncoming_next]; exact h)
    (fun c v6 h => by rw [Conn.enrSocketUpdate_next]; exact h)
    (fun c g h => ?_) k i hb.2
  rw [Conn.fire_next, retryMs_eq]
  split
  · omega
  · exact h

theorem run_blocked (f : Bool) (t0 : Nat) (steps : List (Nat × Nat × KInput)) (k : KSvc)
    (hb : Blocked f t0 k) (hc : ∀ s ∈ steps, t0 ≤ s.2.1) : Blocked f t0 (k.run steps).1 :=
  KSvc.run_preserves steps (fun k s hs h => step_blocked f t0 k s.1 s.2.1 s.2.2 h (hc s hs)) k hb

theorem blocked_shouldCount (f : Bool) (t0 : Nat) (k : KSvc) (inst : Nat) (hb : Blocked f t0 k)
    (hi : inst < t0 + 21600000) : k.conn.shouldCount inst f = false := by
  obtain ⟨hd, hn⟩ := hb
  rw [Conn.shouldCount_eq]
  cases hdd : k.conn.duration with
  | none =>
    rw [hdd] at hd
    cases hd
  | some d => exact decide_eq_false (by omega)

/-- **A revoked family stays revoked for six hours.**  If votes of family `f` are blocked until
`t0 + 6 h` and every `Instant` the service reads lies in `[t0, t0 + 6 h)`, then throughout the
history - whatever sessions, answers, failures, user calls, timer firings and PONGs of the other
family it contains - every PONG that reports a socket of family `f` leaves the local record as it
is and announces nothing. -/
theorem revoked_family_ignored_for_six_hours (f : Bool) (t0 : Nat) (k0 : KSvc) (hb : Blocked f t0 k0)
    (steps : List (Nat × Nat × KInput))
    (hclock : ∀ s ∈ steps, t0 ≤ s.2.1 ∧ s.2.1 < t0 + 21600000)
    (pre post : List (Nat × Nat × KInput)) (tok inst : Nat) (o : Oracle) (peer : Nat) (addr : Addr)
    (id enrSeq : Nat) (observed : Addr)
    (hsplit : steps = pre ++ (tok, inst, .svc o (.response peer addr id (.pong enrSeq observed))) :: post)
    (hf : observed.v6 = f) :
    ((k0.run pre).1.step tok inst (.svc o (.response peer addr id (.pong enrSeq observed)))).1.svc.localRec
        = (k0.run pre).1.svc.localRec ∧
    sockEvs ((k0.run pre).1.step tok inst (.svc o (.response peer addr id (.pong enrSeq observed)))).2 = [] := by
  subst hsplit
  have hpre : Blocked f t0 (k0.run pre).1 :=
    run_blocked f t0 pre k0 hb (fun s hs => (hclock s (List.mem_append_left _ hs)).1)
  have hme := hclock (tok, inst, .svc o (.response peer addr id (.pong enrSeq observed)))
    (List.mem_append_right _ List.mem_cons_self)
  have hsc := blocked_shouldCount f t0 _ inst hpre hme.2
  rw [← hf] at hsc
  have := blocked_pong_changes_nothing (k0.run pre).1 tok inst o peer addr id enrSeq observed hsc
  exact ⟨this.1, this.2.1⟩

/-- The state right after a failed connectivity test is such a blocked state, with `t0` the
`Instant` read when the timer fired (for every reachable state: `KInv` holds along every history,
`run_inv`). -/
theorem after_failed_test (k : KSvc) (hk : KInv k) (tok inst sz sg : Nat) (f : Bool)
    (h : k.conn.firing tok = some f) :
    Blocked f inst (k.step tok inst (.timer sz sg)).1 := by
  have hs := timer_step k tok inst sz sg f h
  refine ⟨?_, by rw [hs.2.2.2.2.2.2.2]; exact Nat.le_refl _⟩
  rw [step_duration]
  cases hd : k.conn.duration with
  | some _ => rfl
  | none => rw [Conn.quiet_firing k.conn tok hk.1 hd] at h; cases h

/-! ## Non-vacuity -/

/-- A node that advertises 10.0.0.1:9000 (`167772161 * 65536 + 9000`), waits 1000 ms for incoming
sessions, and sees none: the timer is due at 1500, fires, the socket is gone with sequence number
+ 1, and IPv4 votes are blocked at `Instant` 2000 while IPv6 votes are not. -/
def exRec : Rec :=
  { id := 1, seq := 7, udp4 := some (167772161 * 65536 + 9000), udp6 := none, udp6Mapped := false,
    size := 100, passesFilter := true }

def exK : KSvc :=
  { svc := Svc.init { ipMode := .ip4, maxNodesResponse := 16, enrUpdate := true, kb := kbCfg 16 60000 } exRec
    conn := (Conn.new (some 1000) 0).enrSocketUpdate 100 false }

theorem exK_inv : KInv exK :=
  Conn.enrSocketUpdate_inv _ _ _ (Conn.new_inv _ _)

example : KInv exK := exK_inv

example : exK.conn.firing 1099 = none := by decide
example : exK.conn.firing 1500 = some false := by decide
example : sockOfFam (exK.step 1500 50 (.timer 90 1)).1.svc.localRec false = none :=
  (timer_step exK 1500 50 90 1 false (by decide)).2.1
example : (exK.step 1500 50 (.timer 90 1)).1.svc.localRec.seq = 8 :=
  (timer_step exK 1500 50 90 1 false (by decide)).2.2.2.1
example : Blocked false 50 (exK.step 1500 50 (.timer 90 1)).1 :=
  after_failed_test exK exK_inv 1500 50 90 1 false (by decide)
example : ((exK.conn.fire 50 false).shouldCount 2000 false, (exK.conn.fire 50 false).shouldCount 2000 true)
    = (false, true) := by decide
/-- Two incoming IPv4 sessions end the wait; one does not. -/
example : ((exK.conn.receivedIncoming false).wait false, ((exK.conn.receivedIncoming false).receivedIncoming false).wait false)
    = (some 1100, none) := by decide

end Discv5.Props.C17Conn
