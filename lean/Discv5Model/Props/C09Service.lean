/-
C09 / C10 at the level of the service: the lookups of `Model/Lookup.lean` (`LSvc` = service model +
the lookup's state machine, `LSvc.step` = one service step followed by everything the service loop
does for the lookup: requests for the peers it selects, failures for peers whose record is unknown
or not contactable, the hand-over of the result).

The state of the running lookup is always the state a `FindNodeQuery` / `PredicateQuery` reaches from its
constructor along some sequence of `next` / `on_success` / `on_failure` calls, so every theorem of
`Props/C09.lean` and `Props/C10.lean` holds of the lookups the service actually runs.  The service component
of a composed step is a run of the service model on its own (the step, then inputs the loop generates
itself), so what is proved of all runs of `Svc` - the routing-table policy of C12 in particular - holds with
lookups running.
-/
import Discv5Model.Proofs.LookupLemmas
import Discv5Model.Proofs.LookupLedger
import Discv5Model.Proofs.ServiceServe
import Discv5Model.Props.C12

namespace Discv5.Props.C09Service

open Discv5.KB
open Discv5.Svc
open Discv5.Svc.Svc
open Discv5.Lookup

/-- Every running lookup is a query history. -/
def LInv (c : LCfg) (k : LSvc) : Prop := ∀ q, k.q = some q → IsHistory c q

theorem step_inv (c : LCfg) (now : Nat) (k : LSvc) (i : LInput) (h : LInv c k) :
    LInv c (k.step c now i).1 := by
  obtain ⟨sel, hs⟩ := ledInv_of_history h
  exact fun q hq => (step_ledger c now k sel i hs q hq).history

/-- The ledger is not a separate run: its state component is the run of the composition. -/
theorem runSel_is_run (c : LCfg) (steps : List (Nat × LInput)) :
    ∀ (k : LSvc) (sel : List Nat), (runSel c k sel steps).1 = (LSvc.run c k steps).1 := by
  induction steps with
  | nil => intro k sel; rfl
  | cons s rest ih =>
    intro k sel
    obtain ⟨now, i⟩ := s
    exact ih _ _

/-- **The lookups the service runs are query histories.**  Start from any service state without a
lookup; after any sequence of service steps (sessions, requests, answers, failures, user calls -
whatever the oracle says) and lookups, a running lookup is in a state that `FindNodeQuery` /
`PredicateQuery` reaches from `with_config` along calls of `next`, `on_success`, `on_failure`. -/
theorem lookup_is_query_history (c : LCfg) (s0 : Svc) (steps : List (Nat × LInput)) (q : Q)
    (hq : (LSvc.run c { svc := s0 } steps).1.q = some q) : IsHistory c q := by
  rw [← runSel_is_run c steps _ []] at hq
  exact (runSel_ledger c steps { svc := s0 } [] (fun _ h => by cases h) q hq).history

/-- **Bounded parallelism of the lookups the service runs**: never more requests in flight than the
larger of the configured parallelism and the number of results asked for (the bound that holds in
every phase of a lookup, `Query.parallelism_bound`). -/
theorem lookup_inflight_bounded (c : LCfg) (s0 : Svc) (steps : List (Nat × LInput)) (q : Q)
    (hq : (LSvc.run c { svc := s0 } steps).1.q = some q) :
    q.peers.countP (fun e => e.state.isWaiting) ≤ max c.parallelism q.cfg.numResults :=
  (lookup_is_query_history c s0 steps q hq).inflight

/-- A result comes out of the service loop only when a lookup was handed to it; none remains, and the
result is no larger than that lookup asked for. -/
theorem pump_result (now : Nat) (k : LSvc) (found : List Rec) (h : (pump now k).2.2 = some found) :
    (pump now k).1.q = none ∧ ∃ q, k.q = some q ∧ found.length ≤ q.cfg.numResults := by
  unfold pump at h ⊢
  cases hq : k.q with
  | none => rw [hq] at h; cases h
  | some q =>
    rw [hq] at h
    exact ⟨(pumpLoop_result now _ k.svc q [] found h).1, q, rfl, (pumpLoop_result now _ k.svc q [] found h).2⟩

/-- After the step that hands over a result no lookup runs. -/
theorem result_ends_lookup (c : LCfg) (now : Nat) (k : LSvc) (i : LInput) (found : List Rec)
    (h : (k.step c now i).2.2 = some found) : (k.step c now i).1.q = none := by
  rcases step_result c now k i found h with ⟨_, _, hq⟩ | ⟨s0, q0, _, he, hp⟩
  · exact hq
  · rw [he]; exact (pump_result now _ found hp).1

/-- A service step hands over a result only if a lookup was running. -/
theorem result_needs_lookup (c : LCfg) (now : Nat) (k : LSvc) (o : Oracle) (inp : Input) (found : List Rec)
    (h : (k.step c now (.svc o inp)).2.2 = some found) : k.q.isSome = true := by
  rcases step_result c now k _ found h with ⟨⟨_, _, hi⟩, _⟩ | ⟨s0, q0, hH, _⟩
  · cases hi
  · cases hH with
    | running _ _ hk => rw [hk]; rfl
    | effect _ _ _ hk => rw [hk]; rfl

/-- While no lookup runs the composition is the service model itself. -/
theorem no_lookup_is_plain_service (c : LCfg) (now : Nat) (k : LSvc) (o : Oracle) (inp : Input)
    (h : k.q = none) :
    k.step c now (.svc o inp) = ({ svc := (k.svc.step o inp).1, q := none }, (k.svc.step o inp).2, none) := by
  rw [step_svc, h]
  simp [pump]

/-- What a step may hand over at most: the number of results of the running lookup, resp. of the
lookup the step starts. -/
def stepBound (k : LSvc) : LInput → Nat
  | .svc _ _ => match k.q with | some q => q.cfg.numResults | none => 0
  | .lookup _ none => 16
  | .lookup _ (some n) => n

/-- **A lookup returns at most as many nodes as it was asked for** (16 for `find_node`). -/
theorem result_size (c : LCfg) (now : Nat) (k : LSvc) (i : LInput) (found : List Rec)
    (h : (k.step c now i).2.2 = some found) : found.length ≤ stepBound k i := by
  rcases step_result c now k i found h with ⟨_, rfl, _⟩ | ⟨s0, q0, hH, _, hp⟩
  · exact Nat.zero_le _
  · obtain ⟨_, _, hq, hlen⟩ := pump_result now _ found hp
    cases hq
    cases hH with
    | running _ _ hk => show _ ≤ (match k.q with | some q => q.cfg.numResults | none => 0); rw [hk]; exact hlen
    | effect _ _ e hk =>
      show _ ≤ (match k.q with | some q => q.cfg.numResults | none => 0)
      rw [hk]
      rw [(applyEffect_const c _ e).1] at hlen; exact hlen
    | start _ n _ _ => cases n <;> exact hlen

/-- **A lookup the service runs never selects the same peer twice.**  Follow any history of service
steps and lookups from a state without a lookup, keeping the ledger `runSel` of the peers the running
lookup's `next` handed to the service loop (`send_rpc_query` is called for exactly these, in this
order; the ledger starts afresh with every lookup): while a lookup runs, no peer occurs twice in it -
whatever answers, failures, late answers, records that cannot be contacted, table changes and user
calls the history contains. -/
theorem lookup_never_selects_a_peer_twice (c : LCfg) (s0 : Svc) (steps : List (Nat × LInput))
    (hrun : (runSel c { svc := s0 } [] steps).1.q.isSome = true) :
    (runSel c { svc := s0 } [] steps).2.Nodup := by
  have h := runSel_ledger c steps { svc := s0 } [] (fun _ hq => by cases hq)
  cases hq : (runSel c { svc := s0 } [] steps).1.q with
  | none => rw [hq] at hrun; cases hrun
  | some q => exact (h q hq).nodup

/-- **A composed step is a run of the service model**: the step itself, followed by inputs the
service loop generates on its own (a request for a peer the lookup selected, the end of the lookup,
`find_enr` look-ups for the result).  Every invariant proved of all runs of `Svc` therefore holds with
lookups running. -/
theorem service_step_is_a_run (c : LCfg) (now : Nat) (k : LSvc) (o : Oracle) (inp : Input) :
    ∃ l : List Input, (∀ i ∈ l, IsInternal i) ∧
      (k.step c now (.svc o inp)).1.svc = (k.svc.run ((o, inp) :: l.map fun i => (({} : Oracle), i))).1 :=
  step_svc_internal c now k o inp

theorem lookup_start_is_a_run (c : LCfg) (now : Nat) (k : LSvc) (target : Nat) (n : Option Nat) :
    ∃ l : List Input, (∀ i ∈ l, IsInternal i) ∧
      (k.step c now (.lookup target n)).1.svc = (k.svc.run (l.map fun i => (({} : Oracle), i))).1 :=
  step_lookup_internal c now k target n

/-- A composed step as a run of the service model all of whose oracles are sane (the loop's own inputs
come with the empty oracle). -/
theorem step_is_a_sane_run (c : LCfg) (now : Nat) (k : LSvc) (i : LInput)
    (ho : ∀ o inp, i = .svc o inp → C12.OracleSane k.svc o) :
    ∃ l : List (Oracle × Input), (∀ p ∈ l, C12.OracleSane k.svc p.1) ∧
      (k.step c now i).1.svc = (k.svc.run l).1 := by
  have hsane : ∀ (l : List Input) (p : Oracle × Input),
      p ∈ (l.map fun i => (({} : Oracle), i)) → C12.OracleSane k.svc p.1 := by
    intro l p hp'
    obtain ⟨i', _, rfl⟩ := List.mem_map.mp hp'
    intro r a h; cases h
  cases i with
  | svc o inp =>
    obtain ⟨l, _, he⟩ := service_step_is_a_run c now k o inp
    refine ⟨_, fun p hp' => ?_, he⟩
    cases hp' with
    | head => exact ho o inp rfl
    | tail _ h => exact hsane l p h
  | lookup target n =>
    obtain ⟨l, _, he⟩ := lookup_start_is_a_run c now k target n
    exact ⟨_, hsane l, he⟩

/-- **The routing-table policy of C12 holds with lookups running**: from a well-formed state that
satisfies the policy (every stored and pending value contactable, passing the table filter, not the
local node), a composed step - whatever the lookup does in it - leads to such a state again. -/
theorem lookups_keep_table_policy (c : LCfg) (now : Nat) (k : LSvc) (i : LInput)
    (hw : C12.Wf k.svc) (hp : C12.TablePolicy k.svc)
    (ho : ∀ o inp, i = .svc o inp → C12.OracleSane k.svc o) :
    C12.Wf (k.step c now i).1.svc ∧ C12.TablePolicy (k.step c now i).1.svc := by
  obtain ⟨l, hl, he⟩ := step_is_a_sane_run c now k i ho
  rw [he]
  exact C12.table_policy_run l k.svc hw hl hp

/-! ## Non-vacuity -/

def exRec (id : Nat) : Rec :=
  { id := id, seq := 1, udp4 := some (167772160 * 65536 + 9000 + id), udp6 := none, udp6Mapped := false,
    size := 100, passesFilter := true }

def exCfg : Cfg := { ipMode := .ip4, maxNodesResponse := 16, kb := kbCfg 16 60000 }

/-- A node with two table entries starts a lookup: both are asked at once (parallelism 3), the lookup
waits; both requests fail; the lookup ends with an empty result - handed over exactly then. -/
def exK0 : LSvc :=
  { svc := ((((Svc.init exCfg (exRec 1)).step {} (.addEnr (exRec 6))).1).step {} (.addEnr (exRec 12))).1 }

def exRun := LSvc.run {} exK0 [(0, .lookup 5 none), (0, .svc {} (.requestFailed 1)), (0, .svc {} (.requestFailed 2))]

/-! The kernel pays for every indexed access to the 256 buckets anew, so the start of the lookup (a walk
over all buckets) is not evaluated: the buckets of `exK0` are written down (`exK0_buckets`, checked by
unfolding once), the walk is done by `startQuery_of_no_pending`, and only the rest is evaluated. -/

def exNode (id stamp : Nat) : Node Rec :=
  { key := id, value := exRec id, st := { conn := false, incoming := true }, stamp := stamp }

def exBuckets : List (Bucket Rec) :=
  [({} : Bucket Rec), ({} : Bucket Rec), { nodes := [exNode 6 1] }, { nodes := [exNode 12 2] }] ++
    List.replicate 252 ({} : Bucket Rec)

theorem exK0_buckets : exK0.svc.table.buckets = exBuckets := rfl

theorem exK0_bucket (i : Nat) : (exK0.svc.table.bucket i).nodes =
    if i = 2 then [exNode 6 1] else if i = 3 then [exNode 12 2] else [] := by
  unfold Table.bucket
  rw [exK0_buckets]
  match i with
  | 0 | 1 | 2 | 3 => rfl
  | i + 4 =>
    rw [if_neg (by omega), if_neg (by omega)]
    show ((List.replicate 252 ({} : Bucket Rec)).getD i {}).nodes = []
    rw [List.getD_eq_getElem?_getD, List.getElem?_replicate]
    split <;> rfl

example : exRun.2.1.length = 2 ∧ exRun.2.2 = [[]] ∧ exRun.1.q.isNone = true := by
  have hnp : ∀ b ∈ exK0.svc.table.buckets, b.pending = none := by rw [exK0_buckets]; decide +kernel
  have hns : ((bucketOrder (exK0.svc.table.localKey ^^^ 5)).flatMap fun i =>
      sortByDist 5 (exK0.svc.table.bucket i).nodes).map (·.value) = [exRec 6, exRec 12] := by
    simp only [exK0_bucket, apply_ite (sortByDist 5), sortByDist_nil]
    decide +kernel
  unfold exRun
  rw [LSvc.run, LSvc.step, startQuery_of_no_pending exK0.svc 5 hnp hns (by simp)]
  decide +kernel

end Discv5.Props.C09Service
