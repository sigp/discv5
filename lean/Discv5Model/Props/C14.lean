/-
C14 — Served FINDNODE and PING answers are correct and fit a datagram.

Statements about `sendNodesResponse` / `handleRequest` of `Model/Service.lean` and the RLP length
function `nodesRespLen` stated there.  Helper lemmas (the model's sort + dedup, the closed form of
`nodesToSend`, the split, value predicates on what `nodes_by_distances` returns) live in
`Proofs/ServiceServe.lean` and `Proofs/ServiceNodes.lean`; exactness of `nodes_by_distances` is C08.
-/
import Discv5Model.Model.Service
import Discv5Model.Model.KBucketSpec
import Discv5Model.Proofs.ServiceNodes
import Discv5Model.Props.C08

namespace Discv5.Props.C14
open Discv5.KB Discv5.Svc

/-- The record lists of the NODES packets among the emitted messages. -/
def packetsOf (outs : List Out) : List (List Rec) :=
  outs.filterMap fun
    | .response _ _ _ (.nodes _ recs) => some recs
    | _ => none

/-- The table part of an answer: `nodes_by_distances` over the sorted, de-duplicated non-zero
distances with the configured maximum, minus the requester. -/
def tablePart (s : Svc) (requester : Nat) (ds : List Nat) : List Rec :=
  ((s.table.nodesByDistances s.cfg.kb s.now ((Svc.dedupAdj (Svc.sortNat ds)).filter (· != 0))
      s.cfg.maxNodesResponse).2.filter (fun n => n.key != requester)).map (·.value)

/-- The requester's own entry is never returned: every table record of the answer comes from an
entry filed under a key other than the requester's id. -/
theorem requester_absent (s : Svc) (requester : Nat) (ds : List Nat) :
    ∀ r ∈ tablePart s requester ds,
      ∃ n ∈ (s.table.nodesByDistances s.cfg.kb s.now ((Svc.dedupAdj (Svc.sortNat ds)).filter (· != 0))
        s.cfg.maxNodesResponse).2, n.value = r ∧ n.key ≠ requester := by
  intro r hr
  unfold tablePart at hr
  simp only [List.mem_map, List.mem_filter] at hr
  obtain ⟨n, ⟨hn, hk⟩, rfl⟩ := hr
  exact ⟨n, hn, rfl, by simpa using hk⟩

def sizeSum (p : List Rec) : Nat := (p.map (·.size)).sum

theorem splitFold_sound (recs : List Rec) (hsz : ∀ r ∈ recs, r.size < 1280 - 104) :
    ∀ st : Svc.SplitSt, sizeSum st.cur = st.size → st.size < 1280 - 104 →
      (∀ p ∈ st.done, sizeSum p < 1280 - 104) →
      ∀ p ∈ (recs.foldl Svc.splitStep st).done ++ [(recs.foldl Svc.splitStep st).cur],
        sizeSum p < 1280 - 104 := by
  induction recs with
  | nil =>
    intro st h1 h2 h3 p hp
    simp at hp
    rcases hp with hp | hp
    · exact h3 p hp
    · subst hp; omega
  | cons r rest ih =>
    intro st h1 h2 h3
    rw [List.foldl_cons]
    have hr := hsz r (by simp)
    apply ih (fun x hx => hsz x (by simp [hx]))
    · unfold Svc.splitStep
      split <;> simp [sizeSum] at h1 ⊢ <;> omega
    · unfold Svc.splitStep
      split
      · rename_i h
        have : Svc.splitLimit = 1280 - 104 := by decide
        simp only
        omega
      · simp only; exact hr
    · unfold Svc.splitStep
      split
      · exact h3
      · intro p hp
        simp at hp
        rcases hp with hp | hp
        · exact h3 p hp
        · subst hp; omega

/-- If every record is smaller than the limit, the record sizes of every
packet sum to less than `1280 − 104`.  (The literal `1280 - 104` is compared with the regenerated
`MAX_PACKET_SIZE - NODES_SPLIT_MARGIN` inside the proof: a changed margin breaks it.) -/
theorem split_sound (recs : List Rec) (hsz : ∀ r ∈ recs, r.size < 1280 - 104) :
    ∀ p ∈ Svc.splitPackets recs, (p.map (·.size)).sum < 1280 - 104 := by
  unfold Svc.splitPackets
  simp only
  exact splitFold_sound recs hsz {} (by simp [sizeSum]) (by simp) (by simp)

/-- Every message emitted for a FINDNODE is a NODES response to the
requester's node address carrying the request's id, and `total` equals the number of packets. -/
theorem split_framing (s : Svc) (requester : Nat) (addr : Addr) (rid : Bytes) (ds : List Nat) :
    ∀ o ∈ (s.sendNodesResponse requester addr rid ds).2,
      ∃ recs, o = .response requester addr rid
        (.nodes (s.sendNodesResponse requester addr rid ds).2.length recs) := by
  intro o ho
  unfold Svc.sendNodesResponse at ho ⊢
  simp only at ho ⊢
  have ht := (nodesPackets_total (s.nodesToSend requester ds).2).1
  simp only [List.mem_map, List.length_map] at ho ⊢
  obtain ⟨p, _, hp⟩ := ho
  exact ⟨p, by rw [← hp, ht]⟩

/-- At least one packet is always sent (an empty answer is one packet with `total = 1`). -/
theorem answered (s : Svc) (requester : Nat) (addr : Addr) (rid : Bytes) (ds : List Nat) :
    1 ≤ (s.sendNodesResponse requester addr rid ds).2.length := by
  unfold Svc.sendNodesResponse
  simp only [List.length_map]
  exact (nodesPackets_total _).2

theorem packetsOf_map (peer : Nat) (addr : Addr) (rid : Bytes) (total : Nat) (ps : List (List Rec)) :
    packetsOf (ps.map fun p => Out.response peer addr rid (.nodes total p)) = ps := by
  induction ps with
  | nil => rfl
  | cons p ps ih =>
    unfold packetsOf at ih ⊢
    rw [List.map_cons, List.filterMap_cons]
    simp only
    rw [ih]

theorem nodesPackets_flatten (recs : List Rec) : (Svc.nodesPackets recs).1.flatten = recs := by
  unfold Svc.nodesPackets
  by_cases h : recs.isEmpty
  · rw [if_pos h]
    have : recs = [] := by simpa using h
    subst this
    rfl
  · rw [if_neg h]
    exact splitPackets_flatten recs

/-- The records of all packets together are: the node's own record iff
distance 0 was requested, followed by its table entries at the requested distances
(`nodes_by_distances`, whose exactness is C08) without the requester's entry. -/
theorem served_records (s : Svc) (requester : Nat) (addr : Addr) (rid : Bytes) (ds : List Nat) :
    (packetsOf (s.sendNodesResponse requester addr rid ds).2).flatten =
      (if ds.contains 0 then [s.localRec] else []) ++ tablePart s requester ds := by
  unfold Svc.sendNodesResponse
  simp only
  rw [packetsOf_map, nodesPackets_flatten, nodesToSend_snd]
  rfl

/-- At most the configured maximum of table entries, plus the own record. -/
theorem served_count (s : Svc) (requester : Nat) (ds : List Nat) (hmax : 1 ≤ s.cfg.maxNodesResponse) :
    (s.nodesToSend requester ds).2.length ≤ s.cfg.maxNodesResponse + 1 := by
  rw [nodesToSend_snd]
  have h1 := nodesByDistances_length_le s.cfg.kb s.now s.table
    ((Svc.dedupAdj (Svc.sortNat ds)).filter (· != 0)) s.cfg.maxNodesResponse hmax
  have h2 := List.length_filter_le (fun n : Node Rec => n.key != requester)
    (s.table.nodesByDistances s.cfg.kb s.now ((Svc.dedupAdj (Svc.sortNat ds)).filter (· != 0))
      s.cfg.maxNodesResponse).2
  rw [List.length_append, List.length_map]
  by_cases h0 : ds.contains 0 = true
  · rw [if_pos h0]; simp only [List.length_cons, List.length_nil]; omega
  · rw [if_neg h0]; simp only [List.length_nil]; omega

/-- The distance list handed to `nodes_by_distances` (sorted, de-duplicated, 0 removed) is strictly
increasing — so the `Nodup` hypothesis of C08 `nodesByDistances_exact` holds — and its members are
exactly the non-zero requested distances. -/
theorem served_distances (ds : List Nat) :
    ((Svc.dedupAdj (Svc.sortNat ds)).filter (· != 0)).Pairwise (· < ·) ∧
    ∀ d, d ∈ (Svc.dedupAdj (Svc.sortNat ds)).filter (· != 0) ↔ d ∈ ds ∧ d ≠ 0 := by
  obtain ⟨h1, h2⟩ := normDistances ds
  refine ⟨h1.filter _, fun d => ?_⟩
  rw [List.mem_filter, h2]
  simp

/-- `served_records` combined with C08: on a table satisfying the routing-table invariant, the
table part of the answer is taken from `want.take max_nodes_response`, where `want` is the
concatenation (by increasing distance) of the buckets at the requested distances in 1..256 (after
the lazily applied pending nodes); every such node is filed at a requested distance, no id twice. -/
theorem served_table_exact (s : Svc) (ds : List Nat) (h : TInv s.cfg.kb s.table)
    (hmax : 1 ≤ s.cfg.maxNodesResponse) :
    let D := (Svc.dedupAdj (Svc.sortNat ds)).filter (· != 0)
    let r := s.table.nodesByDistances s.cfg.kb s.now D s.cfg.maxNodesResponse
    let want := (D.filter (fun d => 1 ≤ d ∧ d ≤ 256)).flatMap (fun d => (r.1.bucket (d - 1)).nodes)
    (∀ n ∈ r.2, ∃ d ∈ ds, 1 ≤ d ∧ d ≤ 256 ∧ bucketIndex s.table.localKey n.key = some (d - 1)) ∧
    r.2 = want.take s.cfg.maxNodesResponse ∧ (r.2.map (·.key)).Nodup := by
  intro D r want
  obtain ⟨hp, hm⟩ := served_distances ds
  have hnd : D.Nodup := hp.imp (fun h => Nat.ne_of_lt h)
  obtain ⟨h1, h2, h3⟩ := nodesByDistances_exact s.cfg.kb s.now s.table D s.cfg.maxNodesResponse h hnd hmax
  refine ⟨?_, h2, h3⟩
  intro n hn
  obtain ⟨d, hd, hd1, hd2, hd3⟩ := h1 n hn
  exact ⟨d, ((hm d).1 hd).1, hd1, hd2, hd3⟩

theorem beLen_le_two (n : Nat) (h : n < 65536) : beLen n ≤ 2 := by
  unfold beLen
  by_cases hz : n = 0
  · simp [hz]
  · rw [if_neg hz]
    have : n.log2 < 16 := (Nat.log2_lt hz).mpr (by omega)
    omega

theorem rlpHeaderLen_le_three (n : Nat) (h : n < 65536) : rlpHeaderLen n ≤ 3 := by
  unfold rlpHeaderLen
  have := beLen_le_two n h
  split <;> omega

theorem rlpBytesLenOf_le (b : Bytes) (h : b.length ≤ 8) : rlpBytesLenOf b ≤ 9 := by
  unfold rlpBytesLenOf
  split
  · unfold rlpBytesLen rlpHeaderLen
    split <;> simp
  · unfold rlpBytesLen rlpHeaderLen
    simp
    split <;> omega

/-- The arithmetic core of `served_fits_datagram`.  A NODES response whose record sizes sum to less than
`1280 − 104`, with a request id of at most 8 bytes and a one-byte `total` (≤ 127), encodes — as a
message packet: 16 masking IV + 23 static header + 32 auth-data + ciphertext + 16 tag — to at most
1280 bytes on the wire. -/
theorem fits_datagram (rid : Bytes) (total : Nat) (sizes : List Nat) (hrid : rid.length ≤ 8)
    (htotal : total ≤ 127) (hsum : sizes.sum < 1280 - 104) :
    16 + 23 + 32 + nodesRespLen rid total sizes + 16 ≤ 1280 := by
  unfold nodesRespLen
  simp only
  have h1 := rlpBytesLenOf_le rid hrid
  have h2 : rlpUintLen total = 1 := by unfold rlpUintLen; rw [if_pos (by omega)]
  have h3 := rlpHeaderLen_le_three sizes.sum (by omega)
  have h4 := rlpHeaderLen_le_three
    (rlpBytesLenOf rid + rlpUintLen total + (rlpHeaderLen sizes.sum + sizes.sum)) (by omega)
  omega

/-- `datagramLen` is the sum spelled out in `fits_datagram`. -/
theorem datagramLen_eq (n : Nat) : datagramLen n = 16 + 23 + 32 + n + 16 := by
  unfold datagramLen Consts.IV_LENGTH Consts.STATIC_HEADER_LENGTH
  omega

/-- Every record `nodesToSend` collects is the own record or a stored / pending record of the table. -/
theorem nodesToSend_vals (s : Svc) (requester : Nat) (ds : List Nat)
    (P : Rec → Prop) (hown : P s.localRec) (htab : Serve.TVals P s.table) :
    ∀ r ∈ (s.nodesToSend requester ds).2, P r := by
  intro r hr
  rw [nodesToSend_snd, List.mem_append] at hr
  rcases hr with hr | hr
  · by_cases h0 : ds.contains 0 = true
    · rw [if_pos h0, List.mem_singleton] at hr; rw [hr]; exact hown
    · rw [if_neg h0] at hr; cases hr
  · rw [List.mem_map] at hr
    obtain ⟨n, hn, rfl⟩ := hr
    exact nodesByDistances_out_vals (Serve.tvals_iff.1 htab) n (List.mem_filter.1 hn).1

theorem nodesPackets_sound (recs : List Rec) (hsz : ∀ r ∈ recs, r.size < 1280 - 104) :
    ∀ p ∈ (Svc.nodesPackets recs).1, (p.map (·.size)).sum < 1280 - 104 := by
  unfold Svc.nodesPackets
  by_cases h : recs.isEmpty
  · rw [if_pos h]
    intro p hp
    rw [List.mem_singleton] at hp
    subst hp
    decide
  · rw [if_neg h]
    exact split_sound recs hsz

/-- With every record (stored ones, those in pending slots, and the own one) at most 300 bytes, a
request id of at most 8 bytes and a configured maximum of at most 125 records, every packet
answering a FINDNODE fits a datagram.  (125: with the own record that is at most 126 records, hence
at most 127 packets, so that `total` is a single RLP byte as `fits_datagram` assumes.)

`hpend` cannot be dropped: `nodes_by_distances` first applies the pending node of every visited
bucket, so a record waiting in a bucket's pending slot is promoted and served by the very same call
(`served_fits_datagram_original_false` below: a full bucket of 16 disconnected 300-byte records
whose pending slot holds a 2000-byte record).  Not an implementation defect: every `Enr`, stored or
pending, is at most 300 bytes by construction of the type. -/
theorem served_fits_datagram (s : Svc) (requester : Nat) (addr : Addr) (rid : Bytes) (ds : List Nat)
    (hrid : rid.length ≤ 8) (hmax : 1 ≤ s.cfg.maxNodesResponse ∧ s.cfg.maxNodesResponse ≤ 125)
    (hown : s.localRec.size ≤ 300)
    (htab : ∀ b ∈ s.table.buckets, ∀ n ∈ b.nodes, n.value.size ≤ 300)
    (hpend : ∀ b ∈ s.table.buckets, ∀ p, b.pending = some p → p.node.value.size ≤ 300) :
    ∀ total recs, Out.response requester addr rid (.nodes total recs) ∈
        (s.sendNodesResponse requester addr rid ds).2 →
      datagramLen (nodesRespLen rid total (recs.map (·.size))) ≤ 1280 := by
  intro total recs hmem
  obtain ⟨hp, ht⟩ := mem_sendNodesResponse hmem
  have hsz : ∀ r ∈ (s.nodesToSend requester ds).2, r.size ≤ 300 :=
    nodesToSend_vals s requester ds (fun r => r.size ≤ 300) hown
      (fun b hb => ⟨htab b hb, hpend b hb⟩)
  have hcount := served_count s requester ds hmax.1
  have hlen := nodesPackets_length_le (s.nodesToSend requester ds).2
  have hsum := nodesPackets_sound (s.nodesToSend requester ds).2
    (fun r hr => by have := hsz r hr; omega) recs hp
  rw [datagramLen_eq]
  exact fits_datagram rid total _ hrid (by omega) hsum

/-- `served_fits_datagram` with the size bound stated over `table_iter` (all stored and pending values). -/
theorem served_fits_datagram_tableValues (s : Svc) (requester : Nat) (addr : Addr) (rid : Bytes)
    (ds : List Nat) (hrid : rid.length ≤ 8)
    (hmax : 1 ≤ s.cfg.maxNodesResponse ∧ s.cfg.maxNodesResponse ≤ 125)
    (hown : s.localRec.size ≤ 300) (htab : ∀ v ∈ s.table.tableValues, v.size ≤ 300) :
    ∀ total recs, Out.response requester addr rid (.nodes total recs) ∈
        (s.sendNodesResponse requester addr rid ds).2 →
      datagramLen (nodesRespLen rid total (recs.map (·.size))) ≤ 1280 := by
  refine served_fits_datagram s requester addr rid ds hrid hmax hown ?_ ?_
  · intro b hb n hn
    apply htab
    unfold Table.tableValues
    rw [List.mem_flatMap]
    exact ⟨b, hb, List.mem_append_left _ (List.mem_map_of_mem hn)⟩
  · intro b hb p hp
    apply htab
    unfold Table.tableValues
    rw [List.mem_flatMap]
    exact ⟨b, hb, List.mem_append_right _ (by rw [hp]; simp)⟩

def isResponse : Out → Bool
  | .response .. => true
  | _ => false

/-- The responses among the answers to a PING: the request for a newer record that may precede the
PONG is no response and leaves the local record alone. -/
theorem ping_responses (s : Svc) (peer : Nat) (addr : Addr) (rid : Bytes) (enrSeq : Nat) :
    (s.handleRequest peer addr rid (.ping enrSeq)).2.filter isResponse =
      if addr.port != 0 then [.response peer addr rid (.pong s.localRec.seq addr)] else [] := by
  have hpong : ∀ (b : Bool) (x : Out), isResponse x = true →
      (if b then [x] else []).filter isResponse = if b then [x] else [] := by
    intro b x hx
    cases b
    · rfl
    · exact List.filter_cons_of_pos hx
  unfold Svc.handleRequest
  simp only
  rw [List.filter_append]
  split
  · split
    · exact hpong _ _ rfl
    · exact hpong _ _ rfl
  · exact hpong _ _ rfl

/-- A PING observed from a non-zero source port is answered with exactly one
response: a PONG to the observed node address with the request's id, the current local sequence
number and exactly the observed IP and port. -/
theorem pong_exact (s : Svc) (peer : Nat) (addr : Addr) (rid : Bytes) (enrSeq : Nat)
    (hport : addr.port ≠ 0) :
    (s.handleRequest peer addr rid (.ping enrSeq)).2.filter isResponse =
      [.response peer addr rid (.pong s.localRec.seq addr)] := by
  rw [ping_responses, if_pos (by simpa using hport)]

/-- A PING from source port 0 gets no PONG. -/
theorem pong_port_zero (s : Svc) (peer : Nat) (addr : Addr) (rid : Bytes) (enrSeq : Nat)
    (hport : addr.port = 0) :
    (s.handleRequest peer addr rid (.ping enrSeq)).2.filter isResponse = [] := by
  rw [ping_responses, if_neg (by simp [hport])]

/-- Non-vacuity / worst case of the arithmetic: 1175 bytes of records, 8-byte id → 1279 bytes. -/
example : 16 + 23 + 32 + nodesRespLen [200, 1, 2, 3, 4, 5, 6, 7] 5 [300, 300, 300, 275] + 16 = 1279 := by
  decide

/-! ### Non-vacuity: a concrete service whose answers need several packets -/

/-- A 300-byte record (the largest an `Enr` can be). -/
def c14Rec (id : Nat) : Rec :=
  { id := id, seq := 1, udp4 := some (id * 65536 + 9000), udp6 := none, udp6Mapped := false,
    size := 300, passesFilter := true }

def c14Node (key : Nat) : Node Rec :=
  { key := key, value := c14Rec key, st := { conn := true, incoming := false } }

/-- Local id 8; nodes 10, 11 at distance 2 (bucket 1) and 0..4 at distance 4 (bucket 3); all
records (the own one too) are 300 bytes. -/
def c14Svc : Svc :=
  { cfg := { ipMode := .ip4, maxNodesResponse := 16, kb := kbCfg 8 60 },
    localRec := c14Rec 8,
    table := ((Table.init 8).setBucket 1 { nodes := [c14Node 10, c14Node 11], fcp := some 0 }).setBucket 3
      { nodes := [c14Node 0, c14Node 1, c14Node 2, c14Node 3, c14Node 4], fcp := some 0 } }

def c14Addr : Addr := { v6 := false, sock := 7 * 65536 + 9000 }
def c14Rid : Bytes := [200, 1, 2, 3, 4, 5, 6, 7]

/-- `total`, the record ids and the datagram size of a NODES response. -/
def c14Summary (rid : Bytes) : Out → Nat × List Nat × Nat
  | .response _ _ _ (.nodes total recs) =>
    (total, recs.map (·.id), datagramLen (nodesRespLen rid total (recs.map (·.size))))
  | _ => (0, [], 0)

/-- An unsorted request with a duplicate and distance 0: own record first, then the buckets by
increasing distance; eight 300-byte records need three packets of 1004, 1004 and 704 bytes. -/
example : (c14Svc.sendNodesResponse 99 c14Addr c14Rid [4, 0, 2, 4]).2.map (c14Summary c14Rid) =
    [(3, [8, 10, 11], 1004), (3, [0, 1, 2], 1004), (3, [3, 4], 704)] := by decide

/-- A `[0, d]` request from a node that is itself stored at distance `d`: own record + the other
entry of that bucket, the requester's record is left out. -/
example : (c14Svc.sendNodesResponse 10 c14Addr c14Rid [2, 0]).2.map (c14Summary c14Rid) =
    [(1, [8, 11], 704)] := by decide

/-- Without distance 0 the own record is not sent; an empty answer is one empty packet. -/
example : (c14Svc.sendNodesResponse 99 c14Addr c14Rid [2]).2.map (c14Summary c14Rid) =
    [(1, [10, 11], 704)] := by decide
example : (c14Svc.sendNodesResponse 99 c14Addr c14Rid [7, 300]).2.map (c14Summary c14Rid) =
    [(1, [], 100)] := by decide

theorem c14Svc_noPending : ∀ b ∈ c14Svc.table.buckets, b.pending.isNone = true := by decide +kernel

theorem c14Svc_sizes : ∀ b ∈ c14Svc.table.buckets, ∀ n ∈ b.nodes, n.value.size ≤ 300 := by decide +kernel

/-- The hypotheses of `served_fits_datagram` hold for `c14Svc` (all sizes are exactly 300). -/
example : ∀ total recs, Out.response 99 c14Addr c14Rid (.nodes total recs) ∈
      (c14Svc.sendNodesResponse 99 c14Addr c14Rid [4, 0, 2, 4]).2 →
    datagramLen (nodesRespLen c14Rid total (recs.map (·.size))) ≤ 1280 :=
  served_fits_datagram c14Svc 99 c14Addr c14Rid [4, 0, 2, 4] (by decide) (by decide) (by decide)
    c14Svc_sizes
    (fun b hb p hp => by have := c14Svc_noPending b hb; rw [hp] at this; cases this)

theorem c14Bucket1_binv (c : KB.Cfg Rec) (tick : Nat) :
    BInv c tick { nodes := [c14Node 10, c14Node 11], fcp := some 0 } :=
  binv_uniform c tick c14Node true [10, 11] none (fun _ => rfl) (fun _ => rfl) (fun _ => rfl)
    (by decide) (by decide) (by decide) fun _ h => nomatch h

theorem c14Bucket3_binv (c : KB.Cfg Rec) (tick : Nat) :
    BInv c tick { nodes := [c14Node 0, c14Node 1, c14Node 2, c14Node 3, c14Node 4], fcp := some 0 } :=
  binv_uniform c tick c14Node true [0, 1, 2, 3, 4] none (fun _ => rfl) (fun _ => rfl) (fun _ => rfl)
    (by decide) (by decide) (by decide) fun _ h => nomatch h

theorem c14Svc_tinv : TInv c14Svc.cfg.kb c14Svc.table := by
  unfold c14Svc
  simp only
  refine TInv.setBucket (TInv.setBucket (init_tinv _ 8) ?_ ?_) ?_ ?_
  · exact c14Bucket1_binv _ _
  · refine ⟨?_, by simp⟩
    intro n hn
    simp only [List.mem_cons, List.not_mem_nil, or_false] at hn
    rcases hn with rfl | rfl <;> (show bucketIndex 8 _ = some 1; decide)
  · exact c14Bucket3_binv _ _
  · refine ⟨?_, by simp⟩
    intro n hn
    simp only [List.mem_cons, List.not_mem_nil, or_false] at hn
    rcases hn with rfl | rfl | rfl | rfl | rfl <;> (show bucketIndex 8 _ = some 3; decide)

/-- `served_table_exact` applies to `c14Svc` (the routing-table invariant holds). -/
example := served_table_exact c14Svc [4, 0, 2, 4] c14Svc_tinv (by decide)

/-! ### `served_fits_datagram` needs the bound on pending records -/

def c14BigRec : Rec := { c14Rec 48 with size := 2000 }

/-- Bucket 5 (distance 6 from local id 0) is full with the 16 disconnected nodes 32..47 (300-byte
records) and its pending slot holds node 48 with a 2000-byte record, due for insertion. -/
def c14CexBucket : Bucket Rec :=
  { nodes := (List.range 16).map fun i =>
      { key := 32 + i, value := c14Rec (32 + i), st := { conn := false, incoming := false } },
    fcp := none,
    pending := some { node := { key := 48, value := c14BigRec, st := { conn := true, incoming := false } },
                      replace := 0 } }

/-- The bucket and the table below satisfy the routing-table invariant: `TInv` does not exclude the
counterexample. -/
theorem c14CexBucket_binv (c : KB.Cfg Rec) (tick : Nat) : BInv c tick c14CexBucket :=
  binv_uniform c tick
    (fun k => { key := k, value := c14Rec k, st := { conn := false, incoming := false } }) false
    ((List.range 16).map (32 + ·)) _ (fun _ => rfl) (fun _ => rfl) (fun _ => rfl)
    (by decide) (by decide) (by decide) (by rintro _ ⟨rfl⟩; decide)

theorem c14Cex_tinv (c : KB.Cfg Rec) : TInv c ((Table.init 0).setBucket 5 c14CexBucket) := by
  refine TInv.setBucket (init_tinv c 0) (c14CexBucket_binv c _) ⟨?_, ?_⟩
  · have : ∀ n ∈ c14CexBucket.nodes, bucketIndex 0 n.key = some 5 := by decide
    exact this
  · intro p hp
    have : p.node.key = 48 := by
      simp only [c14CexBucket, Option.some.injEq] at hp
      rw [← hp]
    show bucketIndex 0 p.node.key = some 5
    rw [this]; decide

def c14CexSvc : Svc :=
  { cfg := { ipMode := .ip4, maxNodesResponse := 16, kb := kbCfg 8 60 },
    localRec := c14Rec 0,
    table := (Table.init 0).setBucket 5 c14CexBucket }

example : TInv c14CexSvc.cfg.kb c14CexSvc.table := c14Cex_tinv _

/-- Serving distance 6 promotes the pending node (evicting node 32) and sends its record. -/
example : (c14CexSvc.sendNodesResponse 99 c14Addr c14Rid [6]).2.map (c14Summary c14Rid) =
    [(6, [33, 34, 35], 1004), (6, [36, 37, 38], 1004), (6, [39, 40, 41], 1004),
     (6, [42, 43, 44], 1004), (6, [45, 46, 47], 1004), (6, [48], 2104)] := by decide

theorem c14CexSvc_sizes : ∀ b ∈ c14CexSvc.table.buckets, ∀ n ∈ b.nodes, n.value.size ≤ 300 := by decide +kernel

/-- Without the bound on pending records (size bound on the stored nodes only) the claim is false. -/
theorem served_fits_datagram_original_false :
    ¬ (∀ (s : Svc) (requester : Nat) (addr : Addr) (rid : Bytes) (ds : List Nat),
        rid.length ≤ 8 → (1 ≤ s.cfg.maxNodesResponse ∧ s.cfg.maxNodesResponse ≤ 125) →
        s.localRec.size ≤ 300 →
        (∀ b ∈ s.table.buckets, ∀ n ∈ b.nodes, n.value.size ≤ 300) →
        ∀ total recs, Out.response requester addr rid (.nodes total recs) ∈
            (s.sendNodesResponse requester addr rid ds).2 →
          datagramLen (nodesRespLen rid total (recs.map (·.size))) ≤ 1280) := by
  intro h
  have h1 := h c14CexSvc 99 c14Addr c14Rid [6] (by decide) (by decide) (by decide) c14CexSvc_sizes
    6 [c14BigRec] (by decide)
  revert h1
  decide

end Discv5.Props.C14
