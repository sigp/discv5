/-
C05 — Packet wire codec is exact, total and strict.
Numbers are the literals of the property statement (63, 1280, 16, 23, …); the model uses the
constants regenerated from /repo/src, so a changed source constant breaks these proofs.
All theorems hold for every keystream family `ks` and every record decoder `recDec`.
-/
import Discv5Model.Proofs.PacketLemmas

namespace Discv5.Packet

/-- Round trip: for every well-formed packet and destination id, decoding the encoded datagram
with that id returns the same packet and the same authenticated bytes. -/
theorem decode_encode (ks : KS) (recDec : Bytes → Option Bytes) (proto : Proto) (dst : Bytes)
    (p : Packet) (h : WF recDec proto p) :
    decode ks recDec proto dst (encode ks proto dst p) = .ok (p, authenticatedData proto p) := by
  have hk : Kind.decode recDec p.kind.flag p.kind.encode = .ok p.kind := by
    apply Kind.decode_encode
    have := h.kind
    cases hkk : p.kind with
    | message src => simpa [hkk] using this
    | whoareyou idn seq => rw [hkk] at this; exact ⟨this.1, this.2.1⟩
    | handshake src sig eph record => simpa [hkk] using this
  have hm : (!p.message.isEmpty && p.kind.isWhoareyou) = false := by
    have := h.kind
    cases hkk : p.kind with
    | message src => simp [Kind.isWhoareyou]
    | whoareyou idn seq => rw [hkk] at this; simp [this.2.2]
    | handshake src sig eph record => simp [Kind.isWhoareyou]
  unfold encode headerBytes
  simp only []
  rw [decode_parts ks recDec proto dst p.iv p.nonce p.kind.encode p.message p.kind.flag
    h.iv h.nonce h.pid h.ver h.authFits h.sizeLo h.sizeHi, hk, Res.ok_bind, hm]
  simp [authenticatedData, headerBytes]

/-- Layout: the datagram is `IV ‖ mask(protocol-id ‖ version ‖ flag ‖ nonce ‖ authdata-size ‖
authdata) ‖ message`, the header masked by the keystream selected by the first 16 bytes of the
destination id and the IV (discv5.1 wire format). -/
theorem encode_layout (ks : KS) (proto : Proto) (dst : Bytes) (p : Packet) :
    encode ks proto dst p =
      p.iv ++ xorStream (ks (dst.take 16) p.iv) 0
        (proto.pid ++ proto.ver ++ [p.kind.flag] ++ p.nonce ++ beBytes 2 p.kind.encode.length
          ++ p.kind.encode) ++ p.message := rfl

/-- Layout of the auth-data of the three kinds. -/
theorem authdata_layout :
    (∀ src, (Kind.message src).encode = src) ∧
    (∀ idn seq, (Kind.whoareyou idn seq).encode = idn ++ beBytes 8 seq) ∧
    (∀ src sig eph r, (Kind.handshake src sig eph r).encode =
        src ++ [UInt8.ofNat (sig.length % 256)] ++ [UInt8.ofNat (eph.length % 256)] ++ sig ++ eph
          ++ r.getD []) := by
  refine ⟨fun _ => rfl, fun _ _ => rfl, fun _ _ _ _ => ?_⟩
  simp [Kind.encode, beBytes]

/-- Index safety: `Packet::decode` never panics, for every byte string, keystream, record
decoder, protocol identity and local id. -/
theorem decode_never_panics (ks : KS) (recDec : Bytes → Option Bytes) (proto : Proto)
    (localId data : Bytes) : decode ks recDec proto localId data ≠ .panic := by
  by_cases hwin : 63 ≤ data.length ∧ data.length ≤ 1280
  · rw [decode_eq_decodeCut _ _ _ _ _ hwin.2 hwin.1]
    exact decodeAt_ne_panic _ _ _ _ _ _
  · obtain ⟨e, he⟩ := decode_outside ks recDec proto localId data hwin
    rw [he]; exact Res.err_ne_panic e

/-- Strictness.  If `decode` accepts `data` then: its length is within `[63, 1280]`; the
unmasked static header carries exactly the configured protocol id and version; the kind byte is
that of the returned kind (so it is 0, 1 or 2); the auth-data size fits the datagram and is
consistent with the kind (`= 32`, `= 24`, `≥ 34 + sig + key`); and a WHOAREYOU has no body. -/
theorem decode_strict (ks : KS) (recDec : Bytes → Option Bytes) (proto : Proto)
    (localId data : Bytes) (p : Packet) (ad : Bytes)
    (h : decode ks recDec proto localId data = .ok (p, ad)) :
    63 ≤ data.length ∧ data.length ≤ 1280 ∧
    ∃ sh auth : Bytes,
      sh = xorStream (ks (localId.take 16) (data.take 16)) 0 ((data.drop 16).take 23) ∧
      auth = xorStream (ks (localId.take 16) (data.take 16)) 23 ((data.drop 39).take auth.length) ∧
      ad = data.take 16 ++ sh ++ auth ∧
      sh.take 6 = proto.pid ∧ (sh.drop 6).take 2 = proto.ver ∧
      sh.getD 8 0 = p.kind.flag ∧ p.kind.flag.toNat ≤ 2 ∧
      beNat (sh.drop 21) = auth.length ∧
      data.length = 39 + auth.length + p.message.length ∧
      p.kind.AuthConsistent auth ∧ (p.kind.isWhoareyou = true → p.message = []) := by
  by_cases hwin : 63 ≤ data.length ∧ data.length ≤ 1280
  · refine ⟨hwin.1, hwin.2, ?_⟩
    rw [decode_eq_decodeCut _ _ _ _ _ hwin.2 hwin.1] at h
    unfold decodeCut at h
    generalize ks (localId.take 16) (data.take 16) = s at h ⊢
    generalize xorStream s 0 ((data.drop 16).take 23) = sh at h ⊢
    unfold decodeAt at h
    obtain ⟨hpid, h⟩ := Res.ite_err_eq_ok h
    obtain ⟨hver, h⟩ := Res.ite_err_eq_ok h
    obtain ⟨hsz, h⟩ := Res.ite_err_eq_ok h
    obtain ⟨kind, hk, h⟩ := Res.bind_eq_ok.mp h
    obtain ⟨hw, h⟩ := Res.ite_err_eq_ok h
    cases h
    obtain ⟨hflag, hle, hcons⟩ := Kind.decode_inv _ _ _ _ hk
    have hlenA : (xorStream s 23 ((data.drop 39).take (beNat (sh.drop 21)))).length =
        beNat (sh.drop 21) := by
      rw [xorStream_length, List.length_take]; omega
    refine ⟨sh, _, rfl, by rw [hlenA], rfl, Decidable.not_not.mp hpid, Decidable.not_not.mp hver,
      hflag, hle, hlenA.symm, ?_, hcons, fun hw' => ?_⟩
    · simp only [hlenA, List.length_drop] at hsz ⊢; omega
    · simpa [hw'] using hw
  · obtain ⟨e, he⟩ := decode_outside ks recDec proto localId data hwin
    rw [he] at h; exact nomatch h

/-- A datagram masked for another node id is not accepted -- unless the two AES-CTR keystreams
agree on the 8 bytes covering protocol id and version. -/
theorem decode_other_id (ks : KS) (recDec : Bytes → Option Bytes) (proto : Proto)
    (dst dst' : Bytes) (p q : Packet) (ad : Bytes) (h : WF recDec proto p)
    (hd : decode ks recDec proto dst' (encode ks proto dst p) = .ok (q, ad)) :
    ∀ i, i < 8 → ks (dst'.take 16) p.iv i = ks (dst.take 16) p.iv i := by
  obtain ⟨_, _, sh, auth, hsh, _, _, hpid, hver, _⟩ := decode_strict _ _ _ _ _ _ _ hd
  intro i hi
  obtain ⟨s1, s2, -⟩ := staticHeader_cut proto.pid proto.ver p.nonce
    (beBytes 2 p.kind.encode.length) p.kind.flag h.pid h.ver h.nonce
  rw [encode_layout, xorStream_append, List.append_assoc, List.append_assoc] at hsh
  have hSl : (proto.pid ++ proto.ver ++ [p.kind.flag] ++ p.nonce ++
      beBytes 2 p.kind.encode.length).length = 23 := by simp [h.pid, h.ver, h.nonce]
  generalize proto.pid ++ proto.ver ++ [p.kind.flag] ++ p.nonce ++
    beBytes 2 p.kind.encode.length = S at *
  obtain ⟨d1, d2, -⟩ := datagram_cut p.iv (xorStream (ks (dst.take 16) p.iv) 0 S)
    (xorStream (ks (dst.take 16) p.iv) (0 + S.length) p.kind.encode ++ p.message) h.iv
    (by rw [xorStream_length, hSl])
  rw [d1, d2] at hsh
  -- both `S` and the header unmasked with the other key start with protocol id and version
  have h8 : sh.take 8 = S.take 8 := by
    rw [List.take_add (i := 6) (j := 2), List.take_add (i := 6) (j := 2), hpid, hver, s1, s2]
  have key : sh[i]? = S[i]? := by
    rw [← List.getElem?_take_of_lt hi, h8, List.getElem?_take_of_lt hi]
  rw [hsh, xorStream_getElem?, xorStream_getElem?, List.getElem?_eq_getElem (by omega)] at key
  simp only [Option.map_some, Nat.zero_add, Option.some.injEq] at key
  exact xor_cancel_mid _ _ _ key

/-! ### Non-vacuity: concrete packets of each kind satisfy `WF`, with a record decoder that
accepts exactly one record. -/

private def exProto : Proto := { pid := [100, 105, 115, 99, 118, 53], ver := [0, 1] }
private def exRec : Bytes := [0xc1, 0x80]
private def exRecDec : Bytes → Option Bytes := fun b => if b = exRec then some exRec else none

example : WF exRecDec exProto
    { iv := List.replicate 16 7, nonce := List.replicate 12 9,
      kind := .message (List.replicate 32 1), message := [1, 2, 3] } := by
  constructor <;> decide

example : WF exRecDec exProto
    { iv := List.replicate 16 7, nonce := List.replicate 12 9,
      kind := .whoareyou (List.replicate 16 3) 5, message := [] } := by
  constructor <;> decide

example : WF exRecDec exProto
    { iv := List.replicate 16 7, nonce := List.replicate 12 9,
      kind := .handshake (List.replicate 32 1) (List.replicate 64 2) (List.replicate 33 4)
        (some exRec), message := [1] } := by
  refine ⟨by decide, by decide, by decide, by decide, ⟨by decide, by decide, by decide, ?_⟩,
    by decide +kernel, by decide +kernel, by decide +kernel⟩
  intro r hr
  cases hr
  decide

end Discv5.Packet
