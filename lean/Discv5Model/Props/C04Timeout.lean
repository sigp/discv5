/-
C04 (extension) — "A timeout is reported only if some request to that peer really went unanswered
for a full timeout period."

Model reading (`Model/Handler.lean`).  Model time is `HState.now` (the tokio clock); it only moves in
`adv dt` events, which fire every due timer at its own deadline, in order.  An active request is a
`Call` in `HState.active` with its packet `pkt`, its peer `callNA cl = cl.contact.na` and the
`deadline` of its timer.  `Out.failed rid .timeout` is the report; `Out.send na p` is a datagram put on
the wire towards `na`.

A history is looked at as its list of steps `history c evs : List Frame` (from the initial state, as
`run` does): frame `i` holds the state before step `i` (`pre`), the event (`ev`), the state after it
(`post`) and the outputs of that step (`outs`) — `history_spec` below pins this down.

What the code really does, and what therefore is (and is not) true:
* The timer of a call is armed (`deadline := now + request_timeout`) whenever its packet is put on
  the wire (`send_request`, the retransmission on a timeout, the handshake packet answering a
  WHOAREYOU, the re-encrypted packet when the session is re-keyed), but *also* without any
  transmission: when a NODES response announces more responses, and when a WHOAREYOU for the packet
  arrives from another address than the peer's.  In all cases the call then sits untouched in
  `active` until its timer fires or it is handled again.
* When a request runs out of retries, `fail_session` fails with the same `timeout` error *every* other
  request to that peer: the active ones (whatever their own timers say) and the ones still queued
  behind a pending handshake (which were never transmitted at all).  So the per-request reading
  "request `rid` itself was sent and then unanswered for a full period" is FALSE (counterexamples at
  the end of this file); true is the reading of the clause as worded: *some* request to that peer.

All theorems hold for every configuration and every event history; the lemmas are in
`Proofs/HandlerTimeout.lean`.
-/
import Discv5Model.Proofs.HandlerTimeout

namespace Discv5.H
open RQ TJ

/-- What the frames of `history c evs` are: frame `i` exists iff event `i` exists, it starts in the
state reached by the first `i` events and is the step of the model for event `i`; and the outputs of
the frames are the per-step outputs `trace` used by the other C04 theorems. -/
theorem history_spec (c : Cfg) (evs : List Ev) :
    (∀ (i : Nat) (fi : Frame), (history c evs)[i]? = some fi ↔ ∃ e, evs[i]? = some e ∧
      fi = ⟨run c (evs.take i), e, (step c (run c (evs.take i)) e).1, (step c (run c (evs.take i)) e).2⟩) ∧
    (history c evs).map (·.outs) = trace c {} evs :=
  ⟨history_get c evs, frames_outs c {} evs⟩

/-- **Timeouts are justified** (trace theorem, all histories).  If step `k` of a history reports
`failed rid timeout`, then there are an expired call `cl` and steps `j0 ≤ j ≤ k` such that

* (peer) `rid` is a request to the peer of `cl`: in the state before step `k` it is the id of an
  active call to `callNA cl` or of a request queued for `callNA cl` (`ReqTo`; `rid = cl.rid` is the
  case of the request's own timer, the other cases are the requests failed along with it);
* (a) in step `j0` the request of `cl` was put on the wire towards that peer: a call `cl0` of the same
  request to the same peer had its packet `cl0.pkt` sent to `callNA cl0` in that step and was active
  at the end of that step (when `j0 = k` — sent and expired within one long `adv` step — `cl0` is
  `cl` itself);
* (c) it stayed unanswered: at the end of every step `i` with `j0 ≤ i < k` a call of that request to
  that peer is active;
* (b) a full timeout period passed: in step `j ≥ j0` the timer of `cl` was armed — its deadline is
  exactly one `request_timeout` after a moment within step `j`
  (`fj.pre.now + timeout ≤ cl.deadline ≤ fj.post.now + timeout`) — and the deadline has been reached
  when step `k` ends (`cl.deadline ≤ fk.post.now`); hence
  `fj.pre.now + request_timeout ≤ fk.post.now`, and the same with `f0` (time never runs backwards);
* (c', the strong form of c for the last period) from step `j` on the very same call `cl` — same
  packet, same deadline — is in `active` at the end of every step before `k`: nothing answered it,
  re-keyed it or re-armed it in between. -/
theorem timeout_justified (c : Cfg) (evs : List Ev) (k : Nat) (fk : Frame) (rid : Nat)
    (hk : (history c evs)[k]? = some fk) (hf : Out.failed rid .timeout ∈ fk.outs) :
    ∃ (cl cl0 : Call) (j0 j : Nat) (f0 fj : Frame),
      j0 ≤ j ∧ j ≤ k ∧ (history c evs)[j0]? = some f0 ∧ (history c evs)[j]? = some fj ∧
      ReqTo fk.pre rid (callNA cl) ∧
      cl0.rid = cl.rid ∧ callNA cl0 = callNA cl ∧
      Out.send (callNA cl0) cl0.pkt ∈ f0.outs ∧ (j0 < k → cl0 ∈ f0.post.active) ∧ (j0 = k → cl0 = cl) ∧
      (∀ i fi, j0 ≤ i → i < k → (history c evs)[i]? = some fi →
        ∃ x ∈ fi.post.active, x.rid = cl.rid ∧ callNA x = callNA cl) ∧
      fj.pre.now + c.requestTimeout ≤ cl.deadline ∧ cl.deadline ≤ fj.post.now + c.requestTimeout ∧
      cl.deadline ≤ fk.post.now ∧
      (∀ i fi, j ≤ i → i < k → (history c evs)[i]? = some fi → cl ∈ fi.post.active) := by
  obtain ⟨cl, hq, hd, cl0, j0, j, f0, fj, w⟩ := timeout_justified_at c evs k fk rid hk hf
  exact ⟨cl, cl0, j0, j, f0, fj, w.le, w.le_k, w.get0, w.getj, hq, w.rid, w.na, w.sent, w.act0, w.same,
    w.pending, w.armed, w.armed_le, hd, w.kept⟩

/-- **Never before a full period** (readable corollary).  If step `k` reports `failed rid timeout`
then in an earlier-or-equal step `j` a datagram was sent to a peer `na` to which `rid` is a request
(it is an active call to `na` or queued for `na` when step `k` begins), and the model time at the end
of step `k` is at least the model time at the beginning of step `j` plus `request_timeout`. -/
theorem timeout_not_before_full_period (c : Cfg) (evs : List Ev) (k : Nat) (fk : Frame) (rid : Nat)
    (hk : (history c evs)[k]? = some fk) (hf : Out.failed rid .timeout ∈ fk.outs) :
    ∃ (j : Nat) (fj : Frame) (na : NA) (p : Pkt), j ≤ k ∧ (history c evs)[j]? = some fj ∧
      ReqTo fk.pre rid na ∧ Out.send na p ∈ fj.outs ∧
      fj.pre.now + c.requestTimeout ≤ fk.post.now := by
  obtain ⟨cl, hq, hd, cl0, j0, j, f0, fj, w⟩ := timeout_justified_at c evs k fk rid hk hf
  refine ⟨j0, f0, callNA cl, cl0.pkt, Nat.le_trans w.le w.le_k, w.get0, hq, w.na ▸ w.sent, ?_⟩
  exact Nat.le_trans (Nat.add_le_add_right ((history_now_mono c evs).1 j0 j f0 fj w.le w.get0 w.getj) _)
    (Nat.le_trans w.armed hd)

/-- **Every running timer has an origin** (the ghost bookkeeping, as an invariant of all reachable
states).  For every active call `cl` of the state after `evs`: in some step `j0` a call `cl0` of the
same request to the same peer had its packet sent to that peer (and was active at the end of that
step), since then the request has been outstanding at the end of every step, in some step `j ≥ j0`
the timer of `cl` was armed (deadline = a moment within step `j` plus `request_timeout`), and since
then `cl` has been sitting unchanged in `active`. -/
theorem timer_has_origin (c : Cfg) (evs : List Ev) :
    ∀ cl ∈ (run c evs).active, ∃ (j0 j : Nat) (f0 fj : Frame) (cl0 : Call),
      j0 ≤ j ∧ (history c evs)[j0]? = some f0 ∧ (history c evs)[j]? = some fj ∧
      cl0.rid = cl.rid ∧ callNA cl0 = callNA cl ∧
      Out.send (callNA cl0) cl0.pkt ∈ f0.outs ∧ cl0 ∈ f0.post.active ∧
      (∀ i fi, j0 ≤ i → (history c evs)[i]? = some fi →
        ∃ x ∈ fi.post.active, x.rid = cl.rid ∧ callNA x = callNA cl) ∧
      fj.pre.now + c.requestTimeout ≤ cl.deadline ∧ cl.deadline ≤ fj.post.now + c.requestTimeout ∧
      (∀ i fi, j ≤ i → (history c evs)[i]? = some fi → cl ∈ fi.post.active) := by
  intro cl hcl
  obtain ⟨cl0, j0, j, f0, fj, w⟩ := origin_of_active c evs cl hcl
  have lt : ∀ {i fi}, (history c evs)[i]? = some fi → i < evs.length := fun h => history_length c evs ▸ lt_of_get h
  exact ⟨j0, j, f0, fj, cl0, w.le, w.get0, w.getj, w.rid, w.na, w.sent, w.act0 (lt w.get0),
    fun i fi hi hfi => w.pending i fi hi (lt hfi) hfi, w.armed, w.armed_le,
    fun i fi hi hfi => w.kept i fi hi (lt hfi) hfi⟩

/-- No running timer is set further ahead than one timeout period. -/
theorem deadline_le_now_add_timeout (c : Cfg) (evs : List Ev) :
    ∀ cl ∈ (run c evs).active, cl.deadline ≤ (run c evs).now + c.requestTimeout := by
  intro cl hcl
  obtain ⟨cl0, j0, j, f0, fj, w⟩ := origin_of_active c evs cl hcl
  exact Nat.le_trans w.armed_le (Nat.add_le_add_right ((history_now_mono c evs).2 j fj w.getj).2 _)

/-! ### Non-vacuity -/

/-- A node with a 10 ms request timeout and `retries` transmissions per request. -/
private def tCfg (retries : Nat) : Cfg where
  localId := 1
  localSeq := 1
  localRec := { id := 1, seq := 1, udp4 := some 100, udp6 := none }
  requestRetries := retries
  requestTimeout := 10
  sessionTtl := 1000
  sessionCap := 8
  listen := [⟨false, 100⟩]
  findnode0 := 0

private def tPeer : NA := { id := 2, addr := ⟨false, 7⟩ }
private def tContact : Contact :=
  { na := tPeer, record := some { id := 2, seq := 1, udp4 := some 7, udp6 := none } }
/-- the random packet that starts the handshake -/
private def tPkt : Pkt := .message 1 1000001 .garbage

/-- (begin, end, outputs) of every step -/
private def view (c : Cfg) (evs : List Ev) : List (Nat × Nat × List Out) :=
  (history c evs).map (fun f => (f.pre.now, f.post.now, f.outs))

/-- One transmission per request: request 7 is sent at time 0 and fails at time 10. -/
private def tOnce : List Ev := [.appRequest tContact 7 5, .adv 10]
example : view (tCfg 1) tOnce = [(0, 0, [.send tPeer tPkt]), (0, 10, [.failed 7 .timeout])] := by
  decide +kernel
/-- The hypotheses of the theorems are satisfiable (step 1 of this history reports the timeout) … -/
example : ∃ fk, (history (tCfg 1) tOnce)[1]? = some fk ∧ Out.failed 7 .timeout ∈ fk.outs :=
  ⟨_, rfl, by decide +kernel⟩
/-- … and one time unit earlier nothing is reported. -/
example : view (tCfg 1) [.appRequest tContact 7 5, .adv 9] = [(0, 0, [.send tPeer tPkt]), (0, 9, [])] := by
  decide +kernel

/-- Two transmissions per request: retransmission at 10, failure only at 20 — one full period after
the last transmission (`j0 = j = 1`, `k = 3` in `timeout_justified`). -/
example : view (tCfg 2) [.appRequest tContact 7 5, .adv 10, .adv 9, .adv 1] =
    [(0, 0, [.send tPeer tPkt]), (0, 10, [.send tPeer tPkt]), (10, 19, []), (19, 20, [.failed 7 .timeout])] := by
  decide +kernel

/-- The within-one-step case (`j0 = j = k`): a long `adv` retransmits at 10 and fails at 20. -/
example : view (tCfg 2) [.appRequest tContact 7 5, .adv 25] =
    [(0, 0, [.send tPeer tPkt]), (0, 25, [.send tPeer tPkt, .failed 7 .timeout])] := by
  decide +kernel

/-! ### The per-request reading is false

`∃ cl, cl.rid = rid ∧ …` instead of the `ReqTo` clause of `timeout_justified` does not hold: -/

/-- Request 8 is queued behind the pending handshake of request 7 and is never transmitted (the only
datagram of the whole history is the packet of request 7), no call with id 8 is ever active — and it
fails with `timeout` together with request 7. -/
private def tQueued : List Ev := [.appRequest tContact 7 5, .appRequest tContact 8 5, .adv 10]
example : view (tCfg 1) tQueued = [(0, 0, [.send tPeer tPkt]), (0, 0, []),
    (0, 10, [.failed 7 .timeout, .failed 8 .timeout])] := by decide +kernel
example : (history (tCfg 1) tQueued).all (fun f => f.post.active.all (fun cl => cl.rid != 8)) = true := by
  decide +kernel

/-- With an established session: request 8 is transmitted at time 3 and fails with `timeout` at time
10, only 7 time units later, because request 7 to the same peer (handshake packet sent at time 0)
expires then. -/
private def tEarly : List Ev :=
  [.appRequest tContact 7 5, .dgram tPeer.addr (.whoareyou 1000001 500 0), .adv 3,
   .appRequest tContact 8 5, .adv 7]
example : (view (tCfg 1) tEarly).map (fun v => (v.1, v.2.1)) = [(0, 0), (0, 0), (0, 3), (3, 3), (3, 10)] ∧
    ((history (tCfg 1) tEarly).map (fun f => f.outs.filter (fun o => aboutRid 8 o || aboutRid 7 o))) =
      [[], [], [], [], [.failed 7 .timeout, .failed 8 .timeout]] ∧
    ((history (tCfg 1) tEarly).map (fun f => f.post.active.map (fun cl => (cl.rid, cl.deadline)))) =
      [[(7, 10)], [(7, 10)], [(7, 10)], [(7, 10), (8, 13)], []] := by decide +kernel

end Discv5.H
