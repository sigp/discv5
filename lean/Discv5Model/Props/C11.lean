/-
C11 — NODES responses are validated; honest peers are never banned.

Statements about `acceptNodes` (the two arms of the distance filter of `handle_rpc_response`),
the packet accounting `nodesAccount`, and the honest responder `sendNodesResponse` of
`Model/Service.lean`.  Helper lemmas: `Proofs/ServiceNodes.lean`.
-/
import Discv5Model.Model.Service
import Discv5Model.Model.KBucketSpec
import Discv5Model.Proofs.ServiceNodes

namespace Discv5.Props.C11
open Discv5.KB Discv5.Svc

/-- The log2 distance of a record from the responder, the responder's own record counting as 0. -/
def distOf (peer : Nat) (r : Rec) : Nat := (log2Distance peer r.id).getD 0

/-- The records accepted from a NODES packet are exactly those whose log2
distance from the responder is one of the requested distances (own record = distance 0) — in both
arms of the filter. -/
theorem accept_exact (peer : Nat) (requested : List Nat) (recs : List Rec) :
    (acceptNodes peer requested recs).1 = recs.filter (fun r => requested.contains (distOf peer r)) :=
  acceptNodes_fst peer requested recs

/-- If any record of the packet is not accepted, the responder is banned. -/
theorem off_distance_banned (peer : Nat) (requested : List Nat) (recs : List Rec)
    (h : (acceptNodes peer requested recs).1 ≠ recs) : (acceptNodes peer requested recs).2 = true := by
  rw [acceptNodes_snd, Bool.or_eq_true, decide_eq_true_eq, decide_eq_true_eq]
  right
  rw [acceptNodes_fst] at h ⊢
  rw [List.length_filter_lt_length_iff_exists]
  rw [Ne, List.filter_eq_self] at h
  simpa using h

/-- For an ENR-only request (`[0]`) more than one record is a ban as well. -/
theorem enr_request_many_banned (peer : Nat) (recs : List Rec) (h : 1 < recs.length) :
    (acceptNodes peer [0] recs).2 = true := by
  simp [acceptNodes, h]

/-- Values are filed under the node id they contain — the stored ones **and the pending one** of
every bucket (part of C12's table invariant `TablePolicy`, which covers both).

The pending clause is necessary: `nodes_by_distances` first applies the pending node of every
requested bucket, so a pending value filed under a foreign key would be promoted and served; with
the clause for stored nodes only, `honest_never_banned` is false (see `pending_clause_needed`
below for the concrete table).

Unfolds to `TVals (fun k v => v.id = k) t`, which is how `Proofs/ServiceNodes.lean` takes it and how
it is proved of a table. -/
def KeyedById (t : Table Rec) : Prop :=
  ∀ b ∈ t.buckets, (∀ n ∈ b.nodes, n.value.id = n.key) ∧
    (∀ p, b.pending = some p → p.node.value.id = p.node.key)

/-- A responder that answers as `send_nodes_response` prescribes is never
banned and nothing it sends is dropped: for every requester id, every list of requested distances
(in particular `requestDistances target peer 3` for every target, and `[0]`), every table of the
responder satisfying the routing-table invariant, and every packet of the split. -/
theorem honest_never_banned (responder : Svc) (requester : Nat) (ds : List Nat)
    (hT : TInv responder.cfg.kb responder.table)
    (hL : responder.table.localKey = responder.localRec.id)
    (hK : KeyedById responder.table) :
    ∀ p ∈ (Svc.nodesPackets (responder.nodesToSend requester ds).2).1,
      acceptNodes responder.localRec.id ds p = (p, false) :=
  honest_packets_ok responder requester ds hT hL hK

/-- `honest_never_banned` phrased on the messages the responder emits. -/
theorem honest_never_banned_msgs (responder : Svc) (requester : Nat) (addr : Addr) (rid : Bytes)
    (ds : List Nat)
    (hT : TInv responder.cfg.kb responder.table)
    (hL : responder.table.localKey = responder.localRec.id)
    (hK : KeyedById responder.table) :
    ∀ total recs, Out.response requester addr rid (.nodes total recs) ∈
        (responder.sendNodesResponse requester addr rid ds).2 →
      acceptNodes responder.localRec.id ds recs = (recs, false) := by
  intro total recs hmem
  exact honest_packets_ok responder requester ds hT hL hK recs (mem_sendNodesResponse hmem).1

/-- In words of the property: whatever this node can request — the distances of a query towards
any `target` (`requestDistances target responder 3`) or an ENR update (`[0]`) — an honest answer is
kept whole and never bans.  (Instances of `honest_never_banned`, which holds for every list.) -/
theorem honest_never_banned_generated (responder : Svc) (requester target : Nat)
    (hT : TInv responder.cfg.kb responder.table)
    (hL : responder.table.localKey = responder.localRec.id)
    (hK : KeyedById responder.table) :
    (∀ p ∈ (Svc.nodesPackets (responder.nodesToSend requester
        (requestDistances target responder.localRec.id 3)).2).1,
      acceptNodes responder.localRec.id (requestDistances target responder.localRec.id 3) p
        = (p, false)) ∧
    (∀ p ∈ (Svc.nodesPackets (responder.nodesToSend requester [0]).2).1,
      acceptNodes responder.localRec.id [0] p = (p, false)) :=
  ⟨honest_never_banned responder requester _ hT hL hK,
   honest_never_banned responder requester _ hT hL hK⟩

/-- Packets of one request as the accounting sees them: `(total, kept records)`.  Number of
packets processed until the request completes. -/
def collected (maxN : Nat) : Option NodesResp → List (Nat × List Rec) → Nat
  | _, [] => 0
  | cur, (total, kept) :: rest =>
    match nodesAccount maxN total cur kept with
    | .wait nr => 1 + collected maxN (some nr) rest
    | .done _ => 1

theorem account_wait (maxN total : Nat) (cur : Option NodesResp) (kept : List Rec) (nr : NodesResp)
    (h : nodesAccount maxN total cur kept = .wait nr) :
    (cur.getD {}).count < Consts.MAX_NODES_RESPONSES ∧ nr.count = (cur.getD {}).count + 1 := by
  unfold nodesAccount at h
  split at h
  · simp only at h
    split at h
    · rename_i hw
      simp only [Bool.and_eq_true, decide_eq_true_eq] at hw
      injection h with h
      subst h
      exact ⟨hw.2, rfl⟩
    · cases h
  · cases h

/-- The count of a request starts at 1 (`NodesResp.count`) and a packet is waited for only while
it is below `MAX_NODES_RESPONSES`: packets collected so far plus packets still to come never exceed
that constant (the `+ 1` is the packet that completes the request). -/
theorem collected_bound (maxN : Nat) (pkts : List (Nat × List Rec)) :
    ∀ cur : Option NodesResp, (cur.getD {}).count ≤ Consts.MAX_NODES_RESPONSES →
      collected maxN cur pkts + (cur.getD {}).count ≤ Consts.MAX_NODES_RESPONSES + 1 := by
  induction pkts with
  | nil => intro cur h2; simp [collected]; omega
  | cons p rest ih =>
    intro cur h2
    obtain ⟨total, kept⟩ := p
    cases hacc : nodesAccount maxN total cur kept with
    | wait nr =>
      have ⟨h15, hnr⟩ := account_wait _ _ _ _ _ hacc
      have := ih (some nr) (by simp; omega)
      simp only [collected, hacc, Option.getD_some] at this ⊢
      omega
    | done recs =>
      simp only [collected, hacc]
      omega

/-- Whatever totals (0 … 2^64−1 and beyond) the responder claims and whatever
it sends, at most 15 packets are collected for one request. -/
theorem packets_bounded (maxN : Nat) (pkts : List (Nat × List Rec)) : collected maxN none pkts ≤ 15 := by
  have := collected_bound maxN pkts none (by decide)
  simp at this
  have h1 : (({} : NodesResp).count) = 1 := rfl
  omega

/-- A response whose request id is not (or no longer) active is
ignored: the state is unchanged and nothing is emitted — no records, no ban. -/
theorem after_completion_ignored (s : Svc) (o : Oracle) (peer : Nat) (addr : Addr) (id : Nat)
    (body : RespBody) (h : ∀ a ∈ s.active, a.id ≠ id) :
    s.handleResponse o peer addr id body = (s, []) := by
  have hf : s.active.find? (fun a => a.id == id) = none := by
    rw [List.find?_eq_none]
    intro a ha
    simpa using h a ha
  rw [handleResponse_eq, show activeReq s id = none from hf]

/-- Request ids are unique among the active requests (they are drawn from a counter). -/
def ActiveNodup (s : Svc) : Prop := (s.active.map (·.id)).Nodup

/-- Completion removes the request: when a NODES packet completes a request (the accounting says
`done`), its id is no longer active afterwards, so `after_completion_ignored` applies to every
later packet for it. -/
theorem completion_removes (s : Svc) (o : Oracle) (peer : Nat) (addr : Addr) (id total : Nat)
    (recs : List Rec) (req : ActiveReq) (hn : ActiveNodup s)
    (hreq : s.active.find? (fun a => a.id == id) = some req)
    (hdone : ∃ all, nodesAccount s.cfg.maxNodesResponse total
      (if total > 1 then (s.nodesResp.find? (fun p => p.1 == id)).map (·.2) else none)
      (acceptNodes peer (match req.body with | .findNode ds => ds | _ => []) recs).1 = .done all) :
    ∀ a ∈ (s.handleResponse o peer addr id (.nodes total recs)).1.active, a.id ≠ id := by
  obtain ⟨all, hdone⟩ := hdone
  have hreqd : (match req.body with | .findNode ds => ds | _ => []) = requestedOf req.body := by
    cases req.body <;> rfl
  rw [hreqd] at hdone
  rcases handleResponse_nodes_active s o peer addr id total recs req hreq with h | ⟨nr, h⟩
  · rw [h]
    intro a ha
    have := (List.mem_filter.1 ha).2
    simpa using this
  · rw [h] at hdone
    cases hdone

/-! ### Non-vacuity -/

/-- A record with the given node id. -/
def recOf (id : Nat) : Rec :=
  { id := id, seq := 1, udp4 := none, udp6 := none, udp6Mapped := false, size := 100, passesFilter := true }

/-- A `[1,2,0]` request (target adjacent to the responder) accepts the responder's own record, and
an off-distance record is a ban. -/
example : acceptNodes 5 [1, 2, 0] [recOf 5] = ([recOf 5], false) := by decide

example : (acceptNodes 5 [1, 2, 0] [recOf 13]).2 = true := by decide

example : requestDistances 4 5 3 = [1, 2, 0] := by decide

/-- A connected outgoing node filed under its own id. -/
def exNode (key : Nat) : Node Rec :=
  { key := key, value := recOf key, st := { conn := true, incoming := false } }

def exCfg : Svc.Cfg := { ipMode := .ip4, maxNodesResponse := 16, kb := kbCfg 10 60 }

/-- Responder with id 8 knowing the nodes 9 (distance 1, bucket 0) and 12 (distance 3, bucket 2). -/
def exTable : Table Rec :=
  ((Table.init 8).setBucket 0 { nodes := [exNode 9], fcp := some 0 }).setBucket 2
    { nodes := [exNode 12], fcp := some 0 }

def exResponder : Svc := { cfg := exCfg, localRec := recOf 8, table := exTable }

theorem exBucket_binv (c : KB.Cfg Rec) (tick key : Nat) :
    BInv c tick { nodes := [exNode key], fcp := some 0 } :=
  binv_uniform c tick exNode true [key] none (fun _ => rfl) (fun _ => rfl) (fun _ => rfl)
    (Nat.le_add_left 1 15) (List.cons_ne_nil _ _) (List.nodup_cons.2 ⟨List.not_mem_nil, List.nodup_nil⟩) fun _ h => nomatch h

theorem exTable_tinv (c : KB.Cfg Rec) : TInv c exTable := by
  unfold exTable
  refine TInv.setBucket (TInv.setBucket (init_tinv c 8) (exBucket_binv c _ 9) ?_)
    (exBucket_binv c _ 12) ?_
  · refine ⟨?_, by simp⟩
    simp only [List.mem_singleton, forall_eq]
    show bucketIndex 8 9 = some 0
    decide
  · refine ⟨?_, by simp⟩
    simp only [List.mem_singleton, forall_eq]
    show bucketIndex 8 12 = some 2
    decide

theorem exBucket_keyed (key : Nat) :
    BVals (fun k (v : Rec) => v.id = k) ({ nodes := [exNode key], fcp := some 0 } : Bucket Rec) := by
  refine ⟨?_, by simp⟩
  simp only [List.mem_singleton, forall_eq]
  rfl

theorem exTable_keyed : KeyedById exTable :=
  TVals.setBucket (TVals.setBucket (tvals_init _ 8) (exBucket_keyed 9)) (exBucket_keyed 12)

/-- The hypotheses of `honest_never_banned` are satisfiable by a non-empty table. -/
example : ∀ p ∈ (Svc.nodesPackets (exResponder.nodesToSend 77 [2, 3, 1]).2).1,
    acceptNodes 8 [2, 3, 1] p = (p, false) :=
  honest_never_banned exResponder 77 [2, 3, 1] (exTable_tinv _) rfl exTable_keyed

/-- A query towards target 10 asks the responder 8 (distance 2) for `[d, d+1, d-1] = [2,3,1]`;
the honest answer carries both nodes in one packet, which is accepted without ban. -/
example : requestDistances 10 8 3 = [2, 3, 1] := by decide

example : Svc.nodesPackets (exResponder.nodesToSend 77 [2, 3, 1]).2 = ([[recOf 9, recOf 12]], 1) := by
  decide

example : acceptNodes 8 [2, 3, 1] [recOf 9, recOf 12] = ([recOf 9, recOf 12], false) := by decide

/-- A query towards the adjacent target 9 asks for `[1,2,0]`: the answer starts with the
responder's own record (distance 0), followed by node 9; accepted without ban.  The requester
itself (12 here, for `[2,3,1]`) is left out by the responder. -/
example : requestDistances 9 8 3 = [1, 2, 0] := by decide

example : Svc.nodesPackets (exResponder.nodesToSend 77 [1, 2, 0]).2 = ([[recOf 8, recOf 9]], 1) := by
  decide

example : acceptNodes 8 [1, 2, 0] [recOf 8, recOf 9] = ([recOf 8, recOf 9], false) := by decide

example : (exResponder.nodesToSend 12 [2, 3, 1]).2 = [recOf 9] := by decide

/-- An ENR request `[0]` is answered with exactly the own record; a second record would ban. -/
example : Svc.nodesPackets (exResponder.nodesToSend 77 [0]).2 = ([[recOf 8]], 1) := by decide

example : (acceptNodes 8 [0] [recOf 8, recOf 8]).2 = true := by decide

/-- Why `KeyedById` must cover the pending slot: bucket 0 of responder 8 holds no stored node but a
pending node with key 9 whose *value* carries id 3, and its timeout has elapsed.  All stored values
are (vacuously) filed under their ids, yet `nodes_by_distances [1]` promotes and serves the record
with id 3, whose distance from 8 is 4 — the requester bans. -/
def cexTable : Table Rec :=
  (Table.init 8).setBucket 0
    { nodes := [], fcp := none, pending := some ⟨{ key := 9, value := (recOf 3), st := ⟨true, false⟩ }, 0⟩ }

def cexResponder : Svc := { cfg := exCfg, localRec := recOf 8, table := cexTable, now := 100 }

theorem pending_clause_needed :
    (∀ b ∈ cexTable.buckets, ∀ n ∈ b.nodes, n.value.id = n.key) ∧
    (Svc.nodesPackets (cexResponder.nodesToSend 77 [1]).2).1 = [[recOf 3]] ∧
    (acceptNodes 8 [1] [recOf 3]).2 = true := by
  refine ⟨?_, by decide, by decide⟩
  intro b hb n hn
  have hb' : b ∈ (List.replicate numBuckets ({} : Bucket Rec)).set 0
      { nodes := [], fcp := none,
        pending := some ⟨{ key := 9, value := (recOf 3), st := ⟨true, false⟩ }, 0⟩ } := hb
  have hnodes : b.nodes = [] := by
    rcases List.mem_or_eq_of_mem_set hb' with h | h
    · rw [List.eq_of_mem_replicate h]
    · rw [h]
  rw [hnodes] at hn
  cases hn

end Discv5.Props.C11
