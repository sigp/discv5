/-
C08 — Closest-node and distance lookups are exact.
The lazily applied pending nodes preserve the table invariant (`step_tinv`), so the node lists are
those of the table after the call.
-/
import Discv5Model.Proofs.ClosestLemmas

namespace Discv5.KB

variable {V : Type} [DecidableEq V]

/-- The closest-buckets iterator visits every bucket exactly once, for every distance. -/
theorem bucketOrder_perm (d : Nat) (h : d < 2 ^ 256) : (bucketOrder d).Perm (List.range 256) := by
  rw [bucketOrder_eq_closed d h]
  exact closedOrder_perm d h

/-- Iterating by closeness yields nodes in strictly increasing XOR distance to the target. -/
theorem closest_sorted (c : Cfg V) (now : Nat) (t : Table V) (target : Nat) (h : TInv c t)
    (hl : t.localKey < 2 ^ 256) (ht : target < 2 ^ 256) :
    (t.closest c now target).2.Pairwise (fun a b => (a.key ^^^ target) < (b.key ^^^ target)) := by
  have hD := Nat.xor_lt_two_pow hl ht
  have hord := closedOrder_pairwise (t.localKey ^^^ target)
  have hmem := fun i => @mem_closedOrder (t.localKey ^^^ target) i hD
  rw [← bucketOrder_eq_closed _ hD] at hord hmem
  obtain ⟨h1, h2, h3⟩ := closest_core c now t target h (hord.imp Before.ne)
  rw [h3, List.pairwise_flatMap]
  constructor
  · intro i hi
    exact sortByDist_lt target _ (h1.buckets i ((hmem i).1 hi)).keysNodup
  · refine hord.imp_of_mem ?_
    intro i j hi hj hb x hx y hy
    rw [mem_sortByDist] at hx hy
    have px := h1.placed i ((hmem i).1 hi) x hx
    have py := h1.placed j ((hmem j).1 hj) y hy
    rw [h2] at px py
    have := xor_lt_of_before hb (msb_of_bucketIndex px) (msb_of_bucketIndex py)
    rwa [xor_xor_cancel, xor_xor_cancel] at this

/-- … and yields every stored node exactly once (the table after the lazily applied pending
nodes). -/
theorem closest_complete (c : Cfg V) (now : Nat) (t : Table V) (target : Nat) (h : TInv c t)
    (hl : t.localKey < 2 ^ 256) (ht : target < 2 ^ 256) :
    (t.closest c now target).2.Perm (t.closest c now target).1.allNodes := by
  have hD := Nat.xor_lt_two_pow hl ht
  have hperm := closedOrder_perm _ hD
  rw [← bucketOrder_eq_closed _ hD] at hperm
  obtain ⟨h1, _, h3⟩ := closest_core c now t target h
    (hperm.nodup_iff.2 List.nodup_range)
  rw [allNodes_eq _ h1.nBuckets, h3]
  exact (perm_flatMap_left _ _ _ (fun i _ => sortByDist_perm target _)).trans
    (hperm.flatMap_right _)

/-- … i.e. exactly the sorted full scan. -/
theorem closest_eq_sorted_scan (c : Cfg V) (now : Nat) (t : Table V) (target : Nat) (h : TInv c t)
    (hl : t.localKey < 2 ^ 256) (ht : target < 2 ^ 256) :
    (t.closest c now target).2.map (·.key) =
      ((t.closest c now target).1.allNodes.map (·.key)).mergeSort
        (fun a b => decide ((a ^^^ target) ≤ (b ^^^ target))) := by
  have hs := closest_sorted c now t target h hl ht
  have hp := closest_complete c now t target h hl ht
  apply List.Perm.eq_of_pairwise (le := fun a b => (a ^^^ target) ≤ (b ^^^ target))
  · intro a b _ _ h1 h2
    exact xor_cancel_right (Nat.le_antisymm h1 h2)
  · rw [List.pairwise_map]
    exact hs.imp Nat.le_of_lt
  · exact pairwise_mergeSort_dist id target _
  · exact (hp.map _).trans (List.mergeSort_perm _ _).symm

omit [DecidableEq V] in
/-- The predicate variant yields the same sequence with correct match flags. -/
theorem closestPred_spec (c : Cfg V) (now : Nat) (t : Table V) (target : Nat) (pred : V → Bool) :
    (t.closestPred c now target pred).2.map (·.1) = (t.closest c now target).2 ∧
    ∀ x ∈ (t.closestPred c now target pred).2, x.2 = pred x.1.value := by
  rw [closestPred_snd]
  constructor
  · rw [List.map_map]
    exact List.map_id _
  · intro x hx
    rw [List.mem_map] at hx
    obtain ⟨n, _, rfl⟩ := hx
    rfl

/-- A lookup by distinct log2 distances returns only nodes at those distances, nothing for
distances outside 1..256, all of them when they are fewer than the cap and exactly `maxNodes`
otherwise. -/
theorem nodesByDistances_exact (c : Cfg V) (now : Nat) (t : Table V) (ds : List Nat) (maxNodes : Nat)
    (h : TInv c t) (hd : ds.Nodup) (hm : 1 ≤ maxNodes) :
    let r := t.nodesByDistances c now ds maxNodes
    let want := (ds.filter (fun d => 1 ≤ d ∧ d ≤ 256)).flatMap (fun d => (r.1.bucket (d - 1)).nodes)
    (∀ n ∈ r.2, ∃ d ∈ ds, 1 ≤ d ∧ d ≤ 256 ∧ bucketIndex t.localKey n.key = some (d - 1)) ∧
    r.2 = want.take maxNodes ∧ (r.2.map (·.key)).Nodup := by
  intro r want
  have hT : TInv c r.1 := step_tinv c t (.nodesByDistances now ds maxNodes) h
  have hK : r.1.localKey = t.localKey := step_localKey c t (.nodesByDistances now ds maxNodes)
  have e : r.2 = want.take maxNodes := by
    simp only [r, want, ← validDistances_eq]
    unfold Table.nodesByDistances
    simp only []
    rw [collectUpTo_eq _ _ _ (by simp only [List.length_nil]; omega)]
    simp
  have hmem : ∀ {d}, d ∈ ds.filter (fun d => 1 ≤ d ∧ d ≤ 256) → d ∈ ds ∧ d - 1 < 256 := by
    intro d hd1
    rw [List.mem_filter, decide_eq_true_eq] at hd1
    exact ⟨hd1.1, by omega⟩
  refine ⟨?_, e, ?_⟩
  · intro n hn
    rw [e] at hn
    obtain ⟨d, hd1, hd2⟩ := List.mem_flatMap.1 (List.mem_of_mem_take hn)
    have := hT.placed (d - 1) (hmem hd1).2 n hd2
    rw [List.mem_filter, decide_eq_true_eq] at hd1
    exact ⟨d, hd1.1, hd1.2.1, hd1.2.2, hK ▸ this⟩
  · rw [e]
    refine List.Nodup.sublist ((List.take_sublist _ _).map _) ?_
    rw [List.map_flatMap, List.nodup_iff_pairwise_ne, List.pairwise_flatMap]
    refine ⟨fun d hd1 => (hT.buckets (d - 1) (hmem hd1).2).keysNodup, ?_⟩
    have hd' : (ds.filter (fun d => decide (1 ≤ d ∧ d ≤ 256))).Pairwise (· ≠ ·) := hd.filter _
    refine hd'.imp_of_mem ?_
    intro d d' hd1 hd2 hne x hx y hy e
    obtain ⟨nx, hnx, rfl⟩ := List.mem_map.1 hx
    obtain ⟨ny, hny, rfl⟩ := List.mem_map.1 hy
    have px := hT.placed (d - 1) (hmem hd1).2 nx hnx
    rw [e, hT.placed (d' - 1) (hmem hd2).2 ny hny] at px
    rw [List.mem_filter, decide_eq_true_eq] at hd1 hd2
    injection px with px
    omega

/-! ### Non-vacuity: the hypotheses are satisfiable by a non-empty table, and the iterator order
is the expected one on a concrete distance (start at the top bit, zoom in over the set bits,
zoom out over the clear bits). -/

example : (bucketOrder 0b1010).take 6 = [3, 1, 0, 2, 4, 5] := by decide

/-- A connected outgoing node. -/
def c08Node (key : Nat) : Node Nat :=
  { key := key, value := 10 * key, st := { conn := true, incoming := false } }

/-- Local id 8 with the nodes 9 (distance 1, bucket 0) and 3 (distance 11, bucket 3). -/
def c08Table : Table Nat :=
  ((Table.init 8).setBucket 0 { nodes := [c08Node 9], fcp := some 0 }).setBucket 3
    { nodes := [c08Node 3], fcp := some 0 }

theorem c08Bucket_binv (c : Cfg Nat) (tick key : Nat) :
    BInv c tick { nodes := [c08Node key], fcp := some 0 } :=
  { len := by simp
    split := ⟨[], [c08Node key], rfl, by simp, by simp [c08Node], by simp, by simp, by simp⟩
    keysNodup := by simp
    pendingFresh := by simp
    incoming := by simp [c08Node]
    stampsLe := by simp [c08Node] }

theorem c08Table_tinv (c : Cfg Nat) : TInv c c08Table := by
  unfold c08Table
  refine TInv.setBucket (TInv.setBucket (init_tinv c 8) (c08Bucket_binv c _ 9) ?_)
    (c08Bucket_binv c _ 3) ?_
  · refine ⟨?_, by simp⟩
    simp only [List.mem_singleton, forall_eq]
    show bucketIndex 8 9 = some 0
    decide
  · refine ⟨?_, by simp⟩
    simp only [List.mem_singleton, forall_eq]
    show bucketIndex 8 3 = some 3
    decide

example (c : Cfg Nat) (now : Nat) :
    (c08Table.closest c now 2).2.Pairwise (fun a b => (a.key ^^^ 2) < (b.key ^^^ 2)) :=
  closest_sorted c now c08Table 2 (c08Table_tinv c) (by decide) (by decide)

example (c : Cfg Nat) (now : Nat) :
    let r := c08Table.nodesByDistances c now [4, 300, 1, 0] 1
    r.2 = ((([4, 300, 1, 0] : List Nat).filter (fun d => 1 ≤ d ∧ d ≤ 256)).flatMap
      (fun d => (r.1.bucket (d - 1)).nodes)).take 1 :=
  (nodesByDistances_exact c now c08Table [4, 300, 1, 0] 1 (c08Table_tinv c) (by decide)
    (by decide)).2.1

end Discv5.KB
