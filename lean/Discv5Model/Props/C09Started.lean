/-
C09 — Iterative queries terminate: the cut-off by the query timeout counts from the first poll.

Property theorems only (helper lemmas: `Proofs/QueryStarted.lean`; model: `Model/Query.lean`).

`query_pool.rs`: `QueryPool::poll` stamps a query with `started = started.or(Some(now))` when it
visits it and cuts it off once `now - started >= query_timeout`; `on_success` / `on_failure` and
`add_*_query` never touch `started`.  The theorems say that nothing which happens between the first
poll and the cut-off — answers (also late, duplicate, empty or unsolicited ones), failures, other
queries being added, finishing or timing out, polls in any visiting order — moves that moment.
-/
import Discv5Model.Proofs.QueryStarted

namespace Discv5.Query

/-- **The first poll starts the clock.**  A query that has not been polled yet (`started = None`)
and is visited by a `poll` at time `now` carries `started = Some(now)` afterwards (if it is still in
the pool, i.e. was not handed back by that very poll). -/
theorem first_poll_starts_clock (p : Pool) (hp : PoolInv p) (now i : Nat) (rest : List Nat) (x : PQ)
    (hx : p.get i = some x) (hs : x.started = none) :
    ∀ y, (p.poll now (i :: rest)).1.get i = some y → y.started = some now := by
  intro y hy
  obtain ⟨hym, hyi⟩ := find_id hy
  exact poll_first_visit p now i rest x hx hs y hym hyi

/-- **Nothing restarts the clock.**  Once a query carries `started = Some(s)`, it carries the same
value after every history of pool calls (polls in any visiting order, answers and failures for any
query and peer, further queries being added) for as long as it is in the pool — provided the
`usize` id counter does not wrap (fewer than 2^64 queries are added). -/
theorem started_survives_history (p : Pool) (hp : PoolInv p) (evs : List PEv) (hw : NoWrap p evs)
    (i s : Nat) (x : PQ) (hx : p.get i = some x) (hs : x.started = some s) :
    ∀ y, (runP p evs).get i = some y → y.started = some s := by
  intro y hy
  obtain ⟨hxm, hxi⟩ := find_id hx
  obtain ⟨hym, hyi⟩ := find_id hy
  have hlt : i < p.nextId := hp.lt i (List.mem_map.mpr ⟨x, hxm, hxi⟩)
  have hst : StartedAt p i s := by
    intro z hz hzi
    have : z = x := eq_of_nodup_map (f := PQ.id) hp.nodup hz hxm (by rw [hzi, hxi])
    rw [this]; exact hs
  exact runP_started evs p hp hw i s hlt hst y hym hyi

/-- **The cut-off counts from the first poll** (`terminates`).  If a query carried
`started = Some(s)` at some point, then after *any* later history of pool calls during which it
stayed in the pool, a `poll` at a time `now` with `now - s ≥ query_timeout` that visits it first
either still hands out a request for it or hands it back (`Finished` or `Timeout`) and removes it —
no matter how many of its peers answered in between. -/
theorem cut_off_counts_from_first_poll (p : Pool) (hp : PoolInv p) (evs : List PEv) (hw : NoWrap p evs)
    (i s : Nat) (x : PQ) (hx : p.get i = some x) (hs : x.started = some s)
    (y : PQ) (hy : (runP p evs).get i = some y) (now : Nat) (rest : List Nat)
    (hto : now - s ≥ p.timeout) :
    (∃ k, ((runP p evs).poll now (i :: rest)).2 = .waitingSome i k) ∨
    ((∃ q, ((runP p evs).poll now (i :: rest)).2 = .finished i q ∨
            ((runP p evs).poll now (i :: rest)).2 = .timeout i q) ∧
      ((runP p evs).poll now (i :: rest)).1.get i = none) := by
  have hys : y.started = some s := started_survives_history p hp evs hw i s x hx hs y hy
  have hT : TimedOut (runP p evs).timeout now y := by
    unfold TimedOut
    rw [runP_timeout, hys]
    exact hto
  exact poll_timed_out_first (runP p evs) now i rest y hy hT

/-! ### Non-vacuity

One lookup (timeout 300): first poll at time 0 hands out a request to peer 3; peer 3 answers at
time 80 with a closer peer; the poll that follows hands out more requests; then silence.  At time
340 the lookup is cut off although its last answer is only 260 old. -/

private def exCfg : Config := ⟨2, 3, 1000⟩
private def exKnown : List (Nat × Bool) := [(5, true), (3, true), (9, false)]

private def exBefore : List PEv := [.add .closest exCfg 0 exKnown, .poll 0 [0]]
private def exBetween : List PEv := [.success 0 3 [(1, true)], .poll 80 [0], .poll 80 [0], .poll 80 [0]]

/-- after the first poll the query carries `started = some 0` -/
example : ((runP (Pool.new 300) exBefore).get 0).map (·.started) = some (some 0) := by decide
/-- it is still in the pool after the answer and the polls at time 80, with the same stamp -/
example : ((runP (runP (Pool.new 300) exBefore) exBetween).get 0).map (·.started) = some (some 0) := by decide
/-- the hypotheses of `cut_off_counts_from_first_poll` hold at `now = 340`, and the poll times out -/
example : retId ((runP (runP (Pool.new 300) exBefore) exBetween).poll 340 [0]).2 = some 0 := by decide
example : NoWrap (runP (Pool.new 300) exBefore) exBetween := by unfold NoWrap; decide

end Discv5.Query
