/-
C10, completeness clause, at the seam between admission and contact: a lookup that returns fewer nodes
than asked for has contacted every candidate it learned of (`Props/C10.lean` for the lookup state
machine) - *provided* the service, asked to contact a candidate, really sends the request.  The service
refuses when `NodeContact::try_from_enr` fails, and reports that to the lookup as a failure of the
peer.  The two sides decide with the same predicate, and that is what is proved here: every record
`discovered` hands to a lookup, or adds to its untrusted records, is contactable in this node's IP mode and
passes the table filter; `send_rpc_query` for a candidate whose record is found and is contactable sends
exactly one FINDNODE request; and along every run of the service every untrusted record of the running
lookup stays admissible - so the lookup is told "failed" without a request only for a node whose record
is found nowhere.

(A change that makes the contact side stricter than the admission side - refusing, say, addresses that
admission lets in - breaks the counterpart of `found_candidate_is_asked` in the code; the correspondence
run sees it as a predicted request that is never sent, and the monitor
`lookup-short-although-a-node-it-learned-of-was-never-asked` gives the failing history.)
-/
import Discv5Model.Proofs.ServiceDiscovered
import Discv5Model.Props.C12
import Discv5Model.Props.C09Service

namespace Discv5.Props.C10Candidates

open Discv5.KB
open Discv5.Svc
open Discv5.Svc.Svc

/-- What one pass of the `retain` closure keeps is admissible. -/
theorem discoveredOne_keep (s : Svc) (source : Nat) (r : Rec)
    (h : (s.discoveredOne source r).2.1 = true) :
    contactable s.cfg.ipMode r = true ∧ r.passesFilter = true ∧ r.id ≠ s.localRec.id ∧ r.id ≠ source := by
  unfold discoveredOne at h
  by_cases hl : (r.id == s.localRec.id) = true
  · rw [if_pos hl] at h; cases h
  · rw [if_neg hl] at h
    by_cases hok : (r.passesFilter && contactable s.cfg.ipMode r) = true
    · rw [if_pos hok] at h
      have hp := Bool.and_eq_true_iff.mp hok
      refine ⟨hp.2, hp.1, by simpa using hl, ?_⟩
      -- whatever the table says, the flag is `false` or `source != r.id`
      have key : ∀ (mu f : Bool) (X Y : Svc) (evs : List Out),
          (if mu = true then (if f = true then (X, false, evs) else (X, source != r.id, evs))
            else (Y, source != r.id, evs)).2.1 = true → (source != r.id) = true := by
        intro mu f X Y evs h
        cases mu <;> cases f <;> first | exact h | cases h
      generalize s.entry r.id = e at h
      obtain ⟨s1, l⟩ := e
      have hsrc := key _ _ _ _ _ h
      intro heq
      simp [heq] at hsrc
    · rw [if_neg hok] at h
      generalize s.entry r.id = e at h
      obtain ⟨s1, l⟩ := e
      cases h

/-- Every record `discovered` keeps (hands to the lookup the request belonged to) is contactable in this
node's IP mode, passes the table filter, and is neither the local node nor the responder itself. -/
theorem kept_records_are_admissible (source : Nat) :
    ∀ (recs : List Rec) (s : Svc) (kept : List Rec) (outs : List Out),
      ∀ r ∈ (discoveredLoop s source recs kept outs).2.1,
        r ∈ kept ∨ (contactable s.cfg.ipMode r = true ∧ r.passesFilter = true ∧
          r.id ≠ s.localRec.id ∧ r.id ≠ source)
  | [], _, kept, _, r, hr => Or.inl (by simpa [discoveredLoop] using hr)
  | x :: rs, s, kept, outs, r, hr => by
    rw [discoveredLoop_cons] at hr
    have ih := kept_records_are_admissible source rs _ _ _ r hr
    rw [discoveredOne_cfg, discoveredOne_localId] at ih
    rcases ih with hk | hadm
    · by_cases hkeep : (s.discoveredOne source x).2.1 = true
      · rw [if_pos hkeep] at hk
        rcases List.mem_append.mp hk with h | h
        · exact Or.inl h
        · have : r = x := by simpa using h
          subst this
          exact Or.inr (discoveredOne_keep s source r hkeep)
      · rw [if_neg hkeep] at hk
        exact Or.inl hk
    · exact Or.inr hadm

/-- The `untrusted_enrs` update of `discovered` adds nothing but kept records. -/
theorem foldl_untrusted_mem (kept : List Rec) :
    ∀ (u : List Rec), ∀ r ∈ kept.foldl
        (fun (u : List Rec) r => if u.any (fun e => e.id == r.id) then u else u ++ [r]) u,
      r ∈ u ∨ r ∈ kept := by
  induction kept with
  | nil => intro u r hr; exact Or.inl hr
  | cons x xs ih =>
    intro u r hr
    rw [List.foldl_cons] at hr
    rcases ih _ r hr with h | h
    · split at h
      · exact Or.inl h
      · rcases List.mem_append.mp h with h | h
        · exact Or.inl h
        · exact Or.inr (by simp at h; simp [h])
    · exact Or.inr (List.mem_cons_of_mem _ h)

/-- Whatever `discovered` adds to the untrusted records of the lookup a request belonged to - the records
the lookup will later be asked to contact - is contactable in this node's IP mode, passes the table filter,
and is neither the local node nor the responder. -/
theorem discovered_adds_admissible_candidates (s : Svc) (source : Nat) (recs : List Rec) (query : Option Nat)
    (q' : Query) (hq' : (s.discovered source recs query).1.query = some q') :
    ∀ r ∈ q'.untrusted,
      (∃ q, (discoveredLoop s source recs [] []).1.query = some q ∧ r ∈ q.untrusted) ∨
      (contactable s.cfg.ipMode r = true ∧ r.passesFilter = true ∧ r.id ≠ s.localRec.id ∧ r.id ≠ source) := by
  intro r hr
  have hk := kept_records_are_admissible source recs s [] []
  unfold discovered at hq'
  generalize discoveredLoop s source recs [] [] = x at hq' hk ⊢
  obtain ⟨s1, kept, outs⟩ := x
  simp only [] at hq' hk ⊢
  split at hq'
  · rename_i qid q hqs
    split at hq'
    · simp only [Option.some.injEq] at hq'
      subst hq'
      simp only [] at hr
      rcases foldl_untrusted_mem kept q.untrusted r hr with h | h
      · exact Or.inl ⟨q, by assumption, h⟩
      · rcases hk r h with h0 | h0
        · simp at h0
        · exact Or.inr h0
    · exact Or.inl ⟨q', hq', hr⟩
  · exact Or.inl ⟨q', hq', hr⟩

/-- `send_rpc_query` for a candidate whose record is found (routing table or the lookup's untrusted
records) and is contactable in this node's IP mode sends it exactly one FINDNODE request: the lookup is
never told "failed" about a peer nothing was sent to. -/
theorem contactable_candidate_is_asked (s : Svc) (q : Query) (peer : Nat) (r : Rec)
    (hq : s.query = some q) (hf : (s.findEnr peer).2 = some r)
    (hc : contactable (s.findEnr peer).1.cfg.ipMode r = true) :
    ∃ id a body, (s.sendRpcQuery peer).2 = [.request id r.id a body] := by
  unfold sendRpcQuery
  rw [hq]
  simp only []
  generalize hfe : s.findEnr peer = fe at hf hc
  obtain ⟨s1, known⟩ := fe
  simp only [] at hf hc
  subst hf
  simp only []
  unfold contactable at hc
  cases hca : contactableAddr s1.cfg.ipMode r with
  | none => rw [hca] at hc; simp at hc
  | some a =>
    simp only [sendRpcRequest]
    exact ⟨_, _, _, rfl⟩

open Discv5.Props.C12 (TablePolicy Wf OracleSane RecOk)

/-- One step keeps "every untrusted record of the running lookup is admissible" (given the table policy
of C12, from which a lookup takes its first candidates). -/
theorem untrusted_admissible_step (s : Svc) (o : Oracle) (i : Svc.Input) (hw : Wf s)
    (hp : TablePolicy s) (hu : UOk s) : UOk (s.step o i).1 := by
  have hs : Step (RecOk s.cfg.ipMode s.localRec.id) o s (s.step o i).1 :=
    step_step s i
      (fun r _ hc hf hne => ⟨hc, hf, rfl, by rw [← hw.2]; exact hne⟩)
      (fun k v r hv hid _ hc hf => ⟨hc, hf, hid, hv.2.2.2⟩)
  exact hs.untr (fun _ _ h => ⟨h.1, h.2.1⟩) hp hu

/-- **Every record a lookup is ever asked to contact is admissible.**  Along every run of the service
(any inputs, any oracle outcomes that re-sign the local record under its own id) from a state with the
table policy and admissible untrusted records - in particular from a freshly started service - the
untrusted records of the running lookup are contactable in the node's IP mode and pass the table
filter.  With `contactable_candidate_is_asked`: whenever `send_rpc_query` finds the record of the
candidate it is given among them, the request goes out. -/
theorem untrusted_admissible_run (l : List (Oracle × Svc.Input)) (s : Svc) (hw : Wf s)
    (ho : ∀ p ∈ l, OracleSane s p.1) (hp : TablePolicy s) (hu : UOk s) :
    UOk (s.run l).1 := by
  induction l generalizing s with
  | nil => exact hu
  | cons p rest ih =>
    obtain ⟨o, i⟩ := p
    have ho1 : OracleSane s o := ho (o, i) (List.mem_cons_self ..)
    have hid := C12.step_local_id s o i ho1
    exact ih (s.step o i).1 (C12.wf_step s o i hw ho1)
      (fun q hq r a hr => by rw [hid]; exact ho q (List.mem_cons_of_mem _ hq) r a hr)
      (C12.table_policy_inv s o i hw ho1 hp)
      (untrusted_admissible_step s o i hw hp hu)

theorem untrusted_admissible_from_init (cfg : Svc.Cfg) (r : Rec) (l : List (Oracle × Svc.Input))
    (ho : ∀ p ∈ l, ∀ r' a, p.1.newLocal = some (r', a) → r'.id = r.id) :
    UOk ((Svc.init cfg r).run l).1 :=
  untrusted_admissible_run l (Svc.init cfg r) ⟨init_tinv _ _, rfl⟩ ho (C12.table_policy_init cfg r)
    (fun q hq => by cases hq)

/-- In a state with admissible untrusted records and the table policy, a candidate whose record
`find_enr` finds is sent its request - the failure-without-request branch of the lookup glue is taken
only for a candidate whose record is found nowhere. -/
theorem found_candidate_is_asked (s : Svc) (q : Query) (peer : Nat) (r : Rec)
    (hq : s.query = some q) (hp : TablePolicy s) (hu : UOk s)
    (hf : (s.findEnr peer).2 = some r) :
    ∃ id a body, (s.sendRpcQuery peer).2 = [.request id r.id a body] := by
  refine contactable_candidate_is_asked s q peer r hq hf ?_
  -- the record comes from the table (policy) or from the untrusted records
  have hs : Step (RecOk s.cfg.ipMode s.localRec.id) ({} : Oracle) s (s.findEnr peer).1 := findEnr_step s peer
  rw [hs.cfg]
  have hu1 : UOk (s.findEnr peer).1 := hs.untr (fun _ _ h => ⟨h.1, h.2.1⟩) hp hu
  have hv1 := (entry_step (P := RecOk s.cfg.ipMode s.localRec.id) (o := ({} : Oracle)) s peer).vals hp
  rcases Lookup.findEnr_some hf with ⟨st, hpr⟩ | ⟨q1, hq1, hm, _⟩
  · exact (hv1.of_hasPair (lookup_present ((entry_lookup s peer).symm.trans hpr))).1
  · exact (hs.cfg ▸ hu1 q1 hq1 r hm).1

open Discv5.Lookup in
/-- The same with the lookup glue in the loop: a composed step (the service step, the requests the
lookup then asks for, the end of the lookup) keeps the untrusted records admissible - it is a run of the
service model (`service_step_is_a_run`, `lookup_start_is_a_run`). -/
theorem lookups_keep_untrusted_admissible (c : LCfg) (now : Nat) (k : LSvc) (i : LInput)
    (hw : Wf k.svc) (hp : TablePolicy k.svc) (hu : UOk k.svc)
    (ho : ∀ o inp, i = .svc o inp → OracleSane k.svc o) :
    UOk (k.step c now i).1.svc := by
  obtain ⟨l, hl, he⟩ := C09Service.step_is_a_sane_run c now k i ho
  rw [he]
  exact untrusted_admissible_run l k.svc hw hl hp hu

/-! ## Non-vacuity -/

def exRec (id : Nat) : Rec :=
  { id := id, seq := 1, udp4 := some (id + 9000), udp6 := none, udp6Mapped := false,
    size := 100, passesFilter := true }

def exS : Svc := Svc.init { ipMode := .ip4, maxNodesResponse := 16, kb := kbCfg 16 60000 } (exRec 1)

/-- Node 9 names node 5 (an address at `0.0.0.0`-like low numbers is as good as any): the record is kept;
a record without an IPv4 socket is not; the responder's own record is not. -/
example : (discoveredLoop exS 9 [exRec 5, { exRec 6 with udp4 := none }, exRec 9] [] []).2.1 = [exRec 5] := by
  decide +kernel

/-- ... and with a lookup running that knows the record, the request goes out. -/
example :
    (({ exS with query := some { qid := 0, target := 3, untrusted := [exRec 5] } } : Svc).sendRpcQuery 5).2.length = 1 := by
  decide +kernel

end Discv5.Props.C10Candidates
