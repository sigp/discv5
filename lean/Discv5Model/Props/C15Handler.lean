/-
C15 — Sessions expire and the session cache is bounded.  Part 2: the handler.

`Props/C15.lean` proves the theory of the cache `LruTimeCache` (`Model/Lru.lean`); this file ties the
handler model (`Model/Handler.lean`) to it.  With `toCache c s` = "the session list of `s` read as a
cache with ttl `session_timeout` and capacity `session_cache_capacity`", every session primitive of the
handler commutes with the `Lru` operation of the same name at the real-time clock `s.rt`, on all
states (§1).  Through that refinement the `Lru` theorems hold over every handler history (§2): the
invariant `WF`, a session is returned exactly if it was used no more than `session_timeout` ago, the
sweep drops exactly the expired sessions, an insert into a full cache evicts the least recently used
entry, and a stamp always is the time of the last use.  (`Props/C02.lean` states bound, expiry and
eviction on the session list itself, without the cache.)
-/
import Discv5Model.Proofs.HandlerLru
import Discv5Model.Props.C15

namespace Discv5.C15.Handler
open Discv5 Discv5.H Discv5.H.HL

/-! ### 1. The session list is the cache: one refinement theorem per operation -/

/-- `sessGetMut` = `LruTimeCache::get_mut` at time `s.rt`, on every state `s`: the returned option
is the cache's, the session list afterwards is the cache's list, no output is produced and no
other component of the state changes. -/
theorem sessGetMut_is_get_mut (c : Cfg) (na : NA) (s : HState) (os : List Out) :
    ((sessGetMut c na).run (s, os)).1 = (Lru.getMut (toCache c s) s.rt na).2 ∧
    toCache c ((sessGetMut c na).run (s, os)).2.1 = (Lru.getMut (toCache c s) s.rt na).1 ∧
    ((sessGetMut c na).run (s, os)).2.2 = os ∧
    OnlySessions s ((sessGetMut c na).run (s, os)).2.1 :=
  sessGetMut_refines c na s os

/-- `sessPut` is the write through the `&mut Session` handed out by `get_mut`: the value of the
entry is replaced; key, stamp and position stay (`putVal`). -/
theorem sessPut_is_write_through (c : Cfg) (na : NA) (sess : Session) (s : HState) (os : List Out) :
    toCache c ((sessPut na sess).run (s, os)).2.1 =
      { toCache c s with map := putVal (toCache c s).map na sess } ∧
    ((sessPut na sess).run (s, os)).2.2 = os ∧
    OnlySessions s ((sessPut na sess).run (s, os)).2.1 :=
  sessPut_refines c na sess s os

/-- … so that `sessGetMut` followed, on a hit, by `sessPut na (f sess)` is the cache's
`get_mut` whose reference is used by `f` (`Lru.getMutWith`, the operation `Op.getMut`). -/
theorem get_then_put_is_get_mut_with (C : Lru.Cache NA Session) (now : Nat) (na : NA)
    (f : Session → Session) :
    (∀ v, (Lru.getMut C now na).2 = some v →
      Lru.getMutWith C now na f =
        ({ (Lru.getMut C now na).1 with map := putVal (Lru.getMut C now na).1.map na (f v) }, some v)) ∧
    ((Lru.getMut C now na).2 = none → Lru.getMutWith C now na f = Lru.getMut C now na) :=
  ⟨fun v h => getMutWith_hit_eq_put C now na f v h, getMutWith_miss_eq C now na f⟩

/-- `sessInsert` = `LruTimeCache::insert` at time `s.rt` — for every key, held or not (the handler
only reaches it for a key that `get_mut` has just reported absent; the models agree regardless). -/
theorem sessInsert_is_insert (c : Cfg) (na : NA) (sess : Session) (s : HState) (os : List Out) :
    toCache c ((sessInsert c na sess).run (s, os)).2.1 = Lru.insert (toCache c s) s.rt na sess ∧
    ((sessInsert c na sess).run (s, os)).2.2 = os ∧
    OnlySessions s ((sessInsert c na sess).run (s, os)).2.1 :=
  sessInsert_refines c na sess s os

/-- `sessRemove` = `LruTimeCache::remove` (no expiry test; the handler ignores the returned value). -/
theorem sessRemove_is_remove (c : Cfg) (na : NA) (s : HState) (os : List Out) :
    toCache c ((sessRemove na).run (s, os)).2.1 = (Lru.remove (toCache c s) na).1 ∧
    ((sessRemove na).run (s, os)).2.2 = os ∧
    OnlySessions s ((sessRemove na).run (s, os)).2.1 :=
  sessRemove_refines c na s os

/-- `removeExpiredSessions` = `LruTimeCache::remove_expired_values` at time `s.rt`; the keys the
cache returns are exactly the ones reported in the `expired` output (no output if there are none). -/
theorem removeExpiredSessions_is_sweep (c : Cfg) (s : HState) (os : List Out) :
    toCache c ((removeExpiredSessions c).run (s, os)).2.1 = (Lru.removeExpired (toCache c s) s.rt).1 ∧
    ((removeExpiredSessions c).run (s, os)).2.2 =
      (if (Lru.removeExpired (toCache c s) s.rt).2 = [] then os
       else os ++ [.expired (Lru.removeExpired (toCache c s) s.rt).2]) ∧
    OnlySessions s ((removeExpiredSessions c).run (s, os)).2.1 :=
  removeExpiredSessions_refines c s os

/-! ### 2. Over every handler history -/

/-- In every reachable state the session list satisfies the invariant of the cache: keys pairwise
distinct, stamps non-decreasing from front to back and none later than the real-time clock,
`len ≤ capacity`. -/
theorem session_cache_wf (c : Cfg) (evs : List Ev) :
    Lru.WF (toCache c (run c evs)) (run c evs).rt := run_wf c evs

/-- The session list never holds two entries for one node address. -/
theorem session_keys_distinct (c : Cfg) (evs : List Ev) : ((run c evs).sessions.map (·.1)).Nodup :=
  run_keys_nodup c evs

/-- The session list never exceeds `session_cache_capacity` (for every capacity, in particular for
every capacity ≥ 1; with capacity 0 the list is always empty). -/
theorem session_cache_bounded (c : Cfg) (evs : List Ev) : (run c evs).sessions.length ≤ c.sessionCap := by
  have h := (run_wf c evs).bounded
  unfold Lru.Bounded toCache at h
  rwa [toMap_length] at h

/-- Stamps are sorted in list order and never in the future of the real-time clock. -/
theorem session_stamps_sorted (c : Cfg) (evs : List Ev) :
    (run c evs).sessions.Pairwise (fun a b => a.2.2 ≤ b.2.2) ∧
    ∀ e ∈ (run c evs).sessions, e.2.2 ≤ (run c evs).rt := by
  have h : ((run c evs).sessions.map toEntry).Pairwise (fun a b => a.stamp ≤ b.stamp) := (run_wf c evs).sorted.1
  have h2 := List.pairwise_map.1 h
  exact ⟨h2, fun e he => (run_wf c evs).sorted.2 (toEntry e) (List.mem_map_of_mem he)⟩

/-- `sessGetMut` returns a session exactly if the list holds it for that address with a stamp no
more than `session_timeout` old (corollary of `Cache.get_fresh`). -/
theorem sessGetMut_returns_iff_fresh (c : Cfg) (evs : List Ev) (na : NA) (sess : Session) (os : List Out) :
    ((sessGetMut c na).run (run c evs, os)).1 = some sess ↔
      ∃ stamp, (na, sess, stamp) ∈ (run c evs).sessions ∧ (run c evs).rt ≤ stamp + c.sessionTtl := by
  rw [(sessGetMut_refines c na (run c evs) os).1]
  unfold Lru.getMut
  rw [Cache.get_fresh _ (run_wf c evs).distinct]
  constructor
  · rintro ⟨e, he, hk, hv, hx⟩
    obtain ⟨x, hx', rfl⟩ := List.mem_map.1 he
    obtain ⟨a, b, d⟩ := x
    simp only [toEntry] at hk hv
    subst hk; subst hv
    exact ⟨d, hx', hx⟩
  · rintro ⟨stamp, hm, hx⟩
    exact ⟨toEntry (na, sess, stamp), List.mem_map_of_mem hm, rfl, rfl, hx⟩

/-- A session whose last use (its stamp, see `stamp_is_time_of_last_use`) is more than
`session_timeout` ago is never returned: `sessGetMut` reports the address absent, and the entry
is gone afterwards (corollary of `Cache.get_expired_is_absent_and_removed`). -/
theorem expired_session_never_returned (c : Cfg) (evs : List Ev) (na : NA) (os : List Out)
    (e : NA × Session × Nat) (he : e ∈ (run c evs).sessions) (hk : e.1 = na)
    (hx : e.2.2 + c.sessionTtl < (run c evs).rt) :
    ((sessGetMut c na).run (run c evs, os)).1 = none ∧
    ∀ e' ∈ ((sessGetMut c na).run (run c evs, os)).2.1.sessions, e'.1 ≠ na := by
  have h1 := (sessGetMut_refines c na (run c evs) os).1.trans
    (Cache.get_expired_is_absent_and_removed (toCache c (run c evs)) (run_wf c evs).distinct
      (run c evs).rt na id (toEntry e) (List.mem_map_of_mem he) hk hx).1
  refine ⟨h1, fun e' he' => ?_⟩
  rw [sessGetMut_none_run h1] at he'
  simpa using (List.mem_filter.1 he').2

/-- A hit refreshes: the entry is re-stamped with the clock and becomes the most recently used
one; every other entry keeps value, stamp and place (the cache's `Cache.get_hit_refreshes`). -/
theorem returned_session_is_refreshed (c : Cfg) (s : HState) (na : NA) (sess : Session) (os : List Out)
    (h : ((sessGetMut c na).run (s, os)).1 = some sess) :
    ((sessGetMut c na).run (s, os)).2.1.sessions =
      s.sessions.filter (·.1 != na) ++ [(na, sess, s.rt)] := by
  rw [sessGetMut_some_run h]

/-- The sweep drops exactly the expired sessions — it walks only the front of the list, but the
list is sorted by stamp (corollary of `Cache.sweep_removes_exactly_expired`). -/
theorem sweep_removes_exactly_expired_sessions (c : Cfg) (evs : List Ev) (os : List Out) :
    ((removeExpiredSessions c).run (run c evs, os)).2.1.sessions =
      (run c evs).sessions.filter (fun e => !decide (e.2.2 + c.sessionTtl < (run c evs).rt)) := by
  apply toMap_inj
  refine (congrArg (·.map) (removeExpiredSessions_refines c (run c evs) os).1).trans
    ((Cache.sweep_removes_exactly_expired (toCache c (run c evs)) (run c evs).rt (run c evs).rt
      (run_wf c evs)).trans ?_)
  show List.filter _ (List.map toEntry (run c evs).sessions) = _
  rw [List.filter_map]
  rfl

/-- When the capacity (≥ 1) is reached, inserting a new address drops the front entry and nothing
else, and that entry carries the oldest stamp — it is the least recently used session (corollary
of `Lru.insert_full_fresh` and the sortedness invariant). -/
theorem insert_evicts_least_recently_used (c : Cfg) (evs : List Ev) (na : NA) (sess : Session)
    (os : List Out) (hcap : 1 ≤ c.sessionCap) (hfull : (run c evs).sessions.length = c.sessionCap)
    (hk : ∀ e ∈ (run c evs).sessions, e.1 ≠ na) :
    ∃ lru rest, (run c evs).sessions = lru :: rest ∧
      ((sessInsert c na sess).run (run c evs, os)).2.1.sessions = rest ++ [(na, sess, (run c evs).rt)] ∧
      ∀ e ∈ rest, lru.2.2 ≤ e.2.2 := by
  obtain ⟨h1, _, _⟩ := sessInsert_refines c na sess (run c evs) os
  have hc := Lru.insert_full_fresh (c := toCache c (run c evs)) (run c evs).rt (k := na) sess
    (by show (toMap _).length = _; rw [toMap_length]; exact hfull) hcap
    (by intro e he; obtain ⟨x, hx, rfl⟩ := List.mem_map.1 he; exact hk x hx)
  cases hl : (run c evs).sessions with
  | nil => rw [hl] at hfull; simp at hfull; omega
  | cons lru rest =>
    refine ⟨lru, rest, rfl, ?_, ?_⟩
    · apply toMap_inj
      have : (toCache c ((sessInsert c na sess).run (run c evs, os)).2.1).map =
          (Lru.insert (toCache c (run c evs)) (run c evs).rt na sess).map := by rw [h1]
      refine this.trans (hc.trans ?_)
      show (toMap (run c evs).sessions).tail ++ _ = _
      rw [hl, toMap_append]
      rfl
    · have hs := (session_stamps_sorted c evs).1
      rw [hl] at hs
      exact (List.pairwise_cons.1 hs).1

/-- The stamp of an entry is the time of its last use: in one step every entry afterwards is
either an entry from before the step (same address, same stamp) or is stamped with the current
real-time clock — stamps are written by `get_mut` hits and `insert` only, with the clock.  The
clock itself is moved by `rtAdv` only. -/
theorem stamp_is_time_of_last_use (c : Cfg) (evs : List Ev) (e : Ev) :
    (∀ e' ∈ (run c (evs ++ [e])).sessions, e'.2.2 = (run c evs).rt ∨
      ∃ e0 ∈ (run c evs).sessions, e0.1 = e'.1 ∧ e0.2.2 = e'.2.2) ∧
    ((∀ dt, e ≠ .rtAdv dt) → (run c (evs ++ [e])).rt = (run c evs).rt) := by
  rw [RQ.run_snoc]
  exact ⟨step_stamps c (run c evs) e, step_rt c (run c evs) e⟩

/-- The live part of the session list behaves like a bounded LRU map that forgets an entry once
it is older than `session_timeout` (`Lru.Spec`): every cache operation issued in a reachable state
at the current clock commutes with the abstraction "live entries in recency order". -/
theorem session_cache_refines_live_map (c : Cfg) (evs : List Ev) (op : Lru.Op NA Session) :
    Lru.live c.sessionTtl (run c evs).rt (Lru.step (toCache c (run c evs)) (run c evs).rt op).1.map =
      (Lru.Spec.step c.sessionTtl c.sessionCap (run c evs).rt
        (Lru.live c.sessionTtl (run c evs).rt (toCache c (run c evs)).map) op).1 ∧
    Lru.ReplyRefines op (Lru.step (toCache c (run c evs)) (run c evs).rt op).2
      (Lru.Spec.step c.sessionTtl c.sessionCap (run c evs).rt
        (Lru.live c.sessionTtl (run c evs).rt (toCache c (run c evs)).map) op).2 :=
  Lru.step_refines (run c evs).rt op (run_wf c evs) (Nat.le_refl _)

/-- Seen from outside: a message arriving under an expired session is treated as coming from a
peer without session — the handler asks for a WHOAREYOU and does nothing else — and the stale
entry is dropped. -/
theorem expired_session_message_is_challenged (c : Cfg) (evs : List Ev) (src : Addr) (srcId nonce : Nat)
    (ct : Ct) (e : NA × Session × Nat) (he : e ∈ (run c evs).sessions)
    (hk : e.1 = { id := srcId, addr := src })
    (hx : e.2.2 + c.sessionTtl < (run c evs).rt) :
    (step c (run c evs) (.dgram src (.message srcId nonce ct))).2 = [.wru { id := srcId, addr := src } nonce] ∧
    ∀ e' ∈ (step c (run c evs) (.dgram src (.message srcId nonce ct))).1.sessions,
      e'.1 ≠ { id := srcId, addr := src } := by
  have h := expired_session_never_returned c evs _ [] e he hk hx
  have h3 := (sessGetMut_refines c { id := srcId, addr := src } (run c evs) []).2.2.1
  rw [RQ.step_eq]
  simp only [stepM]
  unfold handleMessage
  simp only [run_bind]
  rw [h.1]
  simp only [run_emit]
  exact ⟨by rw [h3]; rfl, h.2⟩

/-! ### Non-vacuity: concrete histories satisfying the hypotheses -/

/-- ttl 1000, room for a single session. -/
private def hCfg : Cfg where
  localId := 1
  localSeq := 1
  localRec := { id := 1, seq := 1, udp4 := some 100, udp6 := none }
  requestRetries := 2
  requestTimeout := 10
  sessionTtl := 1000
  sessionCap := 1
  listen := [⟨false, 100⟩]
  findnode0 := 0

private def hPeerA : NA := { id := 2, addr := ⟨false, 7⟩ }
private def hPeerB : NA := { id := 3, addr := ⟨false, 8⟩ }
private def hCtA : Contact := { na := hPeerA, record := some { id := 2, seq := 1, udp4 := some 7, udp6 := none } }
private def hCtB : Contact := { na := hPeerB, record := some { id := 3, seq := 1, udp4 := some 8, udp6 := none } }

/-- A request to A, A challenges, the handshake creates the session (stamp 0). -/
private def hOne : List Ev := [.appRequest hCtA 7 5, .dgram hPeerA.addr (.whoareyou 1000001 500 0)]
/-- … 5 ms later the same with B. -/
private def hTwo : List Ev :=
  hOne ++ [.rtAdv 5, .appRequest hCtB 8 5, .dgram hPeerB.addr (.whoareyou 1000003 501 0)]

example : (run hCfg hOne).sessions.map (fun e => (e.1, e.2.2)) = [(hPeerA, 0)] := by decide +kernel
/-- hypotheses of `insert_evicts_least_recently_used`: the cache is full and B is not held … -/
example : (run hCfg (hOne ++ [.rtAdv 5])).sessions.length = hCfg.sessionCap ∧
    ∀ e ∈ (run hCfg (hOne ++ [.rtAdv 5])).sessions, e.1 ≠ hPeerB := by decide +kernel
/-- … and B's session (stamp 5) has displaced A's. -/
example : (run hCfg hTwo).sessions.map (fun e => (e.1, e.2.2)) = [(hPeerB, 5)] := by decide +kernel

/-- Exactly `session_timeout` after the last use the session is still returned … -/
example : ((sessGetMut hCfg hPeerA).run (run hCfg (hOne ++ [.rtAdv 1000]), [])).1.isSome = true := by
  decide +kernel
/-- … one millisecond later the hypotheses of `expired_session_never_returned` hold … -/
example : ∃ e ∈ (run hCfg (hOne ++ [.rtAdv 1001])).sessions,
    e.1 = hPeerA ∧ e.2.2 + hCfg.sessionTtl < (run hCfg (hOne ++ [.rtAdv 1001])).rt := by decide +kernel
/-- … and a message from A is answered with a WHOAREYOU request only. -/
example : (step hCfg (run hCfg (hOne ++ [.rtAdv 1001])) (.dgram hPeerA.addr (.message 2 99 .garbage))).2 =
    [.wru hPeerA 99] := by decide +kernel

end Discv5.C15.Handler
