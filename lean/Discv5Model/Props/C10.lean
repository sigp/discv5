/-
C10 — Query results are sound, ordered and complete.

Property theorems only (helper lemmas: `Proofs/QueryLemmas.lean`; model: `Model/Query.lean`).
As in C09, every theorem holds for both variants (`closest` = `FindNodeQuery`, `predicate` =
`PredicateQuery`), every configuration, target and initial candidate list, and every history of
`next` / `on_success` / `on_failure` calls with arbitrary arguments.

"Answered" is what the code implements: a peer's `on_success` is accepted while the peer is
`Waiting` or `Unresponsive` (a late answer after the peer timeout still counts; in the predicate
variant even after an `on_failure` that arrived when the peer was already `Unresponsive`), i.e.
after the peer was handed out by `next`.
-/
import Discv5Model.Proofs.QueryLemmas

namespace Discv5.Query

/-- `result_sound`: every peer in the result was handed out by `next` at some point of the history
and `on_success` was called for it at a later point. -/
theorem result_sound (v : Variant) (cfg : Config) (target : Nat) (known : List (Nat × Bool))
    (evs : List Ev) (k : Nat) (hk : k ∈ intoResult (runQ (withConfig v cfg target known) evs)) :
    ∃ pre now mid closer post,
      evs = pre ++ .next now :: (mid ++ .success k closer :: post) ∧
      (next (runQ (withConfig v cfg target known) pre) now).2 = .waiting (some k) := by
  have h := linv_reach v cfg target known evs
  obtain ⟨e, he, hes, _, hek⟩ := mem_intoResult hk
  have hans : k ∈ (runL (Led.init v cfg target known) evs).answered := by
    rw [← hek]; exact h.ans e he hes
  rcases answered_spec _ evs k hans with h0 | ⟨pre1, closer, post1, he1, hem⟩
  · cases h0
  · rcases emitted_spec _ pre1 k hem with h0 | ⟨pre, now, post2, he2, hn⟩
    · cases h0
    · refine ⟨pre, now, post2, closer, post1, ?_, ?_⟩
      · rw [he1, he2]; simp
      · rw [runL_q] at hn; exact hn

/-- `result_sorted_distinct`: the result is strictly increasing in XOR distance to the target and
has at most `num_results` entries. -/
theorem result_sorted_distinct (v : Variant) (cfg : Config) (target : Nat) (known : List (Nat × Bool))
    (evs : List Ev) :
    (intoResult (runQ (withConfig v cfg target known) evs)).Pairwise
        (fun a b => a ^^^ target < b ^^^ target) ∧
    (intoResult (runQ (withConfig v cfg target known) evs)).length ≤ cfg.numResults := by
  have h := linv_reach v cfg target known evs
  have hc := runQ_init_const v cfg target known evs
  constructor
  · have := intoResult_sorted (q := runQ (withConfig v cfg target known) evs) h.sorted h.distOk
    rw [hc.2.2] at this
    exact this
  · rw [intoResult_length, hc.1]; exact Nat.min_le_left _ _

/-- Strictly increasing distances: in particular no node occurs twice in the result. -/
theorem result_nodup (v : Variant) (cfg : Config) (target : Nat) (known : List (Nat × Bool))
    (evs : List Ev) : (intoResult (runQ (withConfig v cfg target known) evs)).Nodup := by
  refine List.Pairwise.imp ?_ (result_sorted_distinct v cfg target known evs).1
  intro a b hab heq
  rw [heq] at hab
  exact Nat.lt_irrefl _ hab

/-- `result_predicate`: a predicate lookup returns only nodes that were reported to it with a
record satisfying the predicate — as one of the first `num_results` initial candidates with
`predicate_match = true`, or in the `closer_peers` of an `on_success` call with the predicate true
on the record.  (Which report's flag counts is decided by the map operations: the last of equal
ids in the initial list, after that the first report; this theorem states that some report with a true
flag exists.) -/
theorem result_predicate (cfg : Config) (target : Nat) (known : List (Nat × Bool))
    (evs : List Ev) (k : Nat)
    (hk : k ∈ intoResult (runQ (withConfig .predicate cfg target known) evs)) :
    (k, true) ∈ known.take cfg.numResults ∨
      ∃ pre p closer post, evs = pre ++ .success p closer :: post ∧ (k, true) ∈ closer := by
  have h := linv_reach .predicate cfg target known evs
  obtain ⟨e, he, _, hcnt, hek⟩ := mem_intoResult hk
  rw [(runQ_init_const .predicate cfg target known evs).2.1] at hcnt
  have hpm : e.pmatch = true := hcnt
  have := h.rep e he
  rw [hek, hpm] at this
  exact reported_spec _ evs _ this

/-- `complete_when_short`: in every state in which the query is finished (progress `Finished`,
which only `next` sets — see `complete_when_short_next`), if the result has fewer than
`num_results` entries then no candidate is `NotContacted`: every candidate the query learned of
was contacted. -/
theorem complete_when_short (v : Variant) (cfg : Config) (target : Nat) (known : List (Nat × Bool))
    (evs : List Ev)
    (hfin : (runQ (withConfig v cfg target known) evs).progress = .finished)
    (hshort : (intoResult (runQ (withConfig v cfg target known) evs)).length < cfg.numResults) :
    ∀ e ∈ (runQ (withConfig v cfg target known) evs).peers, e.state ≠ .notContacted := by
  rcases (linv_reach v cfg target known evs).fin hfin with h1 | h1
  · exact h1
  · exfalso
    dsimp only at h1
    rw [intoResult_length] at hshort
    rw [(runQ_init_const v cfg target known evs).1] at h1 hshort
    omega

/-- `complete_when_short`, as seen by the caller: if a `next` call returns `Finished` (this is not
the pool's timeout cut-off) and the result taken afterwards has fewer than `num_results` entries,
then no candidate is `NotContacted`. -/
theorem complete_when_short_next (v : Variant) (cfg : Config) (target : Nat) (known : List (Nat × Bool))
    (evs : List Ev) (now : Nat)
    (hfin : (next (runQ (withConfig v cfg target known) evs) now).2 = .finished)
    (hshort : (intoResult (next (runQ (withConfig v cfg target known) evs) now).1).length < cfg.numResults) :
    ∀ e ∈ (next (runQ (withConfig v cfg target known) evs) now).1.peers, e.state ≠ .notContacted := by
  have hrun : runQ (withConfig v cfg target known) (evs ++ [.next now])
      = (next (runQ (withConfig v cfg target known) evs) now).1 := by
    rw [runQ_append]; rfl
  have := complete_when_short v cfg target known (evs ++ [.next now])
    (by rw [hrun]; exact (next_finished _ _).mp hfin) (by rw [hrun]; exact hshort)
  rw [hrun] at this
  exact this

/-- Once a query is finished nothing changes any more: later events and polls leave the state (and
hence the result) as it is. -/
theorem finished_is_final (q : Q) (hfin : q.progress = .finished) (ev : Ev) : (stepQ q ev).1 = q := by
  have hf : q.progress.isFinished = true := by rw [hfin]; rfl
  cases ev with
  | next now => simp [stepQ, next, hf]
  | success p closer => simp [stepQ, onSuccess, hf]
  | failure p => simp [stepQ, onFailure, hf]

/-! ### non-vacuity: concrete histories -/

private def exCfg : Config := ⟨2, 3, 10⟩
private def exKnown : List (Nat × Bool) := [(5, true), (3, true), (9, false), (12, true)]
private def exEvs : List Ev :=
  [.next 0, .next 0, .next 0, .success 3 [(1, true), (5, true), (0, false)], .next 1, .failure 5, .next 2,
   .success 1 [], .next 20, .success 0 [(2, true)], .next 21, .next 40, .success 9 [], .next 41]

/-- A full result: the three closest answering peers, including the target itself (distance 0),
one of them (0) answered after its peer timeout had passed. -/
example : intoResult (runQ (withConfig .closest exCfg 0 exKnown) exEvs) = [0, 1, 3] := by decide
/-- The predicate variant drops peer 0 (reported with a non-matching record) and, still short of
`num_results`, goes on to contact every remaining candidate before it finishes. -/
example : intoResult (runQ (withConfig .predicate exCfg 0 exKnown) exEvs) = [1, 3] := by decide
example : (runQ (withConfig .predicate exCfg 0 exKnown) exEvs).progress = .finished := by decide
/-- A finished query with a short (empty) result: the hypotheses of `complete_when_short` hold. -/
example : (next (runQ (withConfig .closest ⟨1, 3, 10⟩ 0 [(5, true)]) [.next 0, .failure 5]) 1).2 = .finished ∧
    (intoResult (next (runQ (withConfig .closest ⟨1, 3, 10⟩ 0 [(5, true)]) [.next 0, .failure 5]) 1).1).length < 3 := by
  decide

end Discv5.Query
