/-
C17 at the level of the service — "External address is updated only by a clear majority … fewer
liars than the minimum can never move it; every such change increases the record's sequence number
… and is announced as an event."
Definitions, the simulation lemma and the invariants: `Proofs/ServiceVotes.lean`.

`Props/C17.lean` proves C17 for the IP-vote model (`IpVote.pongStep` on vote table + record);
`Model/Service.lean` models the whole service but takes the IP-vote sub-step of its PONG arm from
an `Oracle`.  Here the two are composed: `SvcVotes.oracleOf` is the oracle induced by an explicit
vote table, `SvcVotes.cstep` / `crun` run the service model under that oracle next to the table
(`CSt`), and the C17 theorems are transported to EVERY history of service inputs (sessions,
requests, responses of all kinds, failures, API calls, queries): first the simulation, then what a
single step from any state may do to the record, then the statements over all histories from
start-up (the voters behind a change, fewer liars than the minimum, the sequence number).

All theorems hold for every threshold function `thr` (the code's is `IpVote.thrF64`, see
`update_margin_seventy_percent`), every hash-map visiting order (`Env.Valid`), every minimum,
every clock reading unless stated otherwise, and every `Env` (connectivity verdict, `set_udp_socket`
result, derived fields of the re-signed record).

Differences between the two models that the composition bridges (none is a disagreement on
what the code does; see the header of `Proofs/ServiceVotes.lean`):
(1) `ip_votes.is_none()` is `votes.isNone` in one model and `!cfg.enrUpdate` in the other
    → hypothesis `CSt.Coupled` (true at start-up, preserved by every step: `coupled_along_history`);
(2) `require_more_ip_votes` prunes expired votes as a side effect: kept by the IP-vote model, a
    pure flag in the service model, and called a second time by `connection_updated` (failed
    insertion of an outgoing session) which only the service model has → the composed step prunes
    the table there too (`pruneAsk`), so "other steps leave the vote table unchanged" holds only up
    to dropping expired votes;
(3) the fields of the re-signed record the IP-vote model does not have (`size`, `sig`,
    `udp6Mapped`) are inputs (`Env`).
Not modelled by either model, hence outside these theorems: the API calls
`update_local_enr_socket` / `enr_insert`, which write the local record without a vote.  (The
connectivity timer, which removes a socket from the record - `remove_udp_socket` /
`remove_udp6_socket` - is modelled in `Model/Connectivity.lean` and composed with the service model
in `Props/C17Connectivity.lean`.)
-/
import Discv5Model.Proofs.ServiceVotes
import Discv5Model.Props.C17

namespace Discv5.Props.C17Service

open Discv5.Svc Discv5.Svc.Svc Discv5.SvcVotes
open Discv5.IpVote (Sock Pong pongStep countOf thrF64)

/-- What the induced oracle is: `countable` is the connectivity state's verdict, `requireMore` is
`require_more_ip_votes` evaluated on the vote table (family of the reported socket), and
`newLocal` is present exactly when `pongStep` (run with the vote counted) emits `SocketUpdated`. -/
theorem induced_oracle (thr : Nat → Nat) (votes : Votes) (localRec : Rec) (dual : Bool) (e : Env)
    (peer : Nat) (observed : Addr) :
    (oracleOf thr votes localRec dual e peer observed).countable = e.countable ∧
    (oracleOf thr votes localRec dual e peer observed).requireMore =
      (IpVote.requireMore { votes := votes, enr := absRec localRec, dual := dual } e.tClear observed.v6).2 ∧
    ((oracleOf thr votes localRec dual e peer observed).newLocal = none ↔
      (pongStep thr { votes := votes, enr := absRec localRec, dual := dual }
        (pongOf e peer observed true)).2 = []) := by
  refine ⟨rfl, rfl, ?_⟩
  show Option.map _ (List.head? _) = none ↔ _
  cases (pongStep thr { votes := votes, enr := absRec localRec, dual := dual }
      (pongOf e peer observed true)).2 <;> simp

/-- Simulation, PONG step.  One step of the service model on a PONG response that reaches
`handle_ip_vote_from_pong` (`votePong = some p`), under the oracle induced by the vote table,
is exactly `IpVote.pongStep` on (vote table, local record's sockets and sequence number, dual
flag): same resulting abstraction, the record is the old one with `set_udp_socket` applied as
`pongStep`'s events say, the `SocketUpdated` events are exactly `pongStep`'s, the configuration is
kept. -/
theorem pong_step_is_pongStep (thr : Nat → Nat) (c : CSt) (hc : c.Coupled) (e : Env) (inp : Input)
    (p : Pong Nat) (h : votePong c.svc e inp = some p) :
    (cstep thr c e inp).1.abs = (pongStep thr c.abs p).1 ∧
    (cstep thr c e inp).1.svc.localRec = recAfter c.svc.localRec e (pongStep thr c.abs p).2 ∧
    sockEvs (cstep thr c e inp).2 = (pongStep thr c.abs p).2.map evAddr ∧
    (cstep thr c e inp).1.svc.cfg = c.svc.cfg := by
  obtain ⟨h1, _⟩ := cstep_sim thr c hc e inp
  obtain ⟨h2, h3, h4⟩ := cstep_rec thr c hc e inp
  rw [h] at h1 h2 h3
  exact ⟨h1, h2, h3, h4⟩

/-- `votePong = some p` means: the input is a PONG response to an active PING of that peer and
address without user callback, and `p` carries the PONG's data, the environment's readings and
the direction flag the service reads off its routing table. -/
theorem votePong_is_pong_response (s : Svc) (e : Env) (inp : Input) (p : Pong Nat)
    (h : votePong s e inp = some p) :
    ∃ peer addr id enrSeq observed, inp = .response peer addr id (.pong enrSeq observed) ∧
      reachesVote s peer addr id = true ∧ p = pongOf e peer observed (connOutOf s peer) :=
  votePong_some h

/-- Simulation, every other step (sessions, requests, NODES / TALK responses, PONGs that do
not reach the vote, failures, API calls, queries): the whole local record and the configuration
are untouched, no `SocketUpdated` is emitted, and the vote table is unchanged — except in an
`established` step whose table insertion fails for an outgoing session, where
`require_more_ip_votes` prunes the expired votes (`pruneAsk`), exactly as `IpVote.requireMore`. -/
theorem other_steps_keep_record (thr : Nat → Nat) (c : CSt) (e : Env) (inp : Input)
    (h : votePong c.svc e inp = none) :
    (cstep thr c e inp).1.svc.localRec = c.svc.localRec ∧
    (cstep thr c e inp).1.svc.cfg = c.svc.cfg ∧
    sockEvs (cstep thr c e inp).2 = [] ∧
    (pruneAsk c.svc inp = none → (cstep thr c e inp).1.votes = c.votes) ∧
    (∀ b, pruneAsk c.svc inp = some b →
      (cstep thr c e inp).1.votes = (IpVote.requireMore c.abs e.tClear b).1.votes) := by
  have hf := step_fr c.svc (oracleFor thr c e inp) e inp h
  have hv : (cstep thr c e inp).1.votes = _ := votesAfter_eq thr c e inp
  rw [h] at hv
  refine ⟨hf.st.loc, hf.st.cfg, hf.outs, fun hp => ?_, fun b hp => ?_⟩ <;> rw [hv, hp] <;> rfl

/-- Outside the vote-reaching PONGs and the pruning `established` steps the service model does
not read its oracle at all (so nothing is hidden in the choice of oracle for those steps). -/
theorem oracle_unread_elsewhere (s : Svc) (e : Env) (inp : Input)
    (hv : votePong s e inp = none) (hp : pruneAsk s inp = none) (o o' : Oracle) :
    s.step o inp = s.step o' inp := by
  cases inp with
  | established r addr incoming =>
    show s.injectSessionEstablished o r addr incoming = s.injectSessionEstablished o' r addr incoming
    have hp' : estAsks s r incoming = false := by
      cases ha : estAsks s r incoming with
      | false => rfl
      | true => rw [pruneAsk_established, ha, if_pos rfl] at hp; cases hp
    unfold injectSessionEstablished
    dsimp only
    by_cases hc : (!contactable s.cfg.ipMode r) = true
    · rw [if_pos hc, if_pos hc]
    by_cases hf : (!r.passesFilter) = true
    · rw [if_neg hc, if_pos hf, if_neg hc, if_pos hf]
    rw [if_neg hc, if_neg hf, if_neg hc, if_neg hf]
    unfold estAsks at hp'
    rw [Bool.not_eq_true, Bool.not_eq_eq_eq_not, Bool.not_false] at hc hf
    rw [hc, hf, Bool.true_and, Bool.true_and] at hp'
    exact congrArg (fun x : Svc × List Out => (x.1, x.2 ++ [Out.event (.sessionEstablished r addr)]))
      (connectionUpdated_connected_unread s o o' r.id r (estDir s r incoming) hp')
  | response peer addr id body =>
    exact handleResponse_unread s o o' peer addr id body (votePong_none_response hv)
  | _ => rfl

/-- The coupling `ip_votes.is_some() ↔ config.enr_update` holds along every history. -/
theorem coupled_along_history (thr : Nat → Nat) (c : CSt) (hc : c.Coupled) (steps : List (Env × Input)) :
    (crun thr c steps).1.Coupled := by
  induction steps using snoc_induct with
  | nil => exact hc
  | snoc pre x ih =>
    obtain ⟨e, inp⟩ := x
    rw [crun_snoc]
    exact (cstep_sim thr _ ih e inp).2

/-! ## The record changes only in a counted PONG -/

/-- If a step changes anything in the local record, the step is a PONG response that reached
`handle_ip_vote_from_pong` and whose vote was eligible: admitted by the connectivity state, ENR
updates on, and the voter a connected outgoing table entry or `require_more_ip_votes` true for the
family of the reported socket. -/
theorem record_changes_only_by_counted_pong (thr : Nat → Nat) (c : CSt) (hc : c.Coupled) (e : Env)
    (inp : Input) (hne : (cstep thr c e inp).1.svc.localRec ≠ c.svc.localRec) :
    ∃ peer addr id enrSeq observed,
      inp = .response peer addr id (.pong enrSeq observed) ∧
      reachesVote c.svc peer addr id = true ∧ Eligible c e peer observed := by
  rcases cstep_shape thr c hc e inp with ⟨h1, _⟩ | ⟨p, f, a, hv, hm, _, _⟩
  · exact absurd h1 hne
  · obtain ⟨peer, addr, id, enrSeq, observed, rfl, hr, rfl⟩ := votePong_some hv
    exact ⟨peer, addr, id, enrSeq, observed, rfl, hr, counted_eligible hc e peer observed hm.counted⟩

/-- `update_needs_majority` at service level, one step from ANY (coupled) state.  If a step
changes the record's IPv4 (IPv6) UDP socket, the new value `a` is, at the clock reading of
`majority()`, a clear majority of the IPv4 (IPv6) vote table `v'` the step leaves: at least
`v'.minimum` entries for `a`, every rival strictly below `thr (count a)`, all entries of the table
unexpired; the step was a PONG reporting a socket of that family; the new record is the old one
with `set_udp_socket a` applied (the other family's socket is kept); `seq` grew by exactly one;
exactly the event `SocketUpdated(a)` was emitted. -/
theorem update_needs_majority (thr : Nat → Nat) (c : CSt) (hc : c.Coupled) (e : Env) (inp : Input) :
    ((cstep thr c e inp).1.svc.localRec.udp4 ≠ c.svc.localRec.udp4 →
      ∃ a v' peer addr id enrSeq observed,
        inp = .response peer addr id (.pong enrSeq observed) ∧ observed.v6 = false ∧
        (cstep thr c e inp).1.svc.localRec.udp4 = some a ∧ (cstep thr c e inp).1.votes = some v' ∧
        v'.minimum ≤ countOf e.tMaj v'.v4 a ∧
        (∀ b, b ≠ a → countOf e.tMaj v'.v4 b < thr (countOf e.tMaj v'.v4 a)) ∧
        (∀ en, en ∈ v'.v4 → e.tMaj < en.expiry) ∧
        (cstep thr c e inp).1.svc.localRec = setSocket c.svc.localRec e (.v4 a) ∧
        (cstep thr c e inp).1.svc.localRec.udp6 = c.svc.localRec.udp6 ∧
        (cstep thr c e inp).1.svc.localRec.seq = c.svc.localRec.seq + 1 ∧
        sockEvs (cstep thr c e inp).2 = [{ v6 := false, sock := a }]) ∧
    ((cstep thr c e inp).1.svc.localRec.udp6 ≠ c.svc.localRec.udp6 →
      ∃ a v' peer addr id enrSeq observed,
        inp = .response peer addr id (.pong enrSeq observed) ∧ observed.v6 = true ∧
        (cstep thr c e inp).1.svc.localRec.udp6 = some a ∧ (cstep thr c e inp).1.votes = some v' ∧
        v'.minimum ≤ countOf e.tMaj v'.v6 a ∧
        (∀ b, b ≠ a → countOf e.tMaj v'.v6 b < thr (countOf e.tMaj v'.v6 a)) ∧
        (∀ en, en ∈ v'.v6 → e.tMaj < en.expiry) ∧
        (cstep thr c e inp).1.svc.localRec = setSocket c.svc.localRec e (.v6 a) ∧
        (cstep thr c e inp).1.svc.localRec.udp4 = c.svc.localRec.udp4 ∧
        (cstep thr c e inp).1.svc.localRec.seq = c.svc.localRec.seq + 1 ∧
        sockEvs (cstep thr c e inp).2 = [{ v6 := true, sock := a }]) :=
  ⟨cstep_changed thr c hc e inp false, cstep_changed thr c hc e inp true⟩

/-- The margin of the code is 30 %: with the threshold the code computes (`thrF64`, the bit-exact
mirror of `((n as f64) * (1.0 - 0.3)).round()`), a step that moves the IPv4 (IPv6) socket to `a`
leaves every rival `b` with `10 · count b + 5 ≤ 7 · count a` (counts below 2^49). -/
theorem update_margin_seventy_percent (c : CSt) (hc : c.Coupled) (e : Env) (inp : Input) :
    ((cstep thrF64 c e inp).1.svc.localRec.udp4 ≠ c.svc.localRec.udp4 →
      ∃ a v', (cstep thrF64 c e inp).1.svc.localRec.udp4 = some a ∧
        (cstep thrF64 c e inp).1.votes = some v' ∧
        (countOf e.tMaj v'.v4 a < 2 ^ 49 →
          ∀ b, b ≠ a → 10 * countOf e.tMaj v'.v4 b + 5 ≤ 7 * countOf e.tMaj v'.v4 a)) ∧
    ((cstep thrF64 c e inp).1.svc.localRec.udp6 ≠ c.svc.localRec.udp6 →
      ∃ a v', (cstep thrF64 c e inp).1.svc.localRec.udp6 = some a ∧
        (cstep thrF64 c e inp).1.votes = some v' ∧
        (countOf e.tMaj v'.v6 a < 2 ^ 49 →
          ∀ b, b ≠ a → 10 * countOf e.tMaj v'.v6 b + 5 ≤ 7 * countOf e.tMaj v'.v6 a)) := by
  have key : ∀ (l : List (IpVote.Entry Nat)) (a : Nat),
      (∀ b, b ≠ a → countOf e.tMaj l b < thrF64 (countOf e.tMaj l a)) → countOf e.tMaj l a < 2 ^ 49 →
      ∀ b, b ≠ a → 10 * countOf e.tMaj l b + 5 ≤ 7 * countOf e.tMaj l a := by
    intro l a h4 hlt b hb
    have := h4 b hb
    have := (IpVote.threshold_is_seventy_percent _ hlt).2
    omega
  constructor
  · intro hne
    obtain ⟨a, v', _, _, _, _, _, _, _, h1, h2, _, h4, _⟩ := (update_needs_majority thrF64 c hc e inp).1 hne
    exact ⟨a, v', h1, h2, key _ a h4⟩
  · intro hne
    obtain ⟨a, v', _, _, _, _, _, _, _, h1, h2, _, h4, _⟩ := (update_needs_majority thrF64 c hc e inp).2 hne
    exact ⟨a, v', h1, h2, key _ a h4⟩

/-! ## Histories from start-up: the voters behind a change -/

/-- Every entry of the ledger of counted votes of a history (`ledgerOf`, newest first) is the vote
of a PONG response of that history — voter = the responding peer, socket = the one it reported —
which reached `handle_ip_vote_from_pong` and was eligible in the state it met. -/
theorem ledger_votes_are_eligible (thr : Nat → Nat) (c0 : CSt) (hc : c0.Coupled)
    (steps : List (Env × Input)) (cst : Cast Nat) (h : cst ∈ ledgerOf thr c0 steps) :
    ∃ pre e peer addr id enrSeq observed post,
      steps = pre ++ (e, Input.response peer addr id (.pong enrSeq observed)) :: post ∧
      cst.voter = peer ∧ cst.sock = sockOf observed ∧
      reachesVote (crun thr c0 pre).1.svc peer addr id = true ∧
      Eligible (crun thr c0 pre).1 e peer observed := by
  induction steps using snoc_induct with
  | nil => cases h
  | snoc pre0 x ih =>
    obtain ⟨e, inp⟩ := x
    rw [ledgerOf_snoc, List.mem_append] at h
    rcases h with h | h
    · obtain ⟨p, hv, hcast⟩ := Option.bind_eq_some_iff.1 (Option.mem_toList.1 h)
      obtain ⟨peer, addr, id, enrSeq, observed, rfl, hr, rfl⟩ := votePong_some hv
      obtain ⟨hcnt, h1, h2⟩ := castOf_some hcast
      exact ⟨pre0, e, peer, addr, id, enrSeq, observed, [], rfl, h1, h2, hr,
        counted_eligible (coupled_along_history thr c0 hc pre0) e peer observed hcnt⟩
    · obtain ⟨pre, e', peer, addr, id, enrSeq, observed, post, h1, rest⟩ := ih h
      exact ⟨pre, e', peer, addr, id, enrSeq, observed, post ++ [(e, inp)],
        by rw [h1, List.append_assoc]; rfl, rest⟩

/-- `update_needs_majority` over histories.  Start the service with an empty vote table of
configured minimum `minimum`, run ANY history `pre` of service inputs and then one more step.
If that step changes the record's IPv4 (IPv6) socket, the new socket `a` is the latest counted
(i.e. eligible, `ledger_votes_are_eligible`) IPv4 (IPv6) vote, unexpired at that moment, of at
least `minimum` DISTINCT voters: there is a duplicate-free list `voters` of length ≥ `minimum`
such that for each of them the newest ledger entry of that voter and family is a vote for `a` that
expires after the clock reading of `majority()`; and every rival's tally in the table is below
`thr` of their number. -/
theorem update_needs_latest_votes (thr : Nat → Nat) (minimum : Nat) (c0 : CSt) (hfresh : c0.Fresh minimum)
    (pre : List (Env × Input)) (e : Env) (inp : Input)
    (hvalid : ∀ x, x ∈ pre ++ [(e, inp)] → x.1.Valid) :
    ((cstep thr (crun thr c0 pre).1 e inp).1.svc.localRec.udp4 ≠ (crun thr c0 pre).1.svc.localRec.udp4 →
      ∃ a v', ∃ voters : List Nat, (cstep thr (crun thr c0 pre).1 e inp).1.svc.localRec.udp4 = some a ∧
        (cstep thr (crun thr c0 pre).1 e inp).1.votes = some v' ∧
        voters.Nodup ∧ minimum ≤ voters.length ∧
        (∀ x, x ∈ voters → VotesFor (ledgerOf thr c0 (pre ++ [(e, inp)])) false e.tMaj x (.v4 a)) ∧
        voters.length = countOf e.tMaj v'.v4 a ∧
        (∀ b, b ≠ a → countOf e.tMaj v'.v4 b < thr voters.length)) ∧
    ((cstep thr (crun thr c0 pre).1 e inp).1.svc.localRec.udp6 ≠ (crun thr c0 pre).1.svc.localRec.udp6 →
      ∃ a v', ∃ voters : List Nat, (cstep thr (crun thr c0 pre).1 e inp).1.svc.localRec.udp6 = some a ∧
        (cstep thr (crun thr c0 pre).1 e inp).1.votes = some v' ∧
        voters.Nodup ∧ minimum ≤ voters.length ∧
        (∀ x, x ∈ voters → VotesFor (ledgerOf thr c0 (pre ++ [(e, inp)])) true e.tMaj x (.v6 a)) ∧
        voters.length = countOf e.tMaj v'.v6 a ∧
        (∀ b, b ≠ a → countOf e.tMaj v'.v6 b < thr voters.length)) := by
  have hinv := crun_inv thr minimum pre [] [] c0 (fresh_inv hfresh)
    (fun x hx => hvalid x (List.mem_append.2 (Or.inl hx)))
  have he : e.Valid := hvalid (e, inp) (List.mem_append.2 (Or.inr (List.mem_singleton.2 rfl)))
  rw [List.append_nil] at hinv
  rw [ledgerOf_snoc]
  have key := cstep_changed_voters thr hinv e he inp
  exact ⟨fun hne => let ⟨a, v', h⟩ := key false hne; ⟨a, v', _, h⟩,
    fun hne => let ⟨a, v', h⟩ := key true hne; ⟨a, v', _, h⟩⟩

/-- `update_needs_majority`, exact form, for histories whose clock readings never go back
(`MonoFrom`; `Instant` is monotone).  In addition to `update_needs_latest_votes`: `voters` is
EXACTLY the set of peers whose latest counted vote of the family is `a` and unexpired, and the
margin holds against every rival in the same terms — any duplicate-free list of peers whose
latest counted vote of the family is `b ≠ a` and unexpired is shorter than `thr voters.length`. -/
theorem update_margin_exact (thr : Nat → Nat) (minimum : Nat) (c0 : CSt) (hfresh : c0.Fresh minimum)
    (pre : List (Env × Input)) (e : Env) (inp : Input)
    (hvalid : ∀ x, x ∈ pre ++ [(e, inp)] → x.1.Valid) (T0 : Nat)
    (hmono : MonoFrom T0 (pre ++ [(e, inp)])) :
    ((cstep thr (crun thr c0 pre).1 e inp).1.svc.localRec.udp4 ≠ (crun thr c0 pre).1.svc.localRec.udp4 →
      ∃ a, ∃ voters : List Nat, (cstep thr (crun thr c0 pre).1 e inp).1.svc.localRec.udp4 = some a ∧
        voters.Nodup ∧ minimum ≤ voters.length ∧
        (∀ x, x ∈ voters ↔ VotesFor (ledgerOf thr c0 (pre ++ [(e, inp)])) false e.tMaj x (.v4 a)) ∧
        (∀ b (ws : List Nat), b ≠ a → ws.Nodup →
          (∀ x, x ∈ ws → VotesFor (ledgerOf thr c0 (pre ++ [(e, inp)])) false e.tMaj x (.v4 b)) →
          ws.length < thr voters.length)) ∧
    ((cstep thr (crun thr c0 pre).1 e inp).1.svc.localRec.udp6 ≠ (crun thr c0 pre).1.svc.localRec.udp6 →
      ∃ a, ∃ voters : List Nat, (cstep thr (crun thr c0 pre).1 e inp).1.svc.localRec.udp6 = some a ∧
        voters.Nodup ∧ minimum ≤ voters.length ∧
        (∀ x, x ∈ voters ↔ VotesFor (ledgerOf thr c0 (pre ++ [(e, inp)])) true e.tMaj x (.v6 a)) ∧
        (∀ b (ws : List Nat), b ≠ a → ws.Nodup →
          (∀ x, x ∈ ws → VotesFor (ledgerOf thr c0 (pre ++ [(e, inp)])) true e.tMaj x (.v6 b)) →
          ws.length < thr voters.length)) := by
  have hvpre : ∀ x, x ∈ pre → x.1.Valid := fun x hx => hvalid x (List.mem_append.2 (Or.inl hx))
  have hinv := crun_inv thr minimum pre [] [] c0 (fresh_inv hfresh) hvpre
  have he : e.Valid := hvalid (e, inp) (List.mem_append.2 (Or.inr (List.mem_singleton.2 rfl)))
  obtain ⟨hm1, m1, m2, m3, _⟩ := monoFrom_append hmono
  have hcomp := crun_comp thr pre T0 [] c0 hfresh.1 (comp_nil c0 T0) hvpre hm1
  rw [List.append_nil] at hinv hcomp
  rw [ledgerOf_snoc]
  have key := cstep_changed_exact thr hinv hcomp e he m1 m2 m3 inp
  exact ⟨fun hne => let ⟨a, _, h⟩ := key false hne; ⟨a, _, h⟩,
    fun hne => let ⟨a, _, h⟩ := key true hne; ⟨a, _, h⟩⟩

/-! ## Fewer liars than the minimum -/

/-- `few_liars` at service level.  Start the service with an empty vote table of configured
minimum `minimum` and run ANY history of service inputs (any environment, clocks, visiting orders,
`thr`).  If all the peers whose PONGs for the IPv4 (IPv6) socket `a` reached the vote path fit in
a list `liars` shorter than `minimum`, then the record's IPv4 (IPv6) socket is `a` after the
history only if it was `a` before: fewer liars than the minimum never move the record to their
address (the statement applies to every prefix of the history). -/
theorem few_liars (thr : Nat → Nat) (minimum : Nat) (c0 : CSt) (hfresh : c0.Fresh minimum)
    (steps : List (Env × Input)) (hvalid : ∀ x, x ∈ steps → x.1.Valid) (a : Nat) (liars : List Nat)
    (hfew : liars.length < minimum) :
    ((∀ q, q ∈ pongsOf thr c0 steps → q.sock = Sock.v4 a → q.voter ∈ liars) →
      (crun thr c0 steps).1.svc.localRec.udp4 = some a → c0.svc.localRec.udp4 = some a) ∧
    ((∀ q, q ∈ pongsOf thr c0 steps → q.sock = Sock.v6 a → q.voter ∈ liars) →
      (crun thr c0 steps).1.svc.localRec.udp6 = some a → c0.svc.localRec.udp6 = some a) := by
  have key := fun f => crun_few_liars thr minimum f a liars hfew steps [] [] c0 (fresh_inv hfresh) hvalid
  exact ⟨key false, key true⟩

/-- `few_liars` in terms of the raw inputs: if every PONG response of the history that reports
the socket `a` comes from a peer in `liars`, and `liars` is shorter than `minimum`, the history
does not move the record to `a`. -/
theorem few_liars_inputs (thr : Nat → Nat) (minimum : Nat) (c0 : CSt) (hfresh : c0.Fresh minimum)
    (steps : List (Env × Input)) (hvalid : ∀ x, x ∈ steps → x.1.Valid) (a : Addr) (liars : List Nat)
    (hfew : liars.length < minimum)
    (hl : ∀ e peer addr id enrSeq,
      (e, Input.response peer addr id (.pong enrSeq a)) ∈ steps → peer ∈ liars) :
    (a.v6 = false → (crun thr c0 steps).1.svc.localRec.udp4 = some a.sock →
      c0.svc.localRec.udp4 = some a.sock) ∧
    (a.v6 = true → (crun thr c0 steps).1.svc.localRec.udp6 = some a.sock →
      c0.svc.localRec.udp6 = some a.sock) := by
  have key : ∀ q, q ∈ pongsOf thr c0 steps → q.sock = sockOf a → q.voter ∈ liars := by
    intro q hq hs
    obtain ⟨e, peer, addr, id, enrSeq, observed, hm, h1, h2⟩ := pongsOf_mem thr steps c0 q hq
    have : observed = a := by
      have := congrArg addrOf (h2.symm.trans hs)
      rwa [addrOf_sockOf, addrOf_sockOf] at this
    subst this
    rw [h1]; exact hl e peer addr id enrSeq hm
  have fam : ∀ f, a.v6 = f → udpOf (crun thr c0 steps).1.svc.localRec f = some a.sock →
      udpOf c0.svc.localRec f = some a.sock := fun f hv =>
    crun_few_liars thr minimum f a.sock liars hfew steps [] [] c0 (fresh_inv hfresh) hvalid
      fun q hq h => key q hq (by rw [sockOf_eq, hv]; exact h)
  exact ⟨fam false, fam true⟩

/-! ## Sequence number and event -/

/-- `seq_increases` at service level.  Every step either leaves the whole local record untouched
and emits no `SocketUpdated`, or changes exactly one UDP socket to a new value, increases the
record's sequence number by exactly one and emits exactly one `SocketUpdated` event, carrying the
new socket. -/
theorem seq_increases (thr : Nat → Nat) (c : CSt) (hc : c.Coupled) (e : Env) (inp : Input) :
    ((cstep thr c e inp).1.svc.localRec = c.svc.localRec ∧ sockEvs (cstep thr c e inp).2 = []) ∨
    (c.svc.localRec.seq < (cstep thr c e inp).1.svc.localRec.seq ∧
      (cstep thr c e inp).1.svc.localRec.seq = c.svc.localRec.seq + 1 ∧
      ((∃ a, sockEvs (cstep thr c e inp).2 = [{ v6 := false, sock := a }] ∧
          (cstep thr c e inp).1.svc.localRec.udp4 = some a ∧ c.svc.localRec.udp4 ≠ some a ∧
          (cstep thr c e inp).1.svc.localRec.udp6 = c.svc.localRec.udp6) ∨
       (∃ a, sockEvs (cstep thr c e inp).2 = [{ v6 := true, sock := a }] ∧
          (cstep thr c e inp).1.svc.localRec.udp6 = some a ∧ c.svc.localRec.udp6 ≠ some a ∧
          (cstep thr c e inp).1.svc.localRec.udp4 = c.svc.localRec.udp4))) := by
  rcases cstep_shape thr c hc e inp with h | ⟨p, f, a, _, hm, hloc, hev⟩
  · exact Or.inl h
  · refine Or.inr ⟨by rw [hloc, setSocket_seq]; exact Nat.lt_succ_self _, by rw [hloc, setSocket_seq], ?_⟩
    have hold : udpOf c.svc.localRec f ≠ some a := fun h => hm.old ((absRec_ip _ f).trans h)
    have hnew : udpOf (cstep thr c e inp).1.svc.localRec f = some a := by
      rw [hloc, setSocket_udp, if_pos rfl]
    have hoth : udpOf (cstep thr c e inp).1.svc.localRec (!f) = udpOf c.svc.localRec (!f) := by
      rw [hloc, setSocket_udp, if_neg (by cases f <;> decide)]
    cases f
    · exact Or.inl ⟨a, hev, hnew, hold, hoth⟩
    · exact Or.inr ⟨a, hev, hnew, hold, hoth⟩

/-- Along every history of service inputs the record's sequence number has grown by exactly the
number of `SocketUpdated` events emitted: every change is announced and increments the sequence
number, and nothing else in the service model does. -/
theorem seq_counts_events (thr : Nat → Nat) (c : CSt) (hc : c.Coupled) (steps : List (Env × Input)) :
    (crun thr c steps).1.svc.localRec.seq =
      c.svc.localRec.seq + (sockEvs (crun thr c steps).2).length := by
  induction steps using snoc_induct with
  | nil => rfl
  | snoc pre x ih =>
    obtain ⟨e, inp⟩ := x
    rw [crun_snoc, sockEvs_append, List.length_append, ← Nat.add_assoc, ← ih]
    rcases cstep_shape thr _ (coupled_along_history thr c hc pre) e inp with
      ⟨h1, h2⟩ | ⟨p, f, a, _, _, h1, h2⟩
    · rw [h1, h2]; rfl
    · rw [h1, h2, setSocket_seq]; rfl

/-! ## Non-vacuity

Local node 0; peers `i` with record `exPeer i` reachable at `exPeerAddr i`; vote table with minimum
2 and a vote life of 100 ticks; the hash maps are visited in reverse order; `thr = thrF64`. -/

def exCfg (m : IpMode) : Svc.Cfg := { ipMode := m, maxNodesResponse := 16, enrUpdate := true, kb := kbCfg 8 60 }

def exLocal : Rec :=
  { id := 0, seq := 1, udp4 := none, udp6 := none, udp6Mapped := false, size := 100, passesFilter := true }

def exPeer (i : Nat) : Rec :=
  { id := i, seq := 1, udp4 := some (i * 65536 + 9000), udp6 := none, udp6Mapped := false, size := 120,
    passesFilter := true }

def exPeerAddr (i : Nat) : Addr := { v6 := false, sock := i * 65536 + 9000 }

/-- start-up: empty routing table, empty vote table with minimum 2, votes valid for 100 ticks -/
def ex0 (m : IpMode) : CSt := { svc := Svc.init (exCfg m) exLocal, votes := IpVote.IpVote.new? 2 100 }

def exEnv (t : Nat) : Env :=
  { tClear := t, tIns := t, tMaj := t, sh4 := List.reverse, sh6 := id, newSize := 110, newSig := t }

def extA : Addr := { v6 := false, sock := 7 * 65536 + 30303 }
def extB : Addr := { v6 := false, sock := 8 * 65536 + 30303 }

def exSessions (incoming : Bool) : List (Env × Input) :=
  [(exEnv 0, .established (exPeer 1) (exPeerAddr 1) incoming),
   (exEnv 0, .established (exPeer 2) (exPeerAddr 2) incoming),
   (exEnv 0, .established (exPeer 3) (exPeerAddr 3) incoming)]

def exPongs (a1 a2 a3 : Addr) : List (Env × Input) :=
  [(exEnv 1, .response 1 (exPeerAddr 1) 1 (.pong 1 a1)),
   (exEnv 2, .response 2 (exPeerAddr 2) 2 (.pong 1 a2)),
   (exEnv 3, .response 3 (exPeerAddr 3) 3 (.pong 1 a3))]

def exAgree : List (Env × Input) := exSessions false ++ exPongs extA extA extA

/-- The start-up state satisfies the hypothesis `Fresh 2` of the history theorems. -/
theorem ex0_fresh (m : IpMode) : (ex0 m).Fresh 2 := by
  refine ⟨rfl, ?_⟩
  intro v hv
  have : (IpVote.IpVote.new? 2 100 : Option (IpVote.IpVote Nat)) = some v := hv
  simp only [IpVote.IpVote.new?] at this
  cases this
  exact ⟨rfl, rfl, rfl⟩

/-- `List.reverse` and `id` are visiting orders. -/
theorem exEnv_valid (t : Nat) : (exEnv t).Valid :=
  ⟨fun l => List.reverse_perm l, fun l => List.Perm.refl l⟩

/-- Three outgoing sessions (each PINGed on insertion, requests 1, 2, 3), then the three PONGs, all
reporting `extA`: the record is untouched by the sessions; after the PONGs its IPv4 socket is
`extA`, `seq` went 1 → 2 (re-signed record: size 110, digest of the second PONG's step), exactly
one `SocketUpdated(extA)` was emitted; all three PONGs reached the vote as connected-outgoing
voters and are in the ledger with their expiries. -/
example : (crun thrF64 (ex0 .ip4) (exSessions false)).1.svc.localRec = exLocal ∧
    (crun thrF64 (ex0 .ip4) exAgree).1.svc.localRec =
      { exLocal with udp4 := some extA.sock, seq := 2, size := 110, sig := 2 } ∧
    sockEvs (crun thrF64 (ex0 .ip4) exAgree).2 = [extA] ∧
    (pongsOf thrF64 (ex0 .ip4) exAgree).map (fun q => (q.voter, q.connOut)) = [(1, true), (2, true), (3, true)] ∧
    (ledgerOf thrF64 (ex0 .ip4) exAgree).map (fun c => (c.voter, addrOf c.sock, c.expiry)) =
      [(3, extA, 103), (2, extA, 102), (1, extA, 101)] := by
  decide +kernel

/-- `exAgree` satisfies the remaining hypotheses of the history theorems: monotone clocks, valid
visiting orders. -/
example : MonoFrom 0 exAgree := by
  simp [exAgree, exSessions, exPongs, MonoFrom, exEnv]
example : ∀ x, x ∈ exAgree → x.1.Valid := by
  intro x hx
  simp only [exAgree, exSessions, exPongs, List.cons_append, List.nil_append, List.mem_cons, List.not_mem_nil, or_false] at hx
  rcases hx with rfl | rfl | rfl | rfl | rfl | rfl <;> exact exEnv_valid _

/-- The same sessions, then two PONGs that disagree (`extA` from peer 1, `extB` from peer 2). -/
def exDisagree : List (Env × Input) := exSessions false ++ (exPongs extA extB extA).take 2

/-- Two voters that disagree change nothing: both votes are counted (ledger), neither address
reaches the minimum, the record and its sequence number stay, no event. -/
example : (crun thrF64 (ex0 .ip4) exDisagree).1.svc.localRec = exLocal ∧
    sockEvs (crun thrF64 (ex0 .ip4) exDisagree).2 = [] ∧
    (ledgerOf thrF64 (ex0 .ip4) exDisagree).map (fun c => (c.voter, addrOf c.sock, c.expiry)) =
      [(2, extB, 102), (1, extA, 101)] := by
  decide +kernel

/-- The step at which the record changes in `exAgree` is its fifth (the second PONG): the
hypothesis of `update_needs_majority` / `update_needs_latest_votes` / `update_margin_exact` holds
there. -/
example :
    (cstep thrF64 (crun thrF64 (ex0 .ip4) (exAgree.take 4)).1 (exEnv 2)
        (.response 2 (exPeerAddr 2) 2 (.pong 1 extA))).1.svc.localRec.udp4 ≠
      (crun thrF64 (ex0 .ip4) (exAgree.take 4)).1.svc.localRec.udp4 := by
  decide +kernel

example : exAgree.take 4 ++ [(exEnv 2, .response 2 (exPeerAddr 2) 2 (.pong 1 extA))] = exAgree.take 5 := rfl

/-- Sixteen outgoing sessions with peers 32 … 47 fill bucket 5 of the local node 0; the outgoing
sessions with peers 48 and 49 are then refused by the routing table. -/
def exFull : List (Env × Input) :=
  (List.range 18).map fun i => (exEnv 0, Input.established (exPeer (32 + i)) (exPeerAddr (32 + i)) false)

def exFullPongs : List (Env × Input) :=
  [(exEnv 1, .response 48 (exPeerAddr 48) 17 (.pong 1 extA)),
   (exEnv 2, .response 49 (exPeerAddr 49) 18 (.pong 1 extA))]

/-- Eligibility through `require_more_ip_votes` (dual-stack mode), both call sites.  The refused
outgoing sessions reach the call in `connection_updated` (`pruneAsk`), the induced oracle says
"more votes needed" (the table is below the minimum), so the peers are PINGed although they are
not in the table (requests 17, 18); their PONGs are counted although the voters are not connected
outgoing table entries (`connOut = false`), again through the induced `requireMore`; the second
one moves the record.  In IPv4-only mode the same inputs leave the record alone. -/
example :
    pruneAsk (crun thrF64 (ex0 .dual) (exFull.take 16)).1.svc
        (.established (exPeer 48) (exPeerAddr 48) false) = some false ∧
    pruneAsk (ex0 .dual).svc (.established (exPeer 32) (exPeerAddr 32) false) = none ∧
    (pongsOf thrF64 (ex0 .dual) (exFull ++ exFullPongs)).map (fun q => (q.voter, q.connOut)) =
      [(48, false), (49, false)] ∧
    (ledgerOf thrF64 (ex0 .dual) (exFull ++ exFullPongs)).map (fun c => (c.voter, addrOf c.sock, c.expiry)) =
      [(49, extA, 102), (48, extA, 101)] ∧
    (crun thrF64 (ex0 .dual) (exFull ++ exFullPongs)).1.svc.localRec.udp4 = some extA.sock ∧
    (crun thrF64 (ex0 .dual) (exFull ++ exFullPongs)).1.svc.localRec.seq = 2 ∧
    sockEvs (crun thrF64 (ex0 .dual) (exFull ++ exFullPongs)).2 = [extA] ∧
    (crun thrF64 (ex0 .ip4) (exFull ++ exFullPongs)).1.svc.localRec = exLocal ∧
    pongsOf thrF64 (ex0 .ip4) (exFull ++ exFullPongs) = [] := by
  decide +kernel

/-- A state with a full bucket and one old vote (peer 5, expiry 10) in the table. -/
def exOld : CSt :=
  { svc := (crun thrF64 (ex0 .dual) (exFull.take 16)).1.svc,
    votes := some { v4 := [⟨5, 77, 10⟩], v6 := [], minimum := 2, duration := 100 } }

/-- The side effect of (2) in the file header, which the composed step keeps: a refused outgoing session prunes the expired
votes (the vote of peer 5 is dropped by the step read at clock 50 and kept by the same step read
at clock 5) — a non-PONG step that changes the vote table. -/
example :
    exOld.Coupled ∧
    (cstep thrF64 exOld (exEnv 50) (.established (exPeer 48) (exPeerAddr 48) false)).1.votes.map
        (fun v => v.v4.map (·.voter)) = some [] ∧
    (cstep thrF64 exOld (exEnv 5) (.established (exPeer 48) (exPeerAddr 48) false)).1.votes.map
        (fun v => v.v4.map (·.voter)) = some [5] := by
  refine ⟨?_, ?_⟩
  · unfold CSt.Coupled; decide +kernel
  · decide +kernel

end Discv5.Props.C17Service
