/-
The `discovered` loop of `Model/Service.lean` at every intermediate point (C12): the loop composes
over `pre ++ post`, never makes a key a table entry, changes a value only to a newer admissible
record of the processed list, and an `update_node` that did not fail leaves the new value under the
key.
-/
import Discv5Model.Model.Service
import Discv5Model.Proofs.ServicePolicy
import Discv5Model.Proofs.ServiceNodes

namespace Discv5.KB

variable {V : Type} [DecidableEq V]
set_option linter.unusedSectionVars false

/-! ### An `update_value` / `update_node` that did not fail leaves the new value under the key -/

/-- In a list without duplicate keys, a node with the key of the node at `pos` is that node. -/
theorem mem_key_eq {nodes : List (Node V)} {pos : Nat} {node n : Node V}
    (hnd : (nodes.map (·.key)).Nodup) (h : nodes[pos]? = some node) (hn : n ∈ nodes)
    (e : n.key = node.key) : n = node := by
  rcases List.mem_cons.1 ((removeAt_perm h).mem_iff.1 hn) with rfl | hn'
  · rfl
  · exact absurd (List.mem_map.2 ⟨n, hn', e⟩) (key_not_mem_removeAt hnd h)

theorem updateValue_stores {c : Cfg V} {tick : Nat} {b : Bucket V} {key : Nat} {value : V}
    (hb : BInv c tick b) (hnf : (b.updateValue c key value).2.isFailed = false) :
    BVals (fun k w => k = key → w = value) (b.updateValue c key value).1 := by
  revert hnf
  unfold Bucket.updateValue
  cases hpos : b.position key with
  | some pos =>
    obtain ⟨node, hnode, hk⟩ := Bucket.position_some hpos
    have hmem : node ∈ b.nodes := List.mem_of_getElem? hnode
    have hpend : ∀ p, b.pending = some p → p.node.key ≠ key := by
      intro p hp e
      exact hb.pendingFresh p hp (List.mem_map.2 ⟨node, hmem, hk.trans e.symm⟩)
    simp only [hnode]
    by_cases hv : node.value = value
    · rw [if_pos hv]
      intro _
      refine ⟨fun n hn e => ?_, fun p hp e => absurd e (hpend p hp)⟩
      rw [mem_key_eq hb.keysNodup hnode hn (e.trans hk.symm)]
      exact hv
    · rw [if_neg hv]
      by_cases hf : (!c.bucketFilter value ((removeAt b.nodes pos).map (·.value))) = true
      · rw [if_pos hf]
        intro hnf
        cases hnf
      · rw [if_neg hf]
        intro _
        refine ⟨fun n hn e => ?_, fun p hp e => absurd e (hpend p hp)⟩
        rcases List.mem_cons.1 ((insertAt_perm _ _ _).mem_iff.1 hn) with rfl | hn'
        · rfl
        · exact absurd (List.mem_map.2 ⟨n, hn', e.trans hk.symm⟩)
            (key_not_mem_removeAt hb.keysNodup hnode)
  | none =>
    have hnone : ∀ n ∈ b.nodes, n.key ≠ key := by
      intro n hn e
      exact (position_none_iff.1 hpos) (List.mem_map.2 ⟨n, hn, e⟩)
    cases hp : b.pending with
    | none =>
      simp only
      intro hnf
      cases hnf
    | some p =>
      simp only
      by_cases hkp : (p.node.key == key) = true
      · rw [if_pos hkp]
        intro _
        refine ⟨fun n hn e => absurd e (hnone n hn), fun p' hp' _ => ?_⟩
        cases hp'
        rfl
      · rw [if_neg hkp]
        intro hnf
        cases hnf

theorem updateNode_stores {c : Cfg V} {now : Nat} {t : Table V} {key : Nat} {value : V}
    (h : TInv c t) (hnf : (t.updateNode c now key value none).2.isFailed = false)
    {w : V} (hp : HasPair (t.updateNode c now key value none).1 key w) : w = value := by
  have ht' : TInv c (t.updateNode c now key value none).1 := step_tinv c t (.updateNode now key value none) h
  obtain ⟨j, hj, hj256, hpair⟩ := Svc.hasPair_bucket ht' hp
  have hj' : bucketIndex t.bump.localKey key = some j :=
    step_localKey c t (.updateNode now key value none) ▸ hj
  have h1 : TInv c (Table.applyAt c now t.bump j) := applyAt_inv c now t.bump j h.bump
  have hlen : j < (Table.applyAt c now t.bump j).buckets.length := by rw [h1.nBuckets]; exact hj256
  revert hnf hpair
  unfold Table.updateNode
  simp only [hj']
  by_cases hpass : (!Table.passesTableFilter c t.bump key value) = true
  · rw [if_pos hpass]
    intro hnf
    cases hnf
  · rw [if_neg hpass]
    by_cases hf : (Bucket.updateValue c ((Table.applyAt c now t.bump j).bucket j) key value).snd.isFailed = true
    · rw [if_pos hf]
      intro hnf
      rw [hf] at hnf
      cases hnf
    · rw [if_neg hf]
      intro _ hpair
      rw [Table.bucket_setBucket_eq _ _ _ hlen] at hpair
      have hbv := updateValue_stores (key := key) (value := value) (h1.binv j)
        (by simpa using hf)
      rcases hpair with ⟨n, hn, hk, hv⟩ | ⟨p, hp, hk, hv⟩
      · rw [← hv]; exact hbv.1 n hn hk
      · rw [← hv]; exact hbv.2 p hp hk

end Discv5.KB

namespace Discv5.Svc
open Discv5.KB
open Svc

/-! ### Composition of the loop -/

theorem discoveredLoop_fst_indep (source : Nat) :
    ∀ (recs : List Rec) (s : Svc) (kept kept' : List Rec) (outs outs' : List Out),
      (discoveredLoop s source recs kept outs).1 = (discoveredLoop s source recs kept' outs').1
  | [], _, _, _, _, _ => rfl
  | r :: rs, s, kept, kept', outs, outs' => by
    rw [discoveredLoop_cons, discoveredLoop_cons]
    exact discoveredLoop_fst_indep source rs _ _ _ _ _

theorem discoveredLoop_append (source : Nat) (post : List Rec) :
    ∀ (pre : List Rec) (s : Svc) (kept : List Rec) (outs : List Out),
      discoveredLoop s source (pre ++ post) kept outs =
        discoveredLoop (discoveredLoop s source pre kept outs).1 source post
          (discoveredLoop s source pre kept outs).2.1 (discoveredLoop s source pre kept outs).2.2
  | [], _, _, _ => rfl
  | r :: rs, s, kept, outs => by
    rw [List.cons_append, discoveredLoop_cons, discoveredLoop_cons]
    exact discoveredLoop_append source post rs _ _ _

/-- State component of `discoveredLoop_append`, for arbitrary accumulators of the second run. -/
theorem discoveredLoop_append_fst (source : Nat) (pre post : List Rec) (s : Svc)
    (kept kept1 : List Rec) (outs outs1 : List Out) :
    (discoveredLoop s source (pre ++ post) kept outs).1 =
      (discoveredLoop (discoveredLoop s source pre kept outs).1 source post kept1 outs1).1 := by
  rw [discoveredLoop_append]
  exact discoveredLoop_fst_indep source post _ _ _ _ _

theorem discovered_table (s : Svc) (source : Nat) (recs : List Rec) (query : Option Nat) :
    (s.discovered source recs query).1.table = (discoveredLoop s source recs [] []).1.table := by
  unfold discovered
  generalize discoveredLoop s source recs [] [] = x
  obtain ⟨s1, kept, outs⟩ := x
  simp only []
  repeat' split
  all_goals rfl

/-! ### What the loop keeps -/

/-- `Step PTrue` is what a function keeps apart from the table values.  The `discovered` loop
consults no oracle, so the lemmas below take the empty one. -/
def PTrue : Nat → Rec → Prop := fun _ _ => True

theorem discoveredOne_stepTrue (s : Svc) (source : Nat) (r : Rec) :
    Step PTrue ({} : Oracle) s (s.discoveredOne source r).1 :=
  discoveredOne_step s source r (fun _ _ _ _ _ => trivial)

theorem discoveredLoop_stepTrue (s : Svc) (source : Nat) (recs kept : List Rec) (outs : List Out) :
    Step PTrue ({} : Oracle) s (discoveredLoop s source recs kept outs).1 :=
  discoveredLoop_step s.cfg.ipMode (fun _ _ _ _ _ _ _ _ => trivial) source recs s kept outs rfl

theorem osane_empty (id : Nat) : OSane id ({} : Oracle) := fun _ _ h => by cases h

theorem discoveredOne_cfg (s : Svc) (source : Nat) (r : Rec) :
    (s.discoveredOne source r).1.cfg = s.cfg := (discoveredOne_stepTrue s source r).cfg

theorem discoveredOne_localId (s : Svc) (source : Nat) (r : Rec) :
    (s.discoveredOne source r).1.localRec.id = s.localRec.id :=
  (discoveredOne_stepTrue s source r).localId (osane_empty _)

/-! ### No key is added -/

/-- A `Step` for the predicate "the key was in the table" adds no key. -/
theorem no_new_of_step {o : Oracle} {s s' : Svc}
    (hs : Step (fun k' _ => k' ∈ s.table.allKeys) o s s') (ht : TInv s.cfg.kb s.table)
    {k : Nat} {v' : Rec} (h : lookupVal s'.table k = some v') : ∃ v, lookupVal s.table k = some v := by
  have h0 : TVals (fun k' (_ : Rec) => k' ∈ s.table.allKeys) s.table :=
    (tvals_hasPair s.table).mono (fun k' v h => hasPair_key_mem h)
  have hk : k ∈ s.table.allKeys := (hs.vals h0).of_hasPair (lookupVal_hasPair h)
  obtain ⟨v, hv⟩ := mem_allKeys_hasPair hk
  exact ⟨v, hasPair_lookupVal ht hv⟩

theorem discoveredOne_no_new (s : Svc) (source : Nat) (r : Rec) (ht : TInv s.cfg.kb s.table)
    {k : Nat} {v' : Rec} (h : lookupVal (s.discoveredOne source r).1.table k = some v') :
    ∃ v, lookupVal s.table k = some v :=
  no_new_of_step (o := {}) (discoveredOne_step s source r (fun _ h _ _ _ => h)) ht h

theorem discoveredLoop_no_new (s : Svc) (source : Nat) (recs kept : List Rec) (outs : List Out)
    (ht : TInv s.cfg.kb s.table) {k : Nat} {v' : Rec}
    (h : lookupVal (discoveredLoop s source recs kept outs).1.table k = some v') :
    ∃ v, lookupVal s.table k = some v :=
  no_new_of_step (o := {})
    (discoveredLoop_step s.cfg.ipMode (fun _ _ _ h _ _ _ _ => h) source recs s kept outs rfl) ht h

/-! ### The update rule along the loop -/

theorem discoveredLoop_update (source : Nat) (k : Nat) :
    ∀ (recs : List Rec) (s : Svc) (kept : List Rec) (outs : List Out), TInv s.cfg.kb s.table →
      ∀ (v v' : Rec), lookupVal s.table k = some v →
        lookupVal (discoveredLoop s source recs kept outs).1.table k = some v' →
        v' = v ∨ (v' ∈ recs ∧ v'.id = k ∧ v.seq < v'.seq ∧ contactable s.cfg.ipMode v' = true ∧
          v'.passesFilter = true) := by
  intro recs
  induction recs with
  | nil =>
    intro s kept outs _ v v' h1 h2
    unfold discoveredLoop at h2
    rw [h1] at h2
    cases h2
    exact Or.inl rfl
  | cons r rs ih =>
    intro s kept outs ht v v' h1 h2
    rw [discoveredLoop_cons] at h2
    have ht' : TInv (s.discoveredOne source r).1.cfg.kb (s.discoveredOne source r).1.table := by
      rw [discoveredOne_cfg]; exact (discoveredOne_stepTrue s source r).tinv ht
    obtain ⟨w, hw⟩ := discoveredLoop_no_new _ source rs _ _ ht' h2
    have hc := discoveredOne_cfg s source r
    rcases ih _ _ _ ht' w v' hw h2 with rfl | ⟨hm, hid, hlt, hcon, hf⟩
    · rcases discoveredOne_update s source r ht k v v' h1 hw with rfl | ⟨rfl, hid, hlt, hcon, hf⟩
      · exact Or.inl rfl
      · exact Or.inr ⟨List.mem_cons_self .., hid, hlt, hcon, hf⟩
    · rw [hc] at hcon
      refine Or.inr ⟨List.mem_cons_of_mem _ hm, hid, ?_, hcon, hf⟩
      rcases discoveredOne_update s source r ht k v w h1 hw with rfl | ⟨rfl, _, hlt0, _, _⟩
      · exact hlt
      · exact Nat.lt_trans hlt0 hlt

/-! ### An accepted record whose table update does not fail is stored -/

theorem lookupVal_ne_local {c : KB.Cfg Rec} {t : Table Rec} (ht : TInv c t) {k : Nat} {v : Rec}
    (h : lookupVal t k = some v) : k ≠ t.localKey := by
  obtain ⟨i, hi, _⟩ := hasPair_bucket ht (lookupVal_hasPair h)
  intro e
  rw [e, bucketIndex_self] at hi
  cases hi

theorem discoveredOne_stores (s : Svc) (source : Nat) (r : Rec) (ht : TInv s.cfg.kb s.table)
    (hloc : s.table.localKey = s.localRec.id) (hf : r.passesFilter = true)
    (hc : contactable s.cfg.ipMode r = true)
    (hnf : ((s.entry r.id).1.table.updateNode s.cfg.kb s.now r.id r none).2.isFailed = false)
    (v : Rec) (h1 : lookupVal s.table r.id = some v) (hlt : v.seq < r.seq) (w : Rec)
    (h2 : lookupVal (s.discoveredOne source r).1.table r.id = some w) : w = r := by
  have hne : ¬ r.id = s.localRec.id := fun e => lookupVal_ne_local ht h1 (e.trans hloc.symm)
  have he := entry_step (P := HasPair s.table) (o := ({} : Oracle)) s r.id
  rw [discoveredOne_fst, if_neg hne] at h2
  split at h2
  · rename_i v0 hv0
    have hp0 := (he.vals (tvals_hasPair s.table)).of_hasPair (lookupVal_hasPair hv0)
    have : v0 = v := by
      have := hasPair_lookupVal ht hp0
      rw [h1] at this; cases this; rfl
    subst this
    rw [if_pos hlt, if_pos (by simp [hf, hc])] at h2
    exact updateNode_stores (he.tinv ht) hnf (lookupVal_hasPair h2)
  · rename_i hnone
    rw [hnone] at h2
    cases h2

/-! ### A session report / explicit add: every new value is the reported record -/

theorem step_admit_update (s : Svc) (o : Oracle) (i : Svc.Input) (ht : TInv s.cfg.kb s.table)
    (r : Rec) (hr : admRec i = some r) (k : Nat) (v' : Rec)
    (h2 : lookupVal (s.step o i).1.table k = some v') :
    lookupVal s.table k = some v' ∨ (k = r.id ∧ v' = r) := by
  let P : Nat → Rec → Prop := fun k' w => HasPair s.table k' w ∨ (k' = r.id ∧ w = r)
  have h0 : TVals P s.table := (tvals_hasPair s.table).mono (fun k' w h => Or.inl h)
  have hs : Step P o s (s.step o i).1 := by
    cases i with
    | established r' addr incoming =>
      cases hr
      unfold step
      exact (injectSessionEstablished_stepQ s r addr incoming (fun _ _ _ => Or.inr ⟨rfl, rfl⟩)).step
    | addEnr r' =>
      cases hr
      unfold step
      exact addEnr_step s r (fun _ _ _ => Or.inr ⟨rfl, rfl⟩)
    | _ => cases hr
  rcases (hs.vals h0).of_hasPair (lookupVal_hasPair h2) with hp | h
  · exact Or.inl (hasPair_lookupVal ht hp)
  · exact Or.inr h

end Discv5.Svc

