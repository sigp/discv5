/- Lemmas about the world of TALK request objects (`Model/Talk.lean`).  Each object is a machine
with three states - not yet delivered (`reqs[i]? = none`), held (`some (some t)`), consumed
(`some none`) - and `step_object` lists its transitions with what each emits; the invariant of the
world and the facts about consumed objects and a stopped service are read off it. -/
import Discv5Model.Model.Talk
namespace Discv5.Talk
open Discv5.Svc

theorem outputsOf_append (i : Nat) (a b : List (Nat × Out)) :
    outputsOf i (a ++ b) = outputsOf i a ++ outputsOf i b := by
  simp [outputsOf]

theorem outputsOf_tag (i j : Nat) (l : List Out) :
    outputsOf i (l.map (fun o => (j, o))) = if j = i then l else [] := by
  by_cases h : j = i <;> simp [outputsOf, List.filter_map, Function.comp_def, h]

theorem life_outputs (t : TalkReq) (running : Bool) (u : TalkUse) :
    (t.life running u).2 =
      if running = true ∧ t.sender = true then
        [.response t.peer t.addr t.rid (.talk (payloadOf u))] else [] := by
  cases running <;> cases u <;> cases hs : t.sender <;>
    simp [TalkReq.life, TalkReq.respond, TalkReq.drop, payloadOf, hs]

theorem life_result (t : TalkReq) (h : t.sender = true) (running : Bool) (u : TalkUse) :
    (t.life running u).1 ≠ some .panic := by
  cases u <;> cases running <;> simp [TalkReq.life, TalkReq.respond, h]

theorem step_use_hit (w : World) (j : Nat) (u : TalkUse) (t : TalkReq)
    (hj : w.reqs[j]? = some (some t)) :
    w.step (.use j u) = ({ w with reqs := w.reqs.set j none }, (t.life w.running u).1,
      (t.life w.running u).2.map (fun o => (j, o))) := by
  simp [World.step, hj]

/-- A step leaves the objects alone and is silent, or hands out a new object, or consumes one that
is held, returning and emitting what its life cycle does. -/
theorem step_cases (w : World) (op : Op) :
    ((w.step op).1.reqs = w.reqs ∧ (w.step op).2 = (none, [])) ∨
    (∃ t, t.sender = true ∧ (w.step op).1.reqs = w.reqs ++ [some t] ∧ (w.step op).2 = (none, [])) ∨
    (∃ i t u, w.reqs[i]? = some (some t) ∧ (w.step op).1.reqs = w.reqs.set i none ∧
      (w.step op).2 = ((t.life w.running u).1, (t.life w.running u).2.map (fun o => (i, o)))) := by
  cases op with
  | shutdown => exact Or.inl ⟨rfl, rfl⟩
  | deliver rid peer addr =>
    simp only [World.step]
    split
    · exact Or.inr (Or.inl ⟨_, rfl, rfl, rfl⟩)
    · exact Or.inl ⟨rfl, rfl⟩
  | use j u =>
    simp only [World.step]
    split
    · rename_i t hj
      exact Or.inr (Or.inr ⟨j, t, u, hj, rfl, rfl⟩)
    · exact Or.inl ⟨rfl, rfl⟩

theorem step_running (w : World) (h : w.running = false) (op : Op) :
    (w.step op).1.running = false := by
  cases op <;> simp only [World.step] <;> (try split) <;> exact h

theorem step_object (w : World) (op : Op) (i : Nat) :
    ((w.step op).1.reqs[i]? = w.reqs[i]? ∧ outputsOf i (w.step op).2.2 = []) ∨
    (w.reqs[i]? = none ∧ outputsOf i (w.step op).2.2 = [] ∧
      ∃ t, t.sender = true ∧ (w.step op).1.reqs[i]? = some (some t)) ∨
    (∃ t u, w.reqs[i]? = some (some t) ∧ (w.step op).1.reqs[i]? = some none ∧
      outputsOf i (w.step op).2.2 = (t.life w.running u).2) := by
  rcases step_cases w op with ⟨h1, h2⟩ | ⟨t, hs, h1, h2⟩ | ⟨j, t, u, hj, h1, h2⟩
  · exact Or.inl ⟨by rw [h1], by rw [h2]; rfl⟩
  · rw [h1, h2]
    by_cases hi : i = w.reqs.length
    · subst hi
      exact Or.inr (Or.inl ⟨List.getElem?_eq_none (Nat.le_refl _), rfl, t, hs, by simp⟩)
    · refine Or.inl ⟨?_, rfl⟩
      by_cases hlt : i < w.reqs.length
      · exact List.getElem?_append_left hlt
      · rw [List.getElem?_eq_none (by simp; omega), List.getElem?_eq_none (by omega)]
  · have hjlt : j < w.reqs.length := (List.getElem?_eq_some_iff.mp hj).1
    rw [h1, h2]
    simp only [outputsOf_tag]
    by_cases hij : j = i
    · subst hij
      exact Or.inr (Or.inr ⟨t, u, hj, by simp [hjlt], if_pos rfl⟩)
    · exact Or.inl ⟨by simp [hij], if_neg hij⟩

/-- What every step keeps (W for world), `outs` being the outputs so far. -/
def WInv (w : World) (outs : List (Nat × Out)) : Prop :=
  ∀ i, (∀ t, w.reqs[i]? = some (some t) → t.sender = true ∧ outputsOf i outs = []) ∧
       (w.reqs[i]? = some none → (outputsOf i outs).length ≤ 1) ∧
       (w.reqs[i]? = none → outputsOf i outs = [])

theorem winv_init : WInv {} [] := by
  intro i; simp [outputsOf]

theorem winv_step (w : World) (outs : List (Nat × Out)) (h : WInv w outs) (op : Op) :
    WInv (w.step op).1 (outs ++ (w.step op).2.2) := by
  intro i
  rw [outputsOf_append]
  rcases step_object w op i with ⟨h1, h2⟩ | ⟨h0, h2, t, hs, h1⟩ | ⟨t, u, h0, h1, h2⟩
  · rw [h1, h2, List.append_nil]
    exact h i
  · rw [h1, h2, (h i).2.2 h0]
    refine ⟨fun t' ht' => ?_, nofun, nofun⟩
    cases ht'
    exact ⟨hs, rfl⟩
  · rw [h1, h2, ((h i).1 t h0).2, life_outputs]
    refine ⟨nofun, fun _ => ?_, nofun⟩
    split <;> simp

theorem winv_run (w : World) (outs : List (Nat × Out)) (h : WInv w outs) (ops : List Op) :
    WInv (w.run ops).1 (outs ++ (w.run ops).2.2) := by
  induction ops generalizing w outs with
  | nil => simpa [World.run] using h
  | cons op rest ih =>
    have := ih (w.step op).1 (outs ++ (w.step op).2.2) (winv_step w outs h op)
    simpa [World.run, List.append_assoc] using this

theorem run_append (w : World) (a b : List Op) :
    w.run (a ++ b) = (((w.run a).1.run b).1, (w.run a).2.1 ++ ((w.run a).1.run b).2.1,
      (w.run a).2.2 ++ ((w.run a).1.run b).2.2) := by
  induction a generalizing w with
  | nil => simp [World.run]
  | cons op rest ih => simp [World.run, ih, List.append_assoc]

theorem consumed_stays (w : World) (i : Nat) (h : w.reqs[i]? = some none) (ops : List Op) :
    (w.run ops).1.reqs[i]? = some none ∧ outputsOf i (w.run ops).2.2 = [] := by
  induction ops generalizing w with
  | nil => exact ⟨h, rfl⟩
  | cons op rest ih =>
    rcases step_object w op i with ⟨h1, h2⟩ | ⟨h0, _⟩ | ⟨t, u, h0, _⟩
    · have := ih (w.step op).1 (h1.trans h)
      exact ⟨this.1, by simp only [World.run, outputsOf_append, h2, this.2, List.append_nil]⟩
    · cases h0.symm.trans h
    · cases h0.symm.trans h

theorem stopped_stays (w : World) (h : w.running = false) (ops : List Op) :
    (w.run ops).1.running = false ∧ (w.run ops).2.2 = [] := by
  induction ops generalizing w with
  | nil => exact ⟨h, rfl⟩
  | cons op rest ih =>
    have hrest := ih (w.step op).1 (step_running w h op)
    refine ⟨hrest.1, ?_⟩
    simp only [World.run, hrest.2, List.append_nil]
    rcases step_cases w op with ⟨_, h2⟩ | ⟨_, _, _, h2⟩ | ⟨j, t, u, _, _, h2⟩
    · rw [h2]
    · rw [h2]
    · rw [h2, life_outputs, h]
      rfl

end Discv5.Talk
