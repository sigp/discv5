/-
Runs of the service (`Svc.run`): how a run splits, and the two ways statements about one step are
carried to all histories — an invariant of the steps holds after the run, and every output of the
run is the output of one step, taken in the state the inputs before it lead to.
-/
import Discv5Model.Model.Service

namespace Discv5.Svc
open Svc

theorem run_nil (s : Svc) : s.run [] = (s, []) := rfl

theorem run_cons (s : Svc) (o : Oracle) (i : Svc.Input) (rest : List (Oracle × Svc.Input)) :
    s.run ((o, i) :: rest) =
      (((s.step o i).1.run rest).1, (s.step o i).2 ++ ((s.step o i).1.run rest).2) := rfl

theorem run_append (l1 : List (Oracle × Svc.Input)) : ∀ (s : Svc) (l2 : List (Oracle × Svc.Input)),
    s.run (l1 ++ l2) = (((s.run l1).1.run l2).1, (s.run l1).2 ++ ((s.run l1).1.run l2).2) := by
  induction l1 with
  | nil => intro s l2; rfl
  | cons x l1 ih =>
    intro s l2
    obtain ⟨o, i⟩ := x
    rw [List.cons_append, run_cons, ih, run_cons, List.append_assoc]

theorem run_inv {I : Svc → Prop} {l : List (Oracle × Svc.Input)}
    (hstep : ∀ s, ∀ x ∈ l, I s → I (s.step x.1 x.2).1) {s : Svc} (h : I s) : I (s.run l).1 := by
  induction l generalizing s with
  | nil => exact h
  | cons x rest ih =>
    exact ih (fun s y hy => hstep s y (List.mem_cons_of_mem _ hy))
      (hstep s x List.mem_cons_self h)

/-- Every output of a run is emitted by the step on one of its inputs, in the state reached by the
inputs before that one. -/
theorem mem_outs_run {x : Out} {l : List (Oracle × Svc.Input)} {s : Svc} (h : x ∈ (s.run l).2) :
    ∃ pre oi post, l = pre ++ oi :: post ∧ x ∈ ((s.run pre).1.step oi.1 oi.2).2 := by
  induction l generalizing s with
  | nil => exact absurd h List.not_mem_nil
  | cons oi rest ih =>
    rw [run_cons] at h
    rcases List.mem_append.1 h with h | h
    · exact ⟨[], oi, rest, rfl, h⟩
    · obtain ⟨pre, oi', post, hl, hx⟩ := ih h
      exact ⟨oi :: pre, oi', post, by rw [hl]; rfl, hx⟩

end Discv5.Svc
