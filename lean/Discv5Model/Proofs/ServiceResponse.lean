/-
`handle_rpc_response` (`Svc.handleResponse`) in normal form: the response is matched against the
first active request with its id; a response that does not fit it only drops the request; a fitting
one is handled by the arm of its kind (`nodesArm`, `pongArm`, TALK inline), which starts from the
state without the request.  The vote sub-step of the PONG arm (`Svc.ipVote`) is given by its guards.
-/
import Discv5Model.Model.Service

namespace Discv5.Svc
open Svc

/-- The request a response is matched against: the first active request with that id. -/
def activeReq (s : Svc) (id : Nat) : Option ActiveReq := s.active.find? (fun a => a.id == id)

theorem activeReq_mem {s : Svc} {id : Nat} {req : ActiveReq} (h : activeReq s id = some req) :
    req ∈ s.active ∧ req.id = id := by
  unfold activeReq at h
  refine ⟨List.mem_of_find?_eq_some h, ?_⟩
  have := List.find?_some h
  simpa using this

/-- The state without the active requests `id`. -/
def dropActive (s : Svc) (id : Nat) : Svc := { s with active := s.active.filter (fun b => b.id != id) }

theorem removeActive_eq (s : Svc) (id : Nat) :
    s.removeActive id =
      match activeReq s id with
      | some req => (dropActive s id, some req)
      | none => (s, none) := rfl

/-- The distances of the request a NODES response answers (`[]` if it is not a FINDNODE). -/
def requestedOf : ReqBody → List Nat
  | .findNode ds => ds
  | _ => []

/-- What is emitted for a request that is dropped unanswered: its user-level callback, if any,
resolves to an error. -/
def droppedOut (id : Nat) (req : ActiveReq) : List Out := if req.callback then [.callback id .err] else []

/-- The NODES arm: `s0` is the state without the request `req` the response answers. -/
def nodesArm (s0 : Svc) (peer : Nat) (addr : Addr) (id : Nat) (req : ActiveReq) (total : Nat)
    (recs : List Rec) : Svc × List Out :=
  if req.callback then (s0, [.callback id (.nodes recs)]) else
  let acc := acceptNodes peer (requestedOf req.body) recs
  let banOut := if acc.2 then [Out.ban peer addr] else []
  let cur := if total > 1 then s0.takeNodesResp id else (s0, none)
  match nodesAccount s0.cfg.maxNodesResponse total cur.2 acc.1 with
  | .wait nr =>
    ({ cur.1 with nodesResp := cur.1.nodesResp ++ [(id, nr)], active := cur.1.active ++ [req] }, banOut)
  | .done all =>
    let d := (cur.1.takeNodesResp id).1.discovered peer all req.query
    (d.1, banOut ++ d.2)

def pongArm (s0 : Svc) (o : Oracle) (peer id : Nat) (req : ActiveReq) (enrSeq : Nat) (observed : Addr) :
    Svc × List Out :=
  if req.callback then (s0, [.callback id (.pong enrSeq observed)]) else
  let v := s0.ipVote o peer
  let f := v.1.findEnr peer
  match f.2 with
  | some r =>
    let q := if r.seq < enrSeq then
        f.1.sendRpcRequest req.peer req.addr (.findNode [Consts.ENR_REQUEST_DISTANCE]) none false
      else (f.1, [])
    let u := if contactable q.1.cfg.ipMode r then q.1.connectionUpdated o peer .pongReceived else (q.1, [])
    (u.1, v.2 ++ q.2 ++ u.2)
  | none => (f.1, v.2)

theorem handleResponse_eq (s : Svc) (o : Oracle) (peer : Nat) (addr : Addr) (id : Nat) (body : RespBody) :
    s.handleResponse o peer addr id body =
      match activeReq s id with
      | none => (s, [])
      | some req =>
        if req.peer != peer || req.addr != addr || !body.matchRequest req.body then
          (dropActive s id, droppedOut id req)
        else match body with
          | .nodes total recs => nodesArm (dropActive s id) peer addr id req total recs
          | .pong enrSeq observed => pongArm (dropActive s id) o peer id req enrSeq observed
          | .talk response =>
            if req.callback then (dropActive s id, [.callback id (.talk response)])
            else (dropActive s id, []) := by
  unfold handleResponse
  rw [removeActive_eq]
  cases activeReq s id with
  | none => rfl
  | some req =>
    simp only
    cases req.peer != peer || req.addr != addr
    · cases !body.matchRequest req.body
      · cases body <;> rfl
      · rfl
    · rfl

/-- `handle_ip_vote_from_pong` by its guards: the vote is counted when the connectivity state
admits it, ENR updates are on, and the peer is a connected outgoing table entry or more votes are
wanted; only a counted vote can replace the local record. -/
theorem ipVote_arms (s : Svc) (o : Oracle) (peer : Nat) :
    if o.countable && s.cfg.enrUpdate &&
        ((match (s.entry peer).2 with
          | .present _ st => st.conn && !st.incoming
          | _ => false) || o.requireMore) then
      s.ipVote o peer = match o.newLocal with
        | some (r, a) => ({ (s.entry peer).1 with localRec := r }, [.event (.socketUpdated a)])
        | none => ((s.entry peer).1, [])
    else s.ipVote o peer = (s, []) ∨ s.ipVote o peer = ((s.entry peer).1, []) := by
  unfold ipVote
  cases o.countable with
  | false => exact Or.inl rfl
  | true =>
    cases s.cfg.enrUpdate with
    | false => exact Or.inl rfl
    | true =>
      simp only []
      cases (match (s.entry peer).2 with
        | .present _ st => st.conn && !st.incoming
        | _ => false) || o.requireMore with
      | false => exact Or.inr rfl
      | true => rfl

theorem ipVote_cases (s : Svc) (o : Oracle) (peer : Nat) :
    s.ipVote o peer = (s, []) ∨ s.ipVote o peer = ((s.entry peer).1, []) ∨
    ∃ r a, o.newLocal = some (r, a) ∧
      s.ipVote o peer = ({ (s.entry peer).1 with localRec := r }, [.event (.socketUpdated a)]) := by
  have h := ipVote_arms s o peer
  generalize (o.countable && _ && _) = g at h
  cases g with
  | false => exact h.elim Or.inl fun h => Or.inr (Or.inl h)
  | true =>
    rw [if_pos rfl] at h
    cases hn : o.newLocal with
    | none => rw [hn] at h; exact Or.inr (Or.inl h)
    | some ra => rw [hn] at h; exact Or.inr (Or.inr ⟨ra.1, ra.2, rfl, h⟩)

end Discv5.Svc
