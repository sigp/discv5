/-
The common base of the handler proofs (`Model/Handler.lean`): `StateT.run` of the monad's primitives,
the pure functions of the model inverted once, the parts of handler functions that proofs treat as
units (each with the equation exhibiting it in its function), the inductions on the fuel of the timer
loop and along a history.  Two Hoare logics: `Tr` sees the `HState` component only and serves
`HandlerExempt`; `RQ.Ho` (`RQ` for the request proofs, `HandlerRequests`) sees state and output log
and serves every other file that walks the handler in triples.  A rule named `…I` has its
precondition for postcondition.
-/
import Discv5Model.Model.HandlerSpec

namespace Discv5.H

@[simp] theorem run_pure {α} (x : α) (st : HState × List Out) : (pure x : M α).run st = (x, st) := rfl
@[simp] theorem run_bind {α β} (m : M α) (f : α → M β) (st : HState × List Out) :
    (m >>= f).run st = (f (m.run st).1).run (m.run st).2 := rfl
@[simp] theorem run_getS (st : HState × List Out) : getS.run st = (st.1, st) := rfl
@[simp] theorem run_setS (s : HState) (st : HState × List Out) : (setS s).run st = ((), (s, st.2)) := rfl
@[simp] theorem run_modS (f : HState → HState) (st : HState × List Out) :
    (modS f).run st = ((), (f st.1, st.2)) := rfl
@[simp] theorem run_emit (o : Out) (st : HState × List Out) :
    (emit o).run st = ((), (st.1, st.2 ++ [o])) := rfl
@[simp] theorem run_send (na : NA) (p : Pkt) (st : HState × List Out) :
    (send na p).run st = ((), (st.1, st.2 ++ [.send na p])) := rfl
theorem run_ite {α} (b : Prop) [Decidable b] (m1 m2 : M α) (st : HState × List Out) :
    (if b then m1 else m2).run st = if b then m1.run st else m2.run st := by
  by_cases h : b <;> simp [h]

@[simp] theorem forEach_nil {α} (f : α → M Unit) : forEach [] f = pure () := rfl
@[simp] theorem forEach_cons {α} (x : α) (xs : List α) (f : α → M Unit) :
    forEach (x :: xs) f = (do f x; forEach xs f) := rfl

theorem forEach_keeps {α} {K : HState × List Out → Prop} (l : List α) (f : α → M Unit)
    (hf : ∀ x ∈ l, ∀ st, K st → K ((f x).run st).2) (st : HState × List Out) (h : K st) :
    K ((forEach l f).run st).2 := by
  induction l generalizing st with
  | nil => exact h
  | cons x xs ih =>
    exact ih (fun y hy => hf y (List.mem_cons_of_mem _ hy)) _ (hf x (List.mem_cons_self ..) st h)

structure Tr {α} (P : HState → Prop) (m : M α) (Q : α → HState → Prop) : Prop where
  out : ∀ s os, P s → Q (m.run (s, os)).1 (m.run (s, os)).2.1

theorem Tr.ret {α} {P : HState → Prop} {Q : α → HState → Prop} (x : α) (h : ∀ s, P s → Q x s) :
    Tr P (pure x) Q := ⟨fun s _ hp => h s hp⟩

theorem Tr.bind {α β} {P : HState → Prop} {m : M α} {Q : α → HState → Prop} {f : α → M β}
    {R : β → HState → Prop} (h1 : Tr P m Q) (h2 : ∀ x, Tr (Q x) (f x) R) : Tr P (m >>= f) R := by
  constructor
  intro s os hp
  exact (h2 _).out _ _ (h1.out s os hp)

theorem Tr.conseq {α} {P P' : HState → Prop} {m : M α} {Q Q' : α → HState → Prop}
    (h : Tr P' m Q') (hpre : ∀ s, P s → P' s) (hpost : ∀ x s, Q' x s → Q x s) : Tr P m Q :=
  ⟨fun s os hp => hpost _ _ (h.out s os (hpre s hp))⟩

theorem Tr.pre {α} {P P' : HState → Prop} {m : M α} {Q : α → HState → Prop}
    (h : Tr P' m Q) (hpre : ∀ s, P s → P' s) : Tr P m Q := h.conseq hpre (fun _ _ h => h)

theorem Tr.post {α} {P : HState → Prop} {m : M α} {Q Q' : α → HState → Prop}
    (h : Tr P m Q') (hpost : ∀ x s, Q' x s → Q x s) : Tr P m Q := h.conseq (fun _ h => h) hpost

theorem Tr.exfalso {α} {P : HState → Prop} {m : M α} {Q : α → HState → Prop}
    (h : ∀ s, ¬ P s) : Tr P m Q := ⟨fun s _ hp => absurd hp (h s)⟩

theorem Tr.pre_and {α} {p : Prop} {P : HState → Prop} {m : M α} {Q : α → HState → Prop}
    (h : p → Tr P m Q) : Tr (fun s => p ∧ P s) m Q := ⟨fun s os hp => (h hp.1).out s os hp.2⟩

theorem Tr.ite {α} {P : HState → Prop} {b : Prop} [Decidable b] {m1 m2 : M α}
    {Q : α → HState → Prop} (h1 : b → Tr P m1 Q) (h2 : ¬ b → Tr P m2 Q) :
    Tr P (if b then m1 else m2) Q := by
  by_cases h : b
  · rw [if_pos h]; exact h1 h
  · rw [if_neg h]; exact h2 h

theorem Tr.get {P : HState → Prop} : Tr P getS (fun r s => r = s ∧ P s) :=
  ⟨fun _ _ hp => ⟨rfl, hp⟩⟩

theorem Tr.get_bind {β} {P : HState → Prop} {f : HState → M β} {R : β → HState → Prop}
    (h : ∀ s0, P s0 → Tr (fun s => s = s0) (f s0) R) : Tr P (getS >>= f) R := by
  constructor
  intro s os hp
  exact (h s hp).out s os rfl

theorem Tr.set {P : HState → Prop} {Q : Unit → HState → Prop} (s' : HState)
    (h : ∀ s, P s → Q () s') : Tr P (setS s') Q := ⟨fun s _ hp => h s hp⟩

theorem Tr.mod {P : HState → Prop} {Q : Unit → HState → Prop} (f : HState → HState)
    (h : ∀ s, P s → Q () (f s)) : Tr P (modS f) Q := ⟨fun s _ hp => h s hp⟩

theorem Tr.emt {P : HState → Prop} (o : Out) : Tr P (emit o) (fun _ => P) := ⟨fun _ _ hp => hp⟩

theorem Tr.snd {P : HState → Prop} (na : NA) (p : Pkt) : Tr P (send na p) (fun _ => P) :=
  ⟨fun _ _ hp => hp⟩

theorem Tr.each {α} {P : HState → Prop} (l : List α) (f : α → M Unit)
    (h : ∀ x ∈ l, Tr P (f x) (fun _ => P)) : Tr P (forEach l f) (fun _ => P) :=
  ⟨fun s os hp => forEach_keeps (K := fun st => P st.1) l f (fun x hx st => (h x hx).out st.1 st.2) (s, os) hp⟩

theorem Tr.seq {α β} {P Q : HState → Prop} {m : M α} {f : α → M β} {R : β → HState → Prop}
    (h1 : Tr P m (fun _ => Q)) (h2 : ∀ x, Tr Q (f x) R) : Tr P (m >>= f) R := Tr.bind h1 h2

namespace RQ

abbrev St := HState × List Out

structure Ho {α} (P : St → Prop) (m : M α) (Q : α → St → Prop) : Prop where
  out : ∀ st, P st → Q (m.run st).1 (m.run st).2

theorem Ho.pure {α} {P : St → Prop} {Q : α → St → Prop} (x : α) (h : ∀ st, P st → Q x st) :
    Ho P (Pure.pure x) Q := ⟨fun st hp => h st hp⟩

theorem Ho.bind {α β} {P : St → Prop} {m : M α} {Q : α → St → Prop} {f : α → M β}
    {R : β → St → Prop} (h1 : Ho P m Q) (h2 : ∀ x, Ho (Q x) (f x) R) : Ho P (m >>= f) R :=
  ⟨fun st hp => (h2 _).out _ (h1.out st hp)⟩

theorem Ho.conseq {α} {P P' : St → Prop} {m : M α} {Q Q' : α → St → Prop}
    (h : Ho P' m Q') (hpre : ∀ st, P st → P' st) (hpost : ∀ x st, Q' x st → Q x st) : Ho P m Q :=
  ⟨fun st hp => hpost _ _ (h.out st (hpre st hp))⟩

theorem Ho.pre {α} {P P' : St → Prop} {m : M α} {Q : α → St → Prop}
    (h : Ho P' m Q) (hpre : ∀ st, P st → P' st) : Ho P m Q := h.conseq hpre (fun _ _ h => h)

theorem Ho.post {α} {P : St → Prop} {m : M α} {Q Q' : α → St → Prop}
    (h : Ho P m Q') (hpost : ∀ x st, Q' x st → Q x st) : Ho P m Q := h.conseq (fun _ h => h) hpost

theorem Ho.ite {α} {P : St → Prop} {b : Prop} [Decidable b] {m1 m2 : M α}
    {Q : α → St → Prop} (h1 : b → Ho P m1 Q) (h2 : ¬ b → Ho P m2 Q) :
    Ho P (if b then m1 else m2) Q := by
  by_cases h : b
  · rw [if_pos h]; exact h1 h
  · rw [if_neg h]; exact h2 h

theorem Ho.conj {α} {P P' : St → Prop} {m : M α} {Q Q' : α → St → Prop}
    (h : Ho P m Q) (h' : Ho P' m Q') : Ho (fun st => P st ∧ P' st) m (fun x st => Q x st ∧ Q' x st) :=
  ⟨fun st hp => ⟨h.out st hp.1, h'.out st hp.2⟩⟩

theorem Ho.pre_pure {α} {p : Prop} {P : St → Prop} {m : M α} {Q : α → St → Prop}
    (h : p → Ho P m Q) : Ho (fun st => p ∧ P st) m Q := ⟨fun st hp => (h hp.1).out st hp.2⟩

theorem Ho.pre_pure_right {α} {p : Prop} {P : St → Prop} {m : M α} {Q : α → St → Prop}
    (h : p → Ho P m Q) : Ho (fun st => P st ∧ p) m Q := ⟨fun st hp => (h hp.2).out st hp.1⟩

theorem Ho.exfalso {α} {P : St → Prop} {m : M α} {Q : α → St → Prop}
    (h : ∀ st, ¬ P st) : Ho P m Q := ⟨fun st hp => absurd hp (h st)⟩

theorem Ho.modS {P : St → Prop} {Q : Unit → St → Prop} (f : HState → HState)
    (h : ∀ st, P st → Q () (f st.1, st.2)) : Ho P (modS f) Q := ⟨fun st hp => h st hp⟩

theorem Ho.emit {P : St → Prop} {Q : Unit → St → Prop} (o : Out)
    (h : ∀ st, P st → Q () (st.1, st.2 ++ [o])) : Ho P (emit o) Q := ⟨fun st hp => h st hp⟩

theorem Ho.pureI {α} {P : St → Prop} (x : α) : Ho P (Pure.pure x) (fun _ => P) := ⟨fun _ hp => hp⟩

theorem Ho.iteI {α} {P : St → Prop} {b : Prop} [Decidable b] {m1 m2 : M α}
    {Q : α → St → Prop} (h1 : Ho P m1 Q) (h2 : Ho P m2 Q) :
    Ho P (if b then m1 else m2) Q := Ho.ite (fun _ => h1) (fun _ => h2)

theorem Ho.forEachI {α} {P : St → Prop} (l : List α) (f : α → M Unit)
    (h : ∀ x, Ho P (f x) (fun _ => P)) : Ho P (forEach l f) (fun _ => P) :=
  ⟨forEach_keeps l f (fun x _ => (h x).out)⟩

theorem Ho.forEach {α} (I : List α → St → Prop) (l : List α) (f : α → M Unit)
    (h : ∀ x xs, Ho (I (x :: xs)) (f x) (fun _ => I xs)) : Ho (I l) (forEach l f) (fun _ => I []) := by
  induction l with
  | nil => exact Ho.pureI ()
  | cons x xs ih => rw [forEach_cons]; exact Ho.bind (h x xs) (fun _ => ih)

/-- The precondition additionally pins the handler state to the value just read by `getS`. -/
def Pin (s0 : HState) (P : St → Prop) : St → Prop := fun st => st.1 = s0 ∧ P st

theorem Ho.unpin {α} {s0 : HState} {P : St → Prop} {m : M α} {Q : α → St → Prop}
    (h : Ho P m Q) : Ho (Pin s0 P) m Q := ⟨fun st hp => h.out st hp.2⟩

theorem Ho.getS_pin {β} {P : St → Prop} {f : HState → M β} {R : β → St → Prop}
    (h : ∀ s0, Ho (Pin s0 P) (f s0) R) : Ho P (getS >>= f) R :=
  ⟨fun st hp => (h st.1).out st ⟨rfl, hp⟩⟩

theorem Ho.setS_pin {s0 : HState} {P : St → Prop} {Q : Unit → St → Prop} (f : HState → HState)
    (h : ∀ st, P st → Q () (f st.1, st.2)) : Ho (Pin s0 P) (H.setS (f s0)) Q :=
  ⟨fun st hp => hp.1 ▸ h st hp.2⟩

/-- `setS` where facts about the state just read are in use: only the log varies. -/
theorem Ho.setS_pinned {s0 : HState} {P : St → Prop} {Q : Unit → St → Prop} (s' : HState)
    (h : ∀ os, P (s0, os) → Q () (s', os)) : Ho (Pin s0 P) (H.setS s') Q :=
  ⟨fun st hp => h st.2 (hp.1 ▸ hp.2)⟩

theorem Ho.bind₂ {α β γ} {P : St → Prop} {m : M α} {f : α → M β} {g : β → M γ} {Q : β → St → Prop}
    {R : γ → St → Prop} (h1 : Ho P (m >>= f) Q) (h2 : ∀ y, Ho (Q y) (g y) R) :
    Ho P (m >>= fun x => f x >>= g) R := ⟨fun st hp => (h2 _).out _ (h1.out st hp)⟩

theorem freshNonce_run (c : Cfg) (st : St) : (freshNonce c).run st =
    (mkName c (st.1.fresh.nonce + 1),
      ({ st.1 with fresh := { st.1.fresh with nonce := st.1.fresh.nonce + 1 } }, st.2)) := rfl
theorem freshCd_run (c : Cfg) (st : St) : (freshCd c).run st =
    (mkName c (st.1.fresh.cd + 1),
      ({ st.1 with fresh := { st.1.fresh with cd := st.1.fresh.cd + 1 } }, st.2)) := rfl
theorem freshEph_run (c : Cfg) (st : St) : (freshEph c).run st =
    (mkName c (st.1.fresh.eph + 1),
      ({ st.1 with fresh := { st.1.fresh with eph := st.1.fresh.eph + 1 } }, st.2)) := rfl
theorem freshRid_run (c : Cfg) (st : St) : (freshRid c).run st =
    (mkName c (st.1.fresh.rid + 1),
      ({ st.1 with fresh := { st.1.fresh with rid := st.1.fresh.rid + 1 } }, st.2)) := rfl

theorem sessGetMut_run (c : Cfg) (na : NA) (st : St) : (sessGetMut c na).run st =
    match st.1.sessions.find? (·.1 == na) with
    | none => (none, st)
    | some (_, sess, stamp) =>
      if stamp + c.sessionTtl < st.1.rt then
        (none, ({ st.1 with sessions := st.1.sessions.filter (·.1 != na) }, st.2))
      else (some sess,
        ({ st.1 with sessions := st.1.sessions.filter (·.1 != na) ++ [(na, sess, st.1.rt)] }, st.2)) := by
  unfold sessGetMut
  simp only [run_bind, run_getS]
  cases st.1.sessions.find? (·.1 == na) with
  | none => rfl
  | some e =>
    dsimp only
    by_cases h : e.2.2 + c.sessionTtl < st.1.rt
    · simp only [h, if_true]; rfl
    · simp only [h, if_false]; rfl

theorem removeExpiredSessions_run (c : Cfg) (st : St) : (removeExpiredSessions c).run st =
    ((), ({ st.1 with sessions := (popExpired c.sessionTtl st.1.rt st.1.sessions).2 },
      if (popExpired c.sessionTtl st.1.rt st.1.sessions).1.isEmpty then st.2
      else st.2 ++ [.expired (popExpired c.sessionTtl st.1.rt st.1.sessions).1])) := by
  unfold removeExpiredSessions
  simp only [run_bind, run_getS, run_setS]
  by_cases he : (popExpired c.sessionTtl st.1.rt st.1.sessions).1.isEmpty = true
  · simp only [he, Bool.not_true, Bool.false_eq_true, if_false, if_true]; rfl
  · simp only [he]; simp

theorem activeRemoveByNonce_run (n : Nat) (st : St) : (activeRemoveByNonce n).run st =
    match st.1.active.find? (·.pkt.nonce == n) with
    | none => (none, st)
    | some call => (some call, ({ st.1 with active := st.1.active.erase call }, st.2)) := by
  unfold activeRemoveByNonce
  simp only [run_bind, run_getS]
  cases st.1.active.find? (·.pkt.nonce == n) <;> rfl

theorem activeRemoveRequest_run (na : NA) (rid : Nat) (st : St) : (activeRemoveRequest na rid).run st =
    match st.1.active.find? (fun call => callNA call == na && call.rid == rid) with
    | none => (none, st)
    | some call => (some call, ({ st.1 with active := st.1.active.erase call }, st.2)) := by
  unfold activeRemoveRequest
  simp only [run_bind, run_getS]
  cases st.1.active.find? (fun call => callNA call == na && call.rid == rid) <;> rfl

theorem activeRemoveRequests_run (na : NA) (st : St) : (activeRemoveRequests na).run st =
    (st.1.active.filter (fun call => callNA call == na),
      ({ st.1 with active := st.1.active.filter (fun call => callNA call != na) }, st.2)) := rfl

theorem encryptMessage_run (c : Cfg) (sess : Session) (pt : Msg) (st : St) :
    (encryptMessage c sess pt).run st =
    (({ sess with counter := sess.counter + 1 },
        Pkt.message c.localId (mkName c (st.1.fresh.nonce + 1))
          (.enc sess.keys.enc (mkName c (st.1.fresh.nonce + 1)) (sess.counter + 1) pt true)),
      ({ st.1 with fresh := { st.1.fresh with nonce := st.1.fresh.nonce + 1 } }, st.2)) := rfl

theorem sessGetMut_elim {c : Cfg} {na : NA} {P : St → Prop} {Q : Option Session → St → Prop}
    (h : ∀ st, P st →
      (st.1.sessions.find? (·.1 == na) = none → Q none st) ∧
      (∀ k sess stamp, st.1.sessions.find? (·.1 == na) = some (k, sess, stamp) →
        (stamp + c.sessionTtl < st.1.rt →
          Q none ({ st.1 with sessions := st.1.sessions.filter (·.1 != na) }, st.2)) ∧
        (¬ stamp + c.sessionTtl < st.1.rt →
          Q (some sess) ({ st.1 with sessions := st.1.sessions.filter (·.1 != na) ++ [(na, sess, st.1.rt)] }, st.2)))) :
    Ho P (sessGetMut c na) Q := by
  refine ⟨fun st hp => ?_⟩
  rw [sessGetMut_run]
  cases hf : st.1.sessions.find? (·.1 == na) with
  | none => exact (h st hp).1 hf
  | some e =>
    dsimp only
    split
    · exact ((h st hp).2 _ _ _ hf).1 ‹_›
    · exact ((h st hp).2 _ _ _ hf).2 ‹_›

theorem removeExpiredSessions_elim {c : Cfg} {P : St → Prop} {Q : Unit → St → Prop}
    (h : ∀ st, P st → ∀ e r, popExpired c.sessionTtl st.1.rt st.1.sessions = (e, r) →
      Q () ({ st.1 with sessions := r }, if e.isEmpty then st.2 else st.2 ++ [.expired e])) :
    Ho P (removeExpiredSessions c) Q := by
  refine ⟨fun st hp => ?_⟩
  rw [removeExpiredSessions_run]
  exact h st hp _ _ rfl

/-- The two removals of one active request have the same shape: the first call that `p` finds is erased. -/
theorem activeRemove_elim {m : M (Option Call)} {p : Call → Bool}
    (hm : ∀ st : St, m.run st = match st.1.active.find? p with
      | none => (none, st)
      | some call => (some call, ({ st.1 with active := st.1.active.erase call }, st.2)))
    {P : St → Prop} {Q : Option Call → St → Prop}
    (h : ∀ st, P st →
      (st.1.active.find? p = none → Q none st) ∧
      (∀ call, st.1.active.find? p = some call →
        Q (some call) ({ st.1 with active := st.1.active.erase call }, st.2))) : Ho P m Q := by
  refine ⟨fun st hp => ?_⟩
  rw [hm]
  cases hf : st.1.active.find? p with
  | none => exact (h st hp).1 hf
  | some call => exact (h st hp).2 call hf

theorem activeRemoveByNonce_elim {n : Nat} {P : St → Prop} {Q : Option Call → St → Prop}
    (h : ∀ st, P st →
      (st.1.active.find? (·.pkt.nonce == n) = none → Q none st) ∧
      (∀ call, st.1.active.find? (·.pkt.nonce == n) = some call →
        Q (some call) ({ st.1 with active := st.1.active.erase call }, st.2))) :
    Ho P (activeRemoveByNonce n) Q := activeRemove_elim (activeRemoveByNonce_run n) h

theorem activeRemoveRequest_elim {na : NA} {rid : Nat} {P : St → Prop} {Q : Option Call → St → Prop}
    (h : ∀ st, P st →
      (st.1.active.find? (fun call => callNA call == na && call.rid == rid) = none → Q none st) ∧
      (∀ call, st.1.active.find? (fun call => callNA call == na && call.rid == rid) = some call →
        Q (some call) ({ st.1 with active := st.1.active.erase call }, st.2))) :
    Ho P (activeRemoveRequest na rid) Q := activeRemove_elim (activeRemoveRequest_run na rid) h

end RQ

/-- The fold by which `nextDue` picks the least of a list under `lt` ends on a member of the list;
`g` is given by its two equations, which hold by `rfl`. -/
theorem foldl_least_mem {α} {lt : α → α → Bool} {g : Option α → α → Option α} {l : List α} {r : α}
    (h : l.foldl g none = some r) (hn : ∀ x, g none x = some x)
    (hs : ∀ b x, g (some b) x = if lt x b then some x else some b) : r ∈ l := by
  have key : ∀ (l : List α) init, l.foldl g init = some r → init = some r ∨ r ∈ l := by
    intro l
    induction l with
    | nil => exact fun _ h => Or.inl h
    | cons x t ih =>
      intro init h
      rcases ih _ h with h1 | h1
      · cases init with
        | none => exact Or.inr (Option.some.inj (hn x ▸ h1) ▸ List.mem_cons_self ..)
        | some b =>
          rw [hs] at h1
          split at h1
          · exact Or.inr (Option.some.inj h1 ▸ List.mem_cons_self ..)
          · exact Or.inl h1
      · exact Or.inr (List.mem_cons_of_mem _ h1)
  exact (key l none h).resolve_left (fun e => nomatch e)

theorem nextDue_spec {s : HState} {target d : Nat} {x : Sum Call NA}
    (h : nextDue s target = some (d, x)) :
    d ≤ target ∧ match x with
      | .inl call => call ∈ s.active ∧ call.deadline = d
      | .inr na => ∃ ch ∈ s.challenges, ch.1 = na ∧ ch.2.2.1 = d := by
  unfold nextDue at h
  dsimp only at h
  have inl : ∀ {r : Call}, r ∈ s.active.filter (·.deadline ≤ target) →
      r.deadline ≤ target ∧ r ∈ s.active ∧ r.deadline = r.deadline := fun hm =>
    ⟨of_decide_eq_true (List.mem_filter.1 hm).2, (List.mem_filter.1 hm).1, rfl⟩
  have inr : ∀ {ch : NA × Challenge × Nat × Nat}, ch ∈ s.challenges.filter (·.2.2.1 ≤ target) →
      ch.2.2.1 ≤ target ∧ ∃ ch' ∈ s.challenges, ch'.1 = ch.1 ∧ ch'.2.2.1 = ch.2.2.1 := fun hm =>
    ⟨of_decide_eq_true (List.mem_filter.1 hm).2, _, (List.mem_filter.1 hm).1, rfl, rfl⟩
  split at h
  · rename_i r ch h1 h2
    split at h <;> cases h
    · exact inr (foldl_least_mem h2 (fun _ => rfl) (fun _ _ => rfl))
    · exact inl (foldl_least_mem h1 (fun _ => rfl) (fun _ _ => rfl))
  · rename_i r h1 _; cases h; exact inl (foldl_least_mem h1 (fun _ => rfl) (fun _ _ => rfl))
  · rename_i ch _ h2; cases h; exact inr (foldl_least_mem h2 (fun _ => rfl) (fun _ _ => rfl))
  · cases h

theorem popExpired_split (ttl rt : Nat) (l : List (NA × Session × Nat)) :
    ∃ pre, l = pre ++ (popExpired ttl rt l).2 := by
  induction l with
  | nil => exact ⟨[], rfl⟩
  | cons x xs ih =>
    obtain ⟨na, sess, stamp⟩ := x
    unfold popExpired
    by_cases h : stamp + ttl ≥ rt
    · rw [if_pos h]; exact ⟨[], rfl⟩
    · rw [if_neg h]
      obtain ⟨pre, hpre⟩ := ih
      exact ⟨(na, sess, stamp) :: pre, by rw [List.cons_append, ← hpre]⟩

theorem popExpired_sub (ttl rt : Nat) (l : List (NA × Session × Nat)) :
    ∀ x ∈ (popExpired ttl rt l).2, x ∈ l := fun x hx => by
  obtain ⟨pre, h⟩ := popExpired_split ttl rt l
  rw [h]; exact List.mem_append_right _ hx

theorem mkName_inj {c : Cfg} {a b : Nat} (h : mkName c a = mkName c b) : a = b := by
  unfold mkName at h; omega

theorem find_filter_ne {α} (l : List (NA × α)) (na : NA) :
    (l.filter (·.1 != na)).find? (·.1 == na) = none := by
  rw [List.find?_eq_none]
  intro x hx
  simpa using (List.mem_filter.1 hx).2

theorem filter_ne_self {α} {l : List (NA × α)} {na : NA} (h : na ∉ l.map (·.1)) :
    l.filter (·.1 != na) = l := by
  rw [List.filter_eq_self]
  intro a ha
  simp only [bne_iff_ne, ne_eq]
  exact fun hh => h (hh ▸ List.mem_map_of_mem ha)

/-- `sessPut` leaves the list of cache keys as it is. -/
theorem map_fst_put (l : List (NA × Session × Nat)) (na : NA) (sess : Session) :
    (l.map (fun e => if e.1 == na then (na, sess, e.2.2) else e)).map (·.1) = l.map (·.1) := by
  rw [List.map_map]
  apply List.map_congr_left
  intro e _
  by_cases h : (e.1 == na) = true
  · simp only [Function.comp, h, if_true]; exact (beq_iff_eq.1 h).symm
  · simp only [Function.comp, h]; rfl

/-- `decrypt_message` case by case: the current keys decrypt; the previous keys decrypt and become current
again; they do not and are dropped; or there are none. A key decrypts exactly the terms sealed under it
with the packet's nonce and associated data. -/
theorem decryptMessage_cases (sess : Session) (nonce : Nat) (ct : Ct) :
    (∃ ctr m, ct = .enc sess.keys.dec nonce ctr m true ∧ decryptMessage sess nonce ct = (sess, some m)) ∨
    (∃ old ctr m, sess.oldKeys = some old ∧ ct = .enc old.dec nonce ctr m true ∧
      decryptMessage sess nonce ct = ({ sess with keys := old, oldKeys := some sess.keys }, some m)) ∨
    (∃ old, sess.oldKeys = some old ∧ decryptMessage sess nonce ct = ({ sess with oldKeys := none }, none)) ∨
    (sess.oldKeys = none ∧ decryptMessage sess nonce ct = (sess, none)) := by
  unfold decryptMessage
  cases ct with
  | garbage =>
    simp only []
    cases ho : sess.oldKeys with
    | none => exact Or.inr (Or.inr (Or.inr ⟨rfl, rfl⟩))
    | some old => exact Or.inr (Or.inr (Or.inl ⟨old, rfl, rfl⟩))
  | enc key n ctr pt adOk =>
    simp only []
    by_cases h1 : (key == sess.keys.dec && n == nonce && adOk) = true
    · simp only [h1, if_true]
      simp only [Bool.and_eq_true, beq_iff_eq] at h1
      obtain ⟨⟨rfl, rfl⟩, rfl⟩ := h1
      exact Or.inl ⟨ctr, pt, rfl, rfl⟩
    · simp only [h1, Bool.false_eq_true, if_false]
      cases ho : sess.oldKeys with
      | none => exact Or.inr (Or.inr (Or.inr ⟨rfl, rfl⟩))
      | some old =>
        simp only []
        by_cases h2 : (key == old.dec && n == nonce && adOk) = true
        · simp only [h2, if_true]
          simp only [Bool.and_eq_true, beq_iff_eq] at h2
          obtain ⟨⟨rfl, rfl⟩, rfl⟩ := h2
          exact Or.inr (Or.inl ⟨old, ctr, pt, rfl, rfl, rfl⟩)
        · simp only [h2, Bool.false_eq_true, if_false]
          exact Or.inr (Or.inr (Or.inl ⟨old, rfl, trivial⟩))

/-- A session comes out of `establish_from_challenge` only with a record of the remote id and a signature
by that id over the challenge data, the ephemeral key and our id; its keys are the responder keys over
these, and the record is the one sent or the one the challenge was issued for. -/
theorem establish_ok (c : Cfg) (remoteId : Id) (ch : Challenge) (sig : Sig) (eph : Nat)
    (record : Option Rec) (sess : Session) (r : Rec)
    (h : establishFromChallenge c remoteId ch sig eph record = some (some (sess, r))) :
    r.id = remoteId ∧ sig.signer = remoteId ∧ sig.cd = ch.cd ∧ sig.eph = eph ∧ sig.dst = c.localId ∧
    sess = { keys := {
      enc := { eph := eph, cd := ch.cd, ini := remoteId, rcp := c.localId, toRcp := false },
      dec := { eph := eph, cd := ch.cd, ini := remoteId, rcp := c.localId, toRcp := true } } } ∧
    (r = record.getD r ∨ ch.remoteRec = some r) := by
  unfold establishFromChallenge at h
  simp only at h
  split at h
  · cases h
  · rename_i r' hch
    by_cases hid : (r'.id != remoteId) = true
    · rw [if_pos hid] at h; cases h
    rw [if_neg hid] at h
    have hid' : r'.id = remoteId := by simpa using hid
    by_cases hsig : (!(sig.signer == r'.id && sig.cd == ch.cd && sig.eph == eph && sig.dst == c.localId)) = true
    · rw [if_pos hsig] at h; cases h
    rw [if_neg hsig] at h
    simp only [Option.some.injEq, Prod.mk.injEq] at h
    obtain ⟨hs, hr⟩ := h
    subst hr
    simp only [Bool.not_eq_true', Bool.not_eq_false, Bool.and_eq_true, beq_iff_eq] at hsig
    obtain ⟨⟨⟨h1, h2⟩, h3⟩, h4⟩ := hsig
    refine ⟨hid', h1.trans hid', h2, h3, h4, hs.symm, ?_⟩
    rcases record with _ | n <;> rcases hk : ch.remoteRec with _ | k <;> rw [hk] at hch <;>
      simp only [Option.some.injEq] at hch
    · cases hch
    · exact Or.inr (by rw [hch])
    · exact Or.inl (by simp [hch])
    · split at hch
      · exact Or.inl (by simp [Option.some.inj hch])
      · exact Or.inr (by rw [Option.some.inj hch])

/-- First loop of `fail_session`: the requests queued for `na` are reported as failed. -/
def failPending (na : NA) (e : Err) : M Unit := do
  let s ← getS
  match s.pending.find? (·.1 == na) with
  | some ent =>
    setS { s with pending := s.pending.filter (·.1 != na) }
    forEach ent.2 fun pr => do
      if !pr.internal then emit (.failed pr.rid e)
  | none => pure ()

/-- Second loop of `fail_session`: the active requests to `na` are removed and reported as failed. -/
def failActive (na : NA) (e : Err) : M Unit := do
  let calls ← activeRemoveRequests na
  forEach calls fun call => do
    if !call.internal then emit (.failed call.rid e)
    removeExpected na.addr

theorem failSession_eq (c : Cfg) (na : NA) (e : Err) (rm : Bool) : failSession c na e rm =
    ((if rm then removeExpiredSessions c >>= fun _ => sessRemove na else pure ()) >>= fun _ =>
      failPending na e >>= fun _ => failActive na e) := by
  funext st
  show StateT.run _ st = StateT.run _ st
  cases rm
  · simp only [failPending, Bool.false_eq_true, if_false, run_bind, run_getS, run_pure]
    cases List.find? (fun x : NA × List PendingReq => x.1 == na) st.1.pending <;> rfl
  · simp only [failPending, if_true, run_bind, run_getS]
    cases List.find? (fun x : NA × List PendingReq => x.1 == na) _ <;> rfl

/-- `update_packet` with the timer re-arm of `replay_active_requests`. -/
def replayStep (c : Cfg) (old : Nat) (p : Pkt) (s : HState) : HState :=
  { s with
    active := s.active.map (fun call =>
      if call.pkt.nonce == old then
        { call with pkt := p, deadline := s.now + c.requestTimeout, tseq := s.tctr }
      else call),
    tctr := s.tctr + 1 }

theorem replayActiveRequests_eq (c : Cfg) (na : NA) (skipNonce : Option Nat) :
    replayActiveRequests c na skipNonce = (do
      match ← sessGetMut c na with
      | none => pure ()
      | some sess0 =>
        let s ← getS
        let calls := (s.active.filter (fun call => callNA call == na)).filter
          (fun call => match skipNonce with | some n => call.pkt.nonce != n | none => true)
        let (sess, packets) ← reencryptAll c calls sess0 []
        sessPut na sess
        forEach packets fun (oldNonce, p) => do
          modS (replayStep c oldNonce p)
          send na p) := rfl

/-- The check of the ENR response that completes a session established without a record. -/
def verifyLast (na : NA) (rb : RespBody) : M Bool := do
  match rb with
  | .nodes _ recs =>
    match recs.getLast? with
    | some r =>
      if verifyEnr r na then
        emit (.established r na.addr true)
        return true
      else
        emit (.unverifiable r na.addr na.id)
        return false
    | none => return false
  | _ => return false

/-- The branch of `handle_message` for the awaited ENR response. -/
def finishEnr (c : Cfg) (na : NA) (sess' : Session) (rid : Nat) (rb : RespBody) : M Unit := do
  sessPut na { sess' with awaitingEnr := none }
  match ← activeRemoveRequest na rid with
  | some _ => removeExpected na.addr
  | none => pure ()
  let verified ← verifyLast na rb
  if !verified then failSession c na .invalidRemoteEnr true

/-- The end of `finishEnr`: the session is failed unless the last record of the response verifies. -/
def verifyAwaited (c : Cfg) (na : NA) (rb : RespBody) : M Unit := do
  let verified ← verifyLast na rb
  if !verified then failSession c na .invalidRemoteEnr true

theorem handleMessage_eq (c : Cfg) (na : NA) (nonce : Nat) (ct : Ct) : handleMessage c na nonce ct = (do
    match ← sessGetMut c na with
    | none => emit (.wru na nonce)
    | some sess =>
      sessPut na (decryptMessage sess nonce ct).1
      match (decryptMessage sess nonce ct).2 with
      | none =>
        failSession c na .invalidRemotePacket true
        let s ← getS
        if !s.challenges.any (·.1 == na) then emit (.wru na nonce)
      | some .undecodable => pure ()
      | some (.request rid body) => emit (.request na rid body)
      | some (.response rid rb) =>
        if (decryptMessage sess nonce ct).1.awaitingEnr == some rid then
          finishEnr c na (decryptMessage sess nonce ct).1 rid rb
        else handleResponse c na rid rb) := rfl

/-- The pending queue with one more request for `contact.na`. -/
def SU.pushPending (pending : List (NA × List PendingReq)) (contact : Contact) (rid : Nat) (internal : Bool)
    (body : Nat) : List (NA × List PendingReq) :=
  let pr : PendingReq := { contact := contact, rid := rid, internal := internal, body := body }
  if pending.any (·.1 == contact.na) then
    pending.map (fun e => if e.1 == contact.na then (e.1, e.2 ++ [pr]) else e)
  else pending ++ [(contact.na, [pr])]

theorem SU.mem_pushPending {pending : List (NA × List PendingReq)} {contact : Contact} {rid : Nat}
    {internal : Bool} {body : Nat} {e : NA × List PendingReq}
    (he : e ∈ SU.pushPending pending contact rid internal body) :
    e ∈ pending ∨ (e.1 = contact.na ∧ ∀ pr ∈ e.2,
      pr = { contact := contact, rid := rid, internal := internal, body := body } ∨
        ∃ e0 ∈ pending, e0.1 = contact.na ∧ pr ∈ e0.2) := by
  unfold SU.pushPending at he
  dsimp only at he
  split at he
  · obtain ⟨e0, h0, rfl⟩ := List.mem_map.1 he
    by_cases hk : (e0.1 == contact.na) = true
    · rw [if_pos hk]
      refine Or.inr ⟨beq_iff_eq.1 hk, fun pr hpr => ?_⟩
      rcases List.mem_append.1 hpr with h | h
      · exact Or.inr ⟨e0, h0, beq_iff_eq.1 hk, h⟩
      · exact Or.inl (List.mem_singleton.1 h)
    · rw [if_neg hk]; exact Or.inl h0
  · rcases List.mem_append.1 he with h | h
    · exact Or.inl h
    · rw [List.mem_singleton.1 h]
      exact Or.inr ⟨rfl, fun pr hpr => Or.inl (List.mem_singleton.1 hpr)⟩

/-- `send_request` behind a challenge or a handshake in progress: the request is queued. -/
def queueRequest (contact : Contact) (rid : Nat) (internal : Bool) (body : Nat) : M (Option Err) := do
  modS fun s =>
    let pr : PendingReq := { contact := contact, rid := rid, internal := internal, body := body }
    if s.pending.any (·.1 == contact.na) then
      { s with pending := s.pending.map (fun e => if e.1 == contact.na then (e.1, e.2 ++ [pr]) else e) }
    else { s with pending := s.pending ++ [(contact.na, [pr])] }
  return none

theorem queueRequest_run (contact : Contact) (rid : Nat) (internal : Bool) (body : Nat)
    (st : HState × List Out) : (queueRequest contact rid internal body).run st =
      (none, ({ st.1 with pending := SU.pushPending st.1.pending contact rid internal body }, st.2)) := by
  unfold queueRequest SU.pushPending
  simp only [run_bind, run_modS, run_pure]
  split <;> rfl

/-- The tail of `send_request` once the packet is made. -/
def sendTail (c : Cfg) (contact : Contact) (rid : Nat) (internal : Bool) (body : Nat) (pkt : Pkt)
    (initiating : Bool) : M (Option Err) := do
  addExpected contact.na.addr
  send contact.na pkt
  activeInsert c { contact := contact, pkt := pkt, rid := rid, internal := internal, body := body,
                   initiating := initiating }
  return none

/-- The "send now" branch of `send_request`. -/
def sendNow (c : Cfg) (contact : Contact) (rid : Nat) (internal : Bool) (body : Nat) : M (Option Err) := do
  match ← sessGetMut c contact.na with
  | some sess =>
    let (sess', p) ← encryptMessage c sess (.request rid body)
    sessPut contact.na sess'
    sendTail c contact rid internal body p false
  | none =>
    let n ← freshNonce c
    sendTail c contact rid internal body (Pkt.message c.localId n .garbage) true

theorem sendRequest_split (c : Cfg) (contact : Contact) (rid : Nat) (internal : Bool) (body : Nat) :
    sendRequest c contact rid internal body =
      (if c.listen.contains contact.na.addr then pure (some .selfRequest) else
        getS >>= fun s =>
        if s.challenges.any (·.1 == contact.na) then queueRequest contact rid internal body else
        isAwaitingSession c contact.na >>= fun awaiting =>
        if awaiting then queueRequest contact rid internal body else sendNow c contact rid internal body) :=
  rfl

/-- The induction on the fuel, for every logic over `StateT.run`. -/
theorem fireTimers_inv {I : HState × List Out → Prop} (c : Cfg) (target : Nat)
    (hreq : ∀ st d call, I st → nextDue st.1 target = some (d, .inl call) →
      I ((handleRequestTimeout c call).run
        ({ st.1 with active := st.1.active.erase call, now := max st.1.now d }, st.2)).2)
    (hch : ∀ st d na, I st → nextDue st.1 target = some (d, .inr na) →
      I ((removeExpected na.addr >>= fun _ => sendPendingRequests c na).run
        ({ st.1 with challenges := st.1.challenges.filter (·.1 != na), now := max st.1.now d }, st.2)).2)
    (fuel : Nat) (st : HState × List Out) (h : I st) : I ((fireTimers c target fuel).run st).2 := by
  induction fuel generalizing st with
  | zero => exact h
  | succ n ih =>
    unfold fireTimers
    rw [run_bind, run_getS]
    rcases hnd : nextDue st.1 target with _ | ⟨d, call | na⟩
    · exact h
    · exact ih _ (hreq st d call h hnd)
    · exact ih _ (hch st d na h hnd)

namespace RQ

theorem step_eq (c : Cfg) (s : HState) (e : Ev) : step c s e = ((stepM c e).run (s, [])).2 := rfl

theorem snoc_induction {α} {P : List α → Prop} (h0 : P []) (h1 : ∀ l x, P l → P (l ++ [x])) :
    ∀ l, P l := by
  intro l
  rw [← List.reverse_reverse l]
  induction l.reverse with
  | nil => exact h0
  | cons x xs ih => rw [List.reverse_cons]; exact h1 _ _ ih

theorem run_snoc (c : Cfg) (evs : List Ev) (e : Ev) : run c (evs ++ [e]) = (step c (run c evs) e).1 := by
  simp [run, List.foldl_append]

theorem trace_append (c : Cfg) (s : HState) (l1 l2 : List Ev) :
    trace c s (l1 ++ l2) = trace c s l1 ++ trace c (l1.foldl (fun s e => (step c s e).1) s) l2 := by
  induction l1 generalizing s with
  | nil => rfl
  | cons e es ih => simp only [List.cons_append, trace, List.foldl_cons, ih]

theorem outputs_snoc (c : Cfg) (evs : List Ev) (e : Ev) :
    outputs c (evs ++ [e]) = outputs c evs ++ (step c (run c evs) e).2 := by
  unfold outputs
  rw [trace_append]
  simp [trace, run]

theorem run_induction {c : Cfg} {I : List Ev → HState → List Out → Prop} (h0 : I [] {} [])
    (hs : ∀ evs e, I evs (run c evs) (outputs c evs) →
      I (evs ++ [e]) (step c (run c evs) e).1 (outputs c evs ++ (step c (run c evs) e).2))
    (evs : List Ev) : I evs (run c evs) (outputs c evs) := by
  induction evs using snoc_induction with
  | h0 => exact h0
  | h1 evs e ih => rw [run_snoc, outputs_snoc]; exact hs evs e ih

theorem run_inv {c : Cfg} {I : HState → List Out → Prop} (h0 : I {} [])
    (hs : ∀ s os e, I s os → I (step c s e).1 (os ++ (step c s e).2)) (evs : List Ev) :
    I (run c evs) (outputs c evs) :=
  run_induction (I := fun _ => I) h0 (fun _ e h => hs _ _ e h) evs

theorem run_inv_state {c : Cfg} {J : HState → Prop} (h0 : J {})
    (hs : ∀ e, Ho (fun st => J st.1) (stepM c e) (fun _ st => J st.1)) (evs : List Ev) : J (run c evs) :=
  run_inv (I := fun s _ => J s) h0 (fun s _ e h => (hs e).out (s, []) h) evs

end RQ

end Discv5.H
