/-
Ghost ledger for `Model/Lookup.lean`: the peers `next` hands out while the service serves a lookup,
over the whole life of the lookup, are the `requests` of a query history - hence pairwise distinct
(the `nd` field of `Query.LInv`): the service never asks `send_rpc_query` for the same peer twice in one
lookup.
-/
import Discv5Model.Proofs.LookupLemmas

namespace Discv5.Lookup

open Discv5.KB
open Discv5.Svc
open Discv5.Svc.Svc
open Discv5.Query (runQ stepQ withConfig Variant runQ_append requests requests_append emittedOf)

/-- `q` is a query history and `sel` is the list of peers `next` handed out along it. -/
def IsLedger (c : LCfg) (q : Q) (sel : List Nat) : Prop :=
  ∃ v n target known evs, q = runQ (withConfig v (qcfg c n) target known) evs ∧
    sel = requests (withConfig v (qcfg c n) target known) evs

theorem IsLedger.nodup {c : LCfg} {q : Q} {sel : List Nat} (h : IsLedger c q sel) : sel.Nodup := by
  obtain ⟨v, n, target, known, evs, _, rfl⟩ := h
  exact Query.requests_nodup v (qcfg c n) target known evs

theorem IsLedger.history {c : LCfg} {q : Q} {sel : List Nat} (h : IsLedger c q sel) : IsHistory c q := by
  obtain ⟨v, n, target, known, evs, rfl, _⟩ := h
  exact ⟨v, n, target, known, evs, rfl⟩

theorem IsLedger.run {c : LCfg} {q : Q} {sel : List Nat} (h : IsLedger c q sel) (evs' : List Query.Ev) :
    IsLedger c (runQ q evs') (sel ++ requests q evs') := by
  obtain ⟨v, n, target, known, evs, rfl, rfl⟩ := h
  exact ⟨v, n, target, known, evs ++ evs', (runQ_append _ _ _).symm, (requests_append _ _ _).symm⟩

theorem IsLedger.silent {c : LCfg} {q : Q} {sel : List Nat} (h : IsLedger c q sel) (ev : Query.Ev)
    (hs : emittedOf (stepQ q ev).2 = none) : IsLedger c (stepQ q ev).1 sel := by
  have h1 : IsLedger c (stepQ q ev).1 (sel ++ requests q [ev]) := h.run [ev]
  rwa [show requests q [ev] = [] from (List.append_nil _).trans (congrArg Option.toList hs),
    List.append_nil] at h1

theorem IsLedger.applyEffect {c : LCfg} {q : Q} {sel : List Nat} (h : IsLedger c q sel) (e : QEffect) :
    IsLedger c (applyEffect c q e) sel := by
  cases e with
  | success src kept => exact h.silent (.success src _) rfl
  | failure p => exact h.silent (.failure p) rfl

theorem pumpLoop_ledger (c : LCfg) (now : Nat) (fuel : Nat) (s : Svc) (q : Q) (outs : List Out)
    (sel : List Nat) (h : IsLedger c q sel) :
    (∀ q', (pumpLoop now fuel s q outs).2.1 = some q' → IsLedger c q' (sel ++ pumpPeers now fuel s q)) ∧
    (sel ++ pumpPeers now fuel s q).Nodup := by
  obtain ⟨evs, _, _, hreq, hcase⟩ := pumpLoop_spec now fuel s q outs
  have hrun := h.run evs
  rw [hreq] at hrun
  refine ⟨fun q' hq => ?_, hrun.nodup⟩
  rcases hcase with ⟨_, h2, _⟩ | ⟨_, h2, _⟩ <;> rw [h2] at hq <;> cases hq
  exact hrun

/-- The ledger after `pump`. -/
def pumpSel (now : Nat) (k : LSvc) (sel : List Nat) : List Nat :=
  match k.q with
  | none => sel
  | some q => sel ++ pumpPeers now (q.peers.length + 1) k.svc q

/-- The ledger of the running lookup after a step: peers handed out so far (reset when a lookup starts). -/
def stepSel (c : LCfg) (now : Nat) (k : LSvc) (sel : List Nat) : LInput → List Nat
  | .svc o inp =>
    pumpSel now { svc := (k.svc.step o inp).1, q := match k.q, effectOf k.svc inp with
      | some q, some e => some (applyEffect c q e)
      | q, _ => q } sel
  | .lookup target n =>
    if k.q.isSome then sel else
    match (k.svc.startQuery target).query with
    | none => []
    | some qq => pumpSel now { svc := k.svc.startQuery target, q := some (newQ c target n qq) } []

/-- While a lookup runs, the ledger is the `requests` of the history the lookup's state is the end of. -/
def LedInv (c : LCfg) (k : LSvc) (sel : List Nat) : Prop := ∀ q, k.q = some q → IsLedger c q sel

theorem ledInv_of_history {c : LCfg} {k : LSvc} (h : ∀ q, k.q = some q → IsHistory c q) :
    ∃ sel, LedInv c k sel := by
  cases hk : k.q with
  | none => exact ⟨[], fun q hq => by rw [hk] at hq; cases hq⟩
  | some q0 =>
    obtain ⟨v, n, target, known, evs, he⟩ := h q0 hk
    exact ⟨_, fun q hq => by rw [hk] at hq; cases hq; exact ⟨v, n, target, known, evs, he, rfl⟩⟩

theorem pump_ledger (c : LCfg) (now : Nat) (k : LSvc) (sel : List Nat) (h : LedInv c k sel) :
    LedInv c (pump now k).1 (pumpSel now k sel) ∧ (k.q.isSome = true → (pumpSel now k sel).Nodup) := by
  unfold pump pumpSel LedInv
  cases hq : k.q with
  | none =>
    exact ⟨fun q h' => (by rw [hq] at h'; cases h'), fun h' => by cases h'⟩
  | some q0 =>
    have := pumpLoop_ledger c now (q0.peers.length + 1) k.svc q0 [] sel (h q0 hq)
    exact ⟨this.1, fun _ => this.2⟩

theorem step_ledger (c : LCfg) (now : Nat) (k : LSvc) (sel : List Nat) (i : LInput) (h : LedInv c k sel) :
    LedInv c (k.step c now i).1 (stepSel c now k sel i) := by
  cases i with
  | svc o inp =>
    rw [step_svc]
    refine (pump_ledger c now _ sel ?_).1
    intro q hq
    simp only at hq
    cases hk : k.q with
    | none => rw [hk] at hq; simp at hq
    | some q0 =>
      rw [hk] at hq
      cases he : effectOf k.svc inp with
      | none => rw [he] at hq; cases hq; exact h _ hk
      | some e => rw [he] at hq; cases hq; exact (h _ hk).applyEffect e
  | lookup target n =>
    unfold stepSel
    cases hr : k.q.isSome with
    | true => rw [step_lookup_running c now k target n hr]; simpa using h
    | false =>
      simp only [Bool.false_eq_true, if_false]
      cases hs : (k.svc.startQuery target).query with
      | none =>
        rw [step_lookup_empty c now k target n hr hs]
        intro q hq; cases hq
      | some qq =>
        rw [step_lookup_start c now k target n qq hr hs]
        refine (pump_ledger c now _ [] ?_).1
        intro q hq
        cases hq
        cases n with
        | none => exact ⟨.closest, _, target, _, [], rfl, rfl⟩
        | some m => exact ⟨.predicate, m, target, _, [], rfl, rfl⟩

/-- A history with its ledger. -/
def runSel (c : LCfg) : LSvc → List Nat → List (Nat × LInput) → LSvc × List Nat
  | k, sel, [] => (k, sel)
  | k, sel, (now, i) :: rest => runSel c (k.step c now i).1 (stepSel c now k sel i) rest

theorem runSel_ledger (c : LCfg) (steps : List (Nat × LInput)) :
    ∀ (k : LSvc) (sel : List Nat), LedInv c k sel →
      LedInv c (runSel c k sel steps).1 (runSel c k sel steps).2 := by
  induction steps with
  | nil => intro k sel h; exact h
  | cons s rest ih =>
    intro k sel h
    obtain ⟨now, i⟩ := s
    exact ih _ _ (step_ledger c now k sel i h)

end Discv5.Lookup
