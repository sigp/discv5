/-
The honest NODES responder (C11, C14): what `nodes_by_distances` returns sits in the bucket of a
requested distance, so every record `send_nodes_response` collects lies at a requested log2 distance
from the responder and the requester's distance filter accepts each packet whole.  Also the
bookkeeping of the active requests around a NODES response.
-/
import Discv5Model.Model.Service
import Discv5Model.Model.KBucketSpec
import Discv5Model.Proofs.KBucketLemmas
import Discv5Model.Proofs.ClosestLemmas
import Discv5Model.Proofs.ServiceServe
import Discv5Model.Proofs.ServicePolicy

namespace Discv5.KB

variable {V : Type} [DecidableEq V]

/-- Unfolds to `BVals Q b` (`KBucketLemmas`). -/
def BAll (Q : Nat → V → Prop) (b : Bucket V) : Prop :=
  (∀ n ∈ b.nodes, Q n.key n.value) ∧ (∀ p, b.pending = some p → Q p.node.key p.node.value)

/-- Unfolds to `TVals Q t` (`Proofs/ServiceVals.lean`), whose lemmas apply to it as they are. -/
def TAll (Q : Nat → V → Prop) (t : Table V) : Prop := ∀ b ∈ t.buckets, BAll Q b

omit [DecidableEq V] in
theorem TAll.bucket {Q : Nat → V → Prop} {t : Table V} (h : TAll Q t) (i : Nat) :
    BAll Q (t.bucket i) := by
  unfold Table.bucket
  rw [List.getD_eq_getElem?_getD]
  cases hi : t.buckets[i]? with
  | none => exact (And.intro (fun _ hn => nomatch hn) (fun _ hp => nomatch hp) : BAll Q {})
  | some b => exact h b (List.mem_of_getElem? hi)

theorem nodesByDistances_tall {c : Cfg V} {now : Nat} {t : Table V} {ds : List Nat} {m : Nat}
    {Q : Nat → V → Prop} (h : TAll Q t) : TAll Q (t.nodesByDistances c now ds m).1 :=
  step_vals (op := .nodesByDistances now ds m) h (fun _ _ h => h.elim)

theorem nodesByDistances_mem (c : Cfg V) (now : Nat) (t : Table V) (ds : List Nat) (m : Nat)
    {Q : Nat → V → Prop} (h : TInv c t) (hQ : TVals Q t) :
    ∀ n ∈ (t.nodesByDistances c now ds m).2,
      (∃ d ∈ ds, 1 ≤ d ∧ d ≤ 256 ∧ bucketIndex t.localKey n.key = some (d - 1)) ∧
      Q n.key n.value := by
  intro n hn
  obtain ⟨d, hd1, hd2⟩ := nodesByDistances_mem_bucket c now t ds m n hn
  rw [validDistances_eq, List.mem_filter, decide_eq_true_eq] at hd1
  refine ⟨⟨d, hd1.1, hd1.2.1, hd1.2.2, ?_⟩, nodesByDistances_out_vals hQ n hn⟩
  rw [← step_localKey c t (.nodesByDistances now ds m)]
  exact (step_tinv c t (.nodesByDistances now ds m) h).placed (d - 1) (by omega) n hd2

/-- The shape of the buckets in the worked examples of C11 and C14: fresh nodes `mk k` for distinct
keys, all outgoing and all with the same connection flag, and possibly a pending node with yet
another key. -/
theorem binv_uniform (c : Cfg V) (tick : Nat) (mk : Nat → Node V) (conn : Bool) (keys : List Nat)
    (pending : Option (Pending V)) (hkey : ∀ k, (mk k).key = k)
    (hst : ∀ k, (mk k).st = { conn := conn, incoming := false }) (hstamp : ∀ k, (mk k).stamp = 0)
    (hlen : keys.length ≤ 16) (hne : keys ≠ []) (hnd : keys.Nodup)
    (hp : ∀ p, pending = some p → p.node.key ∉ keys) :
    BInv c tick { nodes := keys.map mk, fcp := if conn then some 0 else none, pending := pending } := by
  have hkeys : (keys.map mk).map (·.key) = keys := by
    rw [List.map_map]
    exact (List.map_congr_left fun k _ => hkey k).trans (List.map_id _)
  have hmem : ∀ n ∈ keys.map mk, n.st = { conn := conn, incoming := false } ∧ n.stamp = 0 := by
    intro n hn
    obtain ⟨k, _, rfl⟩ := List.mem_map.1 hn
    exact ⟨hst k, hstamp k⟩
  have hsorted : (keys.map mk).Pairwise (fun a b => a.stamp ≤ b.stamp) :=
    List.Pairwise.imp_of_mem (fun ha _ _ => by rw [(hmem _ ha).2]; exact Nat.zero_le _)
      (List.pairwise_of_forall (R := fun _ _ => True) (fun _ _ => trivial))
  have hne' : keys.map mk ≠ [] := fun e => hne (List.map_eq_nil_iff.1 e)
  refine ⟨by rw [List.length_map]; exact hlen, ?_, by rw [hkeys]; exact hnd,
    fun p h => by rw [hkeys]; exact hp p h, ?_, fun n hn => by rw [(hmem n hn).2]; exact Nat.zero_le _⟩
  · cases conn
    · exact ⟨keys.map mk, [], (List.append_nil _).symm, fun n hn => by rw [(hmem n hn).1], nofun, rfl,
        hsorted, List.Pairwise.nil⟩
    · exact ⟨[], keys.map mk, rfl, nofun, fun n hn => by rw [(hmem n hn).1], by rw [if_neg hne']; rfl,
        List.Pairwise.nil, hsorted⟩
  · rw [List.filter_eq_nil_iff.2 fun n hn => by rw [(hmem n hn).1]; simp]
    exact Nat.zero_le _

end Discv5.KB

namespace Discv5.Svc

open Discv5.KB Discv5.Svc.Svc

theorem log2Distance_self (a : Nat) : log2Distance a a = none := by
  simp [log2Distance]

theorem log2Distance_ge_one {a b d : Nat} (h : log2Distance a b = some d) : 1 ≤ d := by
  unfold log2Distance at h
  by_cases hz : a ^^^ b = 0
  · simp [hz] at h
  · simp [hz] at h; omega

/-- Bucket `i` of the responder's table = log2 distance `i + 1` from the responder's id. -/
theorem log2Distance_of_bucketIndex {a b i : Nat} (h : bucketIndex a b = some i) :
    log2Distance a b = some (i + 1) := by
  unfold bucketIndex at h
  unfold log2Distance
  by_cases hz : a ^^^ b = 0
  · simp [hz] at h
  · simp only [hz, if_false, Option.some.injEq] at h ⊢
    omega

/-- `getD 0`: the responder's own record counts as distance 0. -/
theorem nodesToSend_wanted (s : Svc) (requester : Nat) (ds : List Nat)
    (hT : TInv s.cfg.kb s.table) (hL : s.table.localKey = s.localRec.id)
    (hK : TVals (fun k (v : Rec) => v.id = k) s.table) :
    ∀ r ∈ (s.nodesToSend requester ds).2, (log2Distance s.localRec.id r.id).getD 0 ∈ ds := by
  intro r hr
  rw [nodesToSend_snd, List.mem_append] at hr
  rcases hr with hr | hr
  · split at hr
    · rename_i h0
      rw [List.mem_singleton.1 hr, log2Distance_self]
      simpa using h0
    · cases hr
  · rw [List.mem_map] at hr
    obtain ⟨n, hn, rfl⟩ := hr
    obtain ⟨⟨d, hd, h1, _, hbi⟩, hid⟩ := nodesByDistances_mem s.cfg.kb s.now s.table _
      s.cfg.maxNodesResponse hT hK n (List.mem_filter.1 hn).1
    have hid' : n.value.id = n.key := hid
    rw [hL] at hbi
    rw [hid', log2Distance_of_bucketIndex hbi, Option.getD_some, Nat.sub_add_cancel h1]
    exact ((normDistances ds).2 d).1 (List.mem_filter.1 hd).1

theorem nodesToSend_enr (s : Svc) (requester : Nat) :
    s.nodesToSend requester [0] = (s, [s.localRec]) := by
  rfl

theorem splitPackets_sublist {recs p : List Rec} (h : p ∈ splitPackets recs) : p.Sublist recs := by
  have := List.sublist_flatten_of_mem h
  rwa [splitPackets_flatten] at this

theorem nodesPackets_sublist {recs p : List Rec} (h : p ∈ (nodesPackets recs).1) :
    p.Sublist recs := by
  unfold nodesPackets at h
  by_cases he : recs.isEmpty = true
  · rw [if_pos he] at h
    rw [List.mem_singleton.1 h]
    exact List.nil_sublist _
  · rw [if_neg he] at h
    exact splitPackets_sublist h

/-- The ENR-request test of `handle_rpc_response` (`distances.len() == 1 && distances[0] == 0`). -/
theorem isEnrRequest_iff (ds : List Nat) : (ds.length == 1 && ds.head? == some 0) = true ↔ ds = [0] := by
  match ds with
  | [] => simp
  | [x] => simp
  | _ :: _ :: _ => simp

theorem acceptNodes_fst (peer : Nat) (ds : List Nat) (recs : List Rec) :
    (acceptNodes peer ds recs).1 =
      recs.filter (fun r => ds.contains ((log2Distance peer r.id).getD 0)) := by
  unfold acceptNodes
  split
  · rename_i h
    rw [(isEnrRequest_iff ds).1 h]
    apply List.filter_congr
    intro r _
    cases hd : log2Distance peer r.id with
    | none => simp
    | some d => have := log2Distance_ge_one hd; simp; omega
  · apply List.filter_congr
    intro r _
    cases log2Distance peer r.id <;> rfl

/-- The ban flag: the filter dropped something, or an ENR request was answered with more than one
record. -/
theorem acceptNodes_snd (peer : Nat) (ds : List Nat) (recs : List Rec) :
    (acceptNodes peer ds recs).2 =
      (decide (ds = [0] ∧ 1 < recs.length) ||
        decide ((acceptNodes peer ds recs).1.length < recs.length)) := by
  unfold acceptNodes
  split
  · rename_i h
    simp [(isEnrRequest_iff ds).1 h]
  · rename_i h
    have hne : ds ≠ [0] := fun e => h ((isEnrRequest_iff ds).2 e)
    simp [hne]

theorem acceptNodes_ok (peer : Nat) (ds : List Nat) (p : List Rec)
    (h : ∀ r ∈ p, (log2Distance peer r.id).getD 0 ∈ ds) (h1 : ds = [0] → p.length ≤ 1) :
    acceptNodes peer ds p = (p, false) := by
  have hk : (acceptNodes peer ds p).1 = p := by
    rw [acceptNodes_fst, List.filter_eq_self]
    intro r hr
    simpa using h r hr
  refine Prod.ext hk ?_
  rw [acceptNodes_snd, hk]
  simp only [Nat.lt_irrefl, decide_false, Bool.or_false, decide_eq_false_iff_not, not_and, Nat.not_lt]
  exact h1

theorem honest_packets_ok (s : Svc) (requester : Nat) (ds : List Nat)
    (hT : TInv s.cfg.kb s.table) (hL : s.table.localKey = s.localRec.id)
    (hK : TVals (fun k (v : Rec) => v.id = k) s.table) :
    ∀ p ∈ (nodesPackets (s.nodesToSend requester ds).2).1,
      acceptNodes s.localRec.id ds p = (p, false) := by
  intro p hp
  have hsub := nodesPackets_sublist hp
  refine acceptNodes_ok _ _ _ (fun r hr => nodesToSend_wanted s requester ds hT hL hK r (hsub.subset hr)) ?_
  intro hds
  subst hds
  rw [nodesToSend_enr] at hsub
  exact hsub.length_le

theorem sendNodesResponse_out (s : Svc) (peer : Nat) (addr : Addr) (rid : Bytes) (ds : List Nat) :
    (s.sendNodesResponse peer addr rid ds).2 =
      (nodesPackets (s.nodesToSend peer ds).2).1.map
        (fun p => Out.response peer addr rid (.nodes (nodesPackets (s.nodesToSend peer ds).2).2 p)) := by
  rfl

theorem nodesPackets_total (recs : List Rec) :
    (nodesPackets recs).2 = (nodesPackets recs).1.length ∧ 1 ≤ (nodesPackets recs).1.length := by
  unfold nodesPackets
  split
  · simp
  · simp [splitPackets]

theorem mem_sendNodesResponse {s : Svc} {requester : Nat} {addr : Addr} {rid : Bytes} {ds : List Nat}
    {total : Nat} {recs : List Rec}
    (h : Out.response requester addr rid (.nodes total recs) ∈
      (s.sendNodesResponse requester addr rid ds).2) :
    recs ∈ (nodesPackets (s.nodesToSend requester ds).2).1 ∧
    total = (nodesPackets (s.nodesToSend requester ds).2).1.length := by
  rw [sendNodesResponse_out, List.mem_map] at h
  obtain ⟨p, hp, he⟩ := h
  injection he with _ _ _ hb
  injection hb with ht hr
  subst hr
  exact ⟨hp, by rw [← ht, (nodesPackets_total _).1]⟩

/-! ### `discovered` leaves the active requests alone -/

theorem entryRemove_active (s : Svc) (key : Nat) : (s.entryRemove key).active = s.active := by
  unfold entryRemove
  cases bucketIndex s.table.localKey key <;> rfl

theorem discoveredOne_active (s : Svc) (source : Nat) (r : Rec) :
    (s.discoveredOne source r).1.active = s.active := by
  rw [discoveredOne_fst]
  split
  · rfl
  split
  · split
    · split
      · rfl
      · exact entryRemove_active ..
    · rfl
  · rfl

theorem discoveredLoop_active : ∀ (recs : List Rec) (s : Svc) (source : Nat) (kept : List Rec)
    (outs : List Out), (discoveredLoop s source recs kept outs).1.active = s.active
  | [], _, _, _, _ => rfl
  | r :: rs, s, source, kept, outs => by
    rw [discoveredLoop_cons, discoveredLoop_active rs]
    exact discoveredOne_active s source r

theorem discovered_active (s : Svc) (source : Nat) (recs : List Rec) (query : Option Nat) :
    (s.discovered source recs query).1.active = s.active := by
  have h := discoveredLoop_active recs s source [] []
  unfold discovered
  generalize discoveredLoop s source recs [] [] = x at h ⊢
  obtain ⟨s1, kept, outs⟩ := x
  simp only [] at h ⊢
  repeat' split
  all_goals exact h

theorem takeNodesResp_active (s : Svc) (id : Nat) :
    (s.takeNodesResp id).1.active = s.active := by
  unfold takeNodesResp
  cases s.nodesResp.find? (fun p => p.1 == id) <;> rfl

theorem takeNodesResp_snd (s : Svc) (id : Nat) :
    (s.takeNodesResp id).2 = (s.nodesResp.find? (fun p => p.1 == id)).map (·.2) := by
  unfold takeNodesResp
  cases s.nodesResp.find? (fun p => p.1 == id) <;> rfl

theorem nodesArm_active (s : Svc) (peer : Nat) (addr : Addr) (id : Nat) (req : ActiveReq) (total : Nat)
    (recs : List Rec) :
    (nodesArm s peer addr id req total recs).1.active = s.active ∨
    ∃ nr, nodesAccount s.cfg.maxNodesResponse total
      (if total > 1 then (s.nodesResp.find? (fun p => p.1 == id)).map (·.2) else none)
      (acceptNodes peer (requestedOf req.body) recs).1 = .wait nr := by
  have hcur : (if total > 1 then s.takeNodesResp id else (s, none)).1.active = s.active ∧
      (if total > 1 then s.takeNodesResp id else (s, none)).2 =
        if total > 1 then (s.nodesResp.find? (fun p => p.1 == id)).map (·.2) else none := by
    split
    · exact ⟨takeNodesResp_active s id, takeNodesResp_snd s id⟩
    · exact ⟨rfl, rfl⟩
  unfold nodesArm
  split
  · exact Or.inl rfl
  simp only
  split
  · rename_i nr hacc
    exact Or.inr ⟨nr, by rw [← hcur.2]; exact hacc⟩
  · exact Or.inl (by rw [discovered_active, takeNodesResp_active, hcur.1])

theorem handleResponse_nodes_active (s : Svc) (o : Oracle) (peer : Nat) (addr : Addr) (id total : Nat)
    (recs : List Rec) (req : ActiveReq)
    (hreq : activeReq s id = some req) :
    (s.handleResponse o peer addr id (.nodes total recs)).1.active =
        s.active.filter (fun b => b.id != id) ∨
    ∃ nr, nodesAccount s.cfg.maxNodesResponse total
      (if total > 1 then (s.nodesResp.find? (fun p => p.1 == id)).map (·.2) else none)
      (acceptNodes peer (requestedOf req.body) recs).1 = .wait nr := by
  rw [handleResponse_eq, hreq]
  simp only
  split
  · exact Or.inl rfl
  · exact nodesArm_active (dropActive s id) peer addr id req total recs

end Discv5.Svc
