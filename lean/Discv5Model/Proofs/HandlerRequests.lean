/-
C04: every request gets exactly one outcome (handler model).

Two invariants that every primitive keeps on its own are instances of the walk of `HandlerWalk`: a
timeout failure is only reported on the timer path (`NoTO`), and retry counters stay within
`request_retries` (`RB`).  Walk P (`P_<function>`) shows that every non-empty pending queue has a
releaser; the set of addresses exempted from the claim changes along a function, so the walk has
lemmas of its own.  Walk A (`A_<function>`) accounts tracked requests against reported outcomes,
with the items in hand as a ghost list; summed over a history this bounds failures plus tracked
occurrences by the submissions from above and tracked occurrences plus reports from below, from
which the theorems of `Props/C04.lean` follow.
-/
import Discv5Model.Proofs.HandlerWalk

namespace Discv5.H.RQ

def NoTO (st : St) : Prop := ∀ rid, Out.failed rid .timeout ∉ st.2

theorem NoTO.leaves (c : Cfg) : Leaves c (fun o => ∀ rid, o ≠ .failed rid .timeout) NoTO (fun _ => True) where
  emit o ho := ⟨fun st hp rid hm => by
    rcases List.mem_append.1 hm with hm | hm
    · exact hp rid hm
    · exact ho rid (List.mem_singleton.1 hm).symm⟩
  plain _ h _ := h

theorem timeout_failure_only_on_adv (c : Cfg) (s : HState) (e : Ev) (rid : Nat)
    (h : Out.failed rid .timeout ∈ (step c s e).2) : ∃ dt, e = .adv dt :=
  Classical.byContradiction fun he =>
    ((NoTO.leaves c).ho_stepM {} (fun _ _ => trivial) e (fun dt h => absurd ⟨dt, h⟩ he) (fun _ _ _ _ _ _ _ _ => nofun)
      (fun dt h => absurd ⟨dt, h⟩ he) (fun _ _ _ h => h)).out (s, []) (fun _ h => nomatch h) rid h

def RB (c : Cfg) (st : St) : Prop := ∀ call ∈ st.1.active, call.retries ≤ c.requestRetries

theorem RB.leaves {c : Cfg} (hr : 1 ≤ c.requestRetries) :
    Leaves c (fun _ => True) (RB c) (fun call => call.retries ≤ c.requestRetries) where
  found _ call h hm := h call hm
  activeInsert call hc := Ho.modS _ (fun st hp x hx => by
    rcases List.mem_append.1 hx with hx | hx
    · exact hp x hx
    · rw [List.mem_singleton.1 hx]; exact hc)
  erase _ _ _ h := fun x hx => h x (List.mem_of_mem_erase hx)
  activeRemoveRequests _ := ⟨fun _ hp x hx => hp x (List.mem_filter.1 hx).1⟩
  replay st old p h := fun x hx => by
    obtain ⟨y, hy, rfl⟩ := List.mem_map.1 hx
    split <;> exact h y hy
  gc_new _ _ _ _ _ _ _ := hr
  gc_retry _ _ hlt := Nat.lt_of_not_ge hlt
  gc_hs _ _ _ h := h
  gc_remaining _ _ h := h

theorem active_retries_le (c : Cfg) (evs : List Ev) (hr : 1 ≤ c.requestRetries) :
    ∀ call ∈ (run c evs).active, call.retries ≤ c.requestRetries :=
  run_inv_state (J := fun s => ∀ call ∈ s.active, call.retries ≤ c.requestRetries)
    (fun _ h => nomatch h)
    (fun e => (RB.leaves hr).ho_stepM {} (fun _ _ => trivial) e (fun _ _ _ => trivial)
      (fun _ _ _ _ _ _ _ => trivial) (fun _ _ _ _ h => h) (fun _ _ _ h => h)) evs

/-! ## Walk P -/

/-- Address `k` has a releaser: an active challenge, or no session and an initiating call. -/
def Rel (s : HState) (k : NA) : Prop :=
  s.challenges.any (·.1 == k) = true ∨
    (s.sessions.all (·.1 != k) = true ∧
      s.active.any (fun call => call.contact.na == k && call.initiating) = true)

/-- `PendingHasReleaser` except for the addresses in `ex`. -/
def PX (ex : NA → Prop) (st : St) : Prop :=
  ∀ e ∈ st.1.pending, ¬ ex e.1 → e.2 ≠ [] → Rel st.1 e.1

theorem PX_iff (s : HState) (os : List Out) : PX (fun _ => False) (s, os) ↔ PendingHasReleaser s := by
  unfold PX PendingHasReleaser Rel
  constructor
  · intro h e he hne; exact h e he (fun h => h) hne
  · intro h e he _ hne; exact h e he hne

theorem Rel.mono {s s' : HState} {k : NA} (h : Rel s k)
    (hc : s.challenges.any (·.1 == k) = true → s'.challenges.any (·.1 == k) = true)
    (hs : s.sessions.all (·.1 != k) = true → s'.sessions.all (·.1 != k) = true)
    (ha : s.active.any (fun call => call.contact.na == k && call.initiating) = true →
      s'.active.any (fun call => call.contact.na == k && call.initiating) = true) : Rel s' k := by
  rcases h with h | ⟨h1, h2⟩
  · exact Or.inl (hc h)
  · exact Or.inr ⟨hs h1, ha h2⟩

theorem Rel.active {s s' : HState} {k : NA} (h : Rel s k) (hc : s'.challenges = s.challenges)
    (hs : s'.sessions = s.sessions)
    (ha : ∀ x ∈ s.active, (x.contact.na == k && x.initiating) = true →
      ∃ y ∈ s'.active, (y.contact.na == k && y.initiating) = true) : Rel s' k := by
  refine h.mono (hc ▸ id) (hs ▸ id) (fun h => ?_)
  rw [List.any_eq_true] at h ⊢
  obtain ⟨x, hx, hpx⟩ := h
  exact ha x hx hpx

theorem PX.step {ex : NA → Prop} {st st' : St} (h : PX ex st) (hp : st'.1.pending = st.1.pending)
    (hr : ∀ k, ¬ ex k → Rel st.1 k → Rel st'.1 k) : PX ex st' := by
  intro e he hx hne
  rw [hp] at he
  exact hr _ hx (h e he hx hne)

theorem PX.weaken {ex ex' : NA → Prop} {st : St} (h : PX ex st) (hx : ∀ k, ex k → ex' k) : PX ex' st :=
  fun e he hn hne => h e he (fun h => hn (hx _ h)) hne

theorem P_modS {ex : NA → Prop} (f : HState → HState) (hp : ∀ s, (f s).pending = s.pending)
    (hr : ∀ s k, ¬ ex k → Rel s k → Rel (f s) k) : Ho (PX ex) (modS f) (fun _ => PX ex) :=
  Ho.modS _ (fun st h => h.step (hp st.1) (hr st.1))

theorem P_frame {α} {ex : NA → Prop} {m : M α}
    (h : ∀ st, (m.run st).2.1.pending = st.1.pending ∧ (m.run st).2.1.challenges = st.1.challenges ∧
      (m.run st).2.1.sessions = st.1.sessions ∧ (m.run st).2.1.active = st.1.active) :
    Ho (PX ex) m (fun _ => PX ex) :=
  ⟨fun st hp => hp.step (h st).1 (fun k _ hr => by
    obtain ⟨_, h2, h3, h4⟩ := h st
    unfold Rel; rw [h2, h3, h4]; exact hr)⟩

theorem P_emit {ex} (o) : Ho (PX ex) (emit o) (fun _ => PX ex) :=
  P_frame (fun _ => ⟨rfl, rfl, rfl, rfl⟩)
theorem P_send {ex} (na p) : Ho (PX ex) (send na p) (fun _ => PX ex) :=
  P_frame (fun _ => ⟨rfl, rfl, rfl, rfl⟩)
theorem P_freshNonce {ex} (c : Cfg) : Ho (PX ex) (freshNonce c) (fun _ => PX ex) :=
  P_frame (fun _ => ⟨rfl, rfl, rfl, rfl⟩)
theorem P_freshCd {ex} (c : Cfg) : Ho (PX ex) (freshCd c) (fun _ => PX ex) :=
  P_frame (fun _ => ⟨rfl, rfl, rfl, rfl⟩)
theorem P_freshEph {ex} (c : Cfg) : Ho (PX ex) (freshEph c) (fun _ => PX ex) :=
  P_frame (fun _ => ⟨rfl, rfl, rfl, rfl⟩)
theorem P_freshRid {ex} (c : Cfg) : Ho (PX ex) (freshRid c) (fun _ => PX ex) :=
  P_frame (fun _ => ⟨rfl, rfl, rfl, rfl⟩)
theorem P_encryptMessage {ex} (c : Cfg) (s m) : Ho (PX ex) (encryptMessage c s m) (fun _ => PX ex) :=
  P_frame (fun _ => ⟨rfl, rfl, rfl, rfl⟩)
theorem P_addExpected {ex} (a) : Ho (PX ex) (addExpected a) (fun _ => PX ex) :=
  P_frame (fun st => by
    show ((addExpected a).run st).2.1.pending = _ ∧ _
    simp only [addExpected, run_modS]
    by_cases h : st.1.exempt.any (·.1 == a) <;> simp [h])
theorem P_removeExpected {ex} (a) : Ho (PX ex) (removeExpected a) (fun _ => PX ex) :=
  P_frame (fun _ => ⟨rfl, rfl, rfl, rfl⟩)

/-! Session operations only shrink the key set, so "no session for `k`" survives them. -/
theorem all_ne_of_sublist {l l' : List (NA × Session × Nat)} {k : NA}
    (h : ∀ x ∈ l', ∃ y ∈ l, y.1 = x.1) (ha : l.all (·.1 != k) = true) : l'.all (·.1 != k) = true := by
  rw [List.all_eq_true] at ha ⊢
  intro x hx
  obtain ⟨y, hy, hxy⟩ := h x hx
  rw [← hxy]; exact ha y hy

theorem PX.sess {ex : NA → Prop} {st : St} (h : PX ex st) (ss : List (NA × Session × Nat))
    (hk : ∀ x ∈ ss, ∃ y ∈ st.1.sessions, y.1 = x.1) : PX ex ({ st.1 with sessions := ss }, st.2) :=
  h.step rfl (fun _ _ hr => hr.mono id (all_ne_of_sublist hk) id)

theorem P_sessPut {ex} (na sess) : Ho (PX ex) (sessPut na sess) (fun _ => PX ex) :=
  Ho.modS _ (fun st h => h.sess _ (fun x hx => by
    simp only [List.mem_map] at hx
    obtain ⟨y, hy, rfl⟩ := hx
    refine ⟨y, hy, ?_⟩
    by_cases hyk : y.1 == na
    · simp only [hyk, if_true]; exact (beq_iff_eq.1 hyk)
    · simp only [hyk]; rfl))
theorem P_sessRemove {ex} (na) : Ho (PX ex) (sessRemove na) (fun _ => PX ex) :=
  Ho.modS _ (fun _ h => h.sess _ (fun x hx => ⟨x, (List.mem_filter.1 hx).1, rfl⟩))

def HasSess (na : NA) (st : St) : Prop := st.1.sessions.any (·.1 == na) = true

def PH (ex : NA → Prop) (na : NA) (st : St) : Prop := PX ex st ∧ HasSess na st

theorem P_sessGetMut {ex} (c : Cfg) (na) : Ho (PX ex) (sessGetMut c na)
    (fun r st => PX ex st ∧ (r = none → st.1.sessions.all (·.1 != na) = true) ∧
      (r ≠ none → HasSess na st)) := by
  refine sessGetMut_elim (fun st hp => ⟨fun hf => ⟨hp, fun _ => ?_, fun h => absurd rfl h⟩,
    fun k sess stamp hf => ⟨fun _ => ⟨?_, fun _ => ?_, fun h => absurd rfl h⟩,
      fun _ => ⟨?_, fun h => (nomatch h), fun _ => ?_⟩⟩⟩)
  · rw [List.find?_eq_none] at hf
    rw [List.all_eq_true]; intro x hx
    have := hf x hx
    simpa using this
  · exact hp.sess _ (fun x hx => ⟨x, (List.mem_filter.1 hx).1, rfl⟩)
  · simp [List.all_filter]
  · refine hp.sess _ (fun x hx => ?_)
    simp only [List.mem_append, List.mem_singleton] at hx
    rcases hx with hx | hx
    · exact ⟨x, (List.mem_filter.1 hx).1, rfl⟩
    · subst hx
      have hm := List.mem_of_find?_eq_some hf
      have hk := List.find?_some hf
      exact ⟨_, hm, by simpa using hk⟩
  · simp [HasSess]

theorem P_sessGetMutI {ex} (c : Cfg) (na) : Ho (PX ex) (sessGetMut c na) (fun _ => PX ex) :=
  (P_sessGetMut c na).post (fun _ _ h => h.1)

theorem P_removeExpiredSessions {ex} (c : Cfg) : Ho (PX ex) (removeExpiredSessions c) (fun _ => PX ex) :=
  ⟨fun st hp => by
    rw [removeExpiredSessions_run]
    exact hp.sess _ (fun x hx => ⟨x, popExpired_sub _ _ _ x hx, rfl⟩)⟩

theorem P_sessInsert {ex : NA → Prop} (c : Cfg) (na sess) (hx : ex na) :
    Ho (PX ex) (sessInsert c na sess) (fun _ => PX ex) :=
  Ho.modS _ (fun st h => h.step rfl (fun k hk hr => by
    refine hr.mono id (fun ha => ?_) id
    have hkn : k ≠ na := fun h => hk (h ▸ hx)
    have h1 : (st.1.sessions.filter (·.1 != na) ++ [(na, sess, st.1.rt)]).all (·.1 != k) = true := by
      rw [List.all_append]
      simp only [Bool.and_eq_true]
      refine ⟨all_ne_of_sublist (fun x hx => ⟨x, (List.mem_filter.1 hx).1, rfl⟩) ha, ?_⟩
      simp [Ne.symm hkn]
    show (if _ then _ else _ : List _).all _ = true
    split
    · exact all_ne_of_sublist (fun x hx => ⟨x, List.mem_of_mem_drop hx, rfl⟩) h1
    · exact h1))

/-- The exemptions while `na` is between losing its releaser and having its queue emptied or a
challenge recorded. -/
def exO (ex : NA → Prop) (na : NA) : NA → Prop := fun k => ex k ∨ k = na

/-- The state with an in-hand call put back (for `Rel` only membership in `active` matters). -/
def addCall (call : Call) (st : St) : St := ({ st.1 with active := call :: st.1.active }, st.2)

def NoPend (na : NA) (st : St) : Prop := ∀ e ∈ st.1.pending, e.1 ≠ na

theorem PX.dropEx {ex : NA → Prop} {na : NA} {st : St} (h : PX (exO ex na) st) (hn : NoPend na st) :
    PX ex st := fun e he hx hne => h e he (fun hh => hh.elim hx (hn e he)) hne

theorem P_activeInsert {ex} (c : Cfg) (call) : Ho (PX ex) (activeInsert c call) (fun _ => PX ex) :=
  Ho.modS _ (fun _ h => h.step rfl (fun _ _ hr =>
    hr.active rfl rfl (fun x hx hpx => ⟨x, List.mem_append_left _ hx, hpx⟩)))

theorem P_activeInsert_hand {ex} (c : Cfg) (call call' : Call)
    (hc : ∀ k, (call.contact.na == k && call.initiating) = true →
      (call'.contact.na == k && call'.initiating) = true) :
    Ho (fun st => PX ex (addCall call st)) (activeInsert c call') (fun _ => PX ex) :=
  Ho.modS _ (fun st h => PX.step (st := addCall call st) h rfl (fun k _ hr =>
    hr.active rfl rfl (fun x hx hpx => (List.mem_cons.1 hx).elim
      (fun e => ⟨_, List.mem_append_right _ (List.mem_singleton_self _), hc k (e ▸ hpx)⟩)
      (fun hm => ⟨x, List.mem_append_left _ hm, hpx⟩))))

theorem PX.addCall_of_mem {ex} {st : St} {call : Call} (h : PX ex st) (now : Nat) :
    PX ex (addCall call ({ st.1 with active := st.1.active.erase call, now := now }, st.2)) :=
  h.step rfl (fun k _ hr => hr.active rfl rfl (fun x hx hpx => by
    by_cases hxc : x = call
    · exact ⟨call, List.mem_cons_self .., hxc ▸ hpx⟩
    · exact ⟨x, List.mem_cons_of_mem _ ((List.mem_erase_of_ne hxc).2 hx), hpx⟩))

theorem PX.of_addCall {ex} {st : St} {call : Call} (h : PX ex (addCall call st)) :
    PX (exO ex call.contact.na) st :=
  fun e he hx hne => by
    have hr := h e he (fun hh => hx (Or.inl hh)) hne
    have hk : e.1 ≠ call.contact.na := fun hh => hx (Or.inr hh)
    refine hr.active rfl rfl (fun x hx hpx => (List.mem_cons.1 hx).elim (fun e => ?_) (fun hm => ⟨x, hm, hpx⟩))
    simp only [e, Bool.and_eq_true, beq_iff_eq] at hpx
    exact absurd hpx.1.symm hk

theorem P_activeRemoveByNonce {ex} (n) : Ho (PX ex) (activeRemoveByNonce n)
    (fun r st => (r = none → PX ex st) ∧ ∀ call, r = some call → PX ex (addCall call st)) :=
  activeRemoveByNonce_elim (fun _ hp => ⟨fun _ => ⟨fun _ => hp, fun _ h => (nomatch h)⟩,
    fun call hf => ⟨fun h => (nomatch h), fun x hx => by
      cases hx; exact hp.addCall_of_mem _⟩⟩)

/-- Removing calls to an address that has a session entry never removes a releaser. -/
theorem P_activeRemoveRequest {ex} (na rid) :
    Ho (PH ex na) (activeRemoveRequest na rid) (fun _ => PH ex na) :=
  activeRemoveRequest_elim (fun st hp => ⟨fun _ => hp, fun call hf => ⟨hp.1.step rfl (fun k _ hr => by
    have hcall := List.find?_some hf
    simp only [callNA, Bool.and_eq_true, beq_iff_eq] at hcall
    rcases hr with hr | ⟨h1, h2⟩
    · exact Or.inl hr
    · have hkn : k ≠ na := by
        intro hh; subst hh
        have := hp.2
        unfold HasSess at this
        rw [List.any_eq_true] at this
        obtain ⟨x, hx, hxk⟩ := this
        rw [List.all_eq_true] at h1
        have := h1 x hx
        simp_all
      refine Rel.active (Or.inr ⟨h1, h2⟩) rfl rfl (fun x hx hpx => ⟨x, (List.mem_erase_of_ne ?_).2 hx, hpx⟩)
      intro hh; subst hh
      simp only [Bool.and_eq_true, beq_iff_eq] at hpx
      exact hkn (hpx.1 ▸ hcall.1)), hp.2⟩⟩)

theorem P_replayStep {ex} {c : Cfg} (oldNonce : Nat) (p : Pkt) :
    Ho (PX ex) (modS (replayStep c oldNonce p)) (fun _ => PX ex) :=
  Ho.modS _ (fun st h => h.step rfl (fun k _ hr => hr.active rfl rfl (fun x hx hpx => by
    refine ⟨_, List.mem_map_of_mem hx, ?_⟩
    split <;> exact hpx)))

theorem P_addChallenge {ex} (f : HState → HState) (na : NA)
    (hf : ∀ s, ∃ x, x.1 = na ∧ f s = { s with challenges := s.challenges ++ [x], tctr := s.tctr + 1 }) :
    Ho (PX (exO ex na)) (modS f) (fun _ => PX ex) :=
  Ho.modS _ (fun st h e he hx hne => by
    obtain ⟨x, hx1, hfs⟩ := hf st.1
    simp only [hfs] at he ⊢
    by_cases hk : e.1 = na
    · refine Or.inl ?_
      show List.any (_ ++ _) _ = true
      rw [List.any_append]; simp [hx1, hk]
    · refine (h e he (fun hh => hh.elim hx hk) hne).mono (fun ha => ?_) id id
      show List.any (_ ++ _) _ = true
      rw [List.any_append, ha]; rfl)

theorem PX.filterChallenges {ex} {st : St} (h : PX ex st) (na : NA) (now : Nat) :
    PX (exO ex na) ({ st.1 with challenges := st.1.challenges.filter (·.1 != na), now := now }, st.2) :=
  (h.weaken (fun _ => Or.inl)).step rfl (fun k hk hr => by
    have hkn : k ≠ na := fun hh => hk (Or.inr hh)
    refine hr.mono (fun ha => ?_) id id
    rw [List.any_eq_true] at ha
    obtain ⟨x, hx, hpx⟩ := ha
    show List.any (List.filter _ _) _ = true
    rw [List.any_eq_true]
    refine ⟨x, List.mem_filter.2 ⟨hx, ?_⟩, hpx⟩
    simp only [beq_iff_eq] at hpx
    simp only [bne_iff_ne, ne_eq]
    exact fun hh => hkn (hpx ▸ hh))

theorem P_queueRequest {ex} (contact : Contact) (rid : Nat) (internal : Bool) (body : Nat) :
    Ho (fun st => PX ex st ∧ (ex contact.na ∨ Rel st.1 contact.na))
      (queueRequest contact rid internal body) (fun _ => PX ex) :=
  ⟨fun st ⟨h, hna⟩ => by
    rw [queueRequest_run]
    intro e he hx hne
    rcases SU.mem_pushPending he with hm | ⟨hk, _⟩
    · exact h e hm hx hne
    · rw [hk] at hx ⊢; exact hna.resolve_left hx⟩

theorem PX.takePending {ex} {st : St} {na : NA} (h : PX (exO ex na) st) :
    PX ex ({ st.1 with pending := st.1.pending.filter (·.1 != na) }, st.2) ∧
    NoPend na ({ st.1 with pending := st.1.pending.filter (·.1 != na) }, st.2) := by
  constructor
  · intro e he hx hne
    have hm := List.mem_filter.1 he
    have hk : e.1 ≠ na := by simpa using hm.2
    exact h e hm.1 (fun hh => hh.elim hx hk) hne
  · intro e he
    have hm := List.mem_filter.1 he
    simpa using hm.2

theorem P_reencryptAll {ex} {c : Cfg} (l s acc) : Ho (PX ex) (reencryptAll c l s acc) (fun _ => PX ex) := by
  induction l generalizing s acc with
  | nil => unfold reencryptAll; exact Ho.pureI _
  | cons x xs ih => unfold reencryptAll; exact Ho.bind (P_encryptMessage ..) (fun _ => ih _ _)

theorem P_isAwaitingSession {ex} (c : Cfg) (na) : Ho (PX ex) (isAwaitingSession c na)
    (fun r st => PX ex st ∧ (r = true → Rel st.1 na)) := by
  unfold isAwaitingSession
  refine Ho.bind (P_sessGetMut c na) (fun r => ?_)
  cases r with
  | some _ => exact Ho.pure _ (fun st hp => ⟨hp.1, fun h => nomatch h⟩)
  | none =>
    refine Ho.getS_pin (fun s0 => Ho.pure _ (fun st hp => ?_))
    obtain ⟨h0, hp, h1, _⟩ := hp
    refine ⟨hp, fun hr => Or.inr ⟨h1 rfl, ?_⟩⟩
    rw [List.any_filter] at hr
    rw [h0]; exact hr

theorem P_sendTail {ex} (c : Cfg) (ct rid i b pkt ini) :
    Ho (PX ex) (sendTail c ct rid i b pkt ini) (fun _ => PX ex) := by
  unfold sendTail
  exact Ho.bind (P_addExpected _) (fun _ => Ho.bind (P_send ..) (fun _ =>
    Ho.bind (P_activeInsert ..) (fun _ => Ho.pureI _)))

theorem P_sendNow {ex} (c : Cfg) (ct rid i b) : Ho (PX ex) (sendNow c ct rid i b) (fun _ => PX ex) := by
  unfold sendNow
  refine Ho.bind (P_sessGetMutI c _) (fun r => ?_)
  cases r with
  | some sess =>
    exact Ho.bind (P_encryptMessage ..) (fun _ => Ho.bind (P_sessPut ..) (fun _ => P_sendTail ..))
  | none => exact Ho.bind (P_freshNonce c) (fun _ => P_sendTail ..)

theorem P_sendRequest {ex} (c : Cfg) (ct rid i b) :
    Ho (PX ex) (sendRequest c ct rid i b) (fun _ => PX ex) := by
  rw [sendRequest_split]
  have hq := P_queueRequest (ex := ex) ct rid i b
  refine Ho.ite (fun _ => Ho.pureI _) (fun _ => Ho.getS_pin (fun s0 => Ho.ite
    (fun hc => Ho.pre hq (fun st hp => ⟨hp.2, Or.inr (Or.inl (hp.1 ▸ hc))⟩))
    (fun _ => Ho.unpin (Ho.bind (P_isAwaitingSession c ct.na) (fun r => Ho.ite
      (fun hr => Ho.pre hq (fun st hp => ⟨hp.1, Or.inr (hp.2 hr)⟩))
      (fun _ => Ho.pre (P_sendNow ..) (fun _ hp => hp.1)))))))

theorem P_sendPendingRequests {ex} (c : Cfg) (na) :
    Ho (PX (exO ex na)) (sendPendingRequests c na) (fun _ => PX ex) := by
  unfold sendPendingRequests
  refine Ho.getS_pin (fun s0 => Ho.bind (Q := fun _ => PX ex)
    (Ho.setS_pin (fun s => { s with pending := s.pending.filter (·.1 != na) }) (fun st hp => hp.takePending.1))
    (fun _ => Ho.forEachI _ _ (fun pr => Ho.bind (P_sendRequest ..) (fun r => ?_))))
  cases r with
  | none => exact Ho.pureI _
  | some e => exact Ho.iteI (P_emit _) (Ho.pureI _)

/-- Invariant of the two failure loops of `failSession`. -/
def PN (ex : NA → Prop) (na : NA) (st : St) : Prop := PX (exO ex na) st ∧ NoPend na st

theorem PN_frame {α} {ex : NA → Prop} {na : NA} {m : M α}
    (h : ∀ st, (m.run st).2.1.pending = st.1.pending ∧ (m.run st).2.1.challenges = st.1.challenges ∧
      (m.run st).2.1.sessions = st.1.sessions ∧ (m.run st).2.1.active = st.1.active) :
    Ho (PN ex na) m (fun _ => PN ex na) :=
  ⟨fun st hp => ⟨(P_frame h).out st hp.1, by unfold NoPend; rw [(h st).1]; exact hp.2⟩⟩

theorem PN_emit {ex na} (o) : Ho (PN ex na) (emit o) (fun _ => PN ex na) := PN_frame (fun _ => ⟨rfl, rfl, rfl, rfl⟩)
theorem PN_removeExpected {ex na} (a) : Ho (PN ex na) (removeExpected a) (fun _ => PN ex na) :=
  PN_frame (fun _ => ⟨rfl, rfl, rfl, rfl⟩)

theorem P_activeRemoveRequests {ex} (na) :
    Ho (PN ex na) (activeRemoveRequests na) (fun _ => PN ex na) :=
  ⟨fun st hp => ⟨hp.1.step rfl (fun k hk hr => hr.active rfl rfl (fun x hx hpx => by
    refine ⟨x, List.mem_filter.2 ⟨hx, ?_⟩, hpx⟩
    simp only [Bool.and_eq_true, beq_iff_eq] at hpx
    simp only [callNA, bne_iff_ne, ne_eq]
    exact fun hh => hk (Or.inr (hpx.1 ▸ hh)))), hp.2⟩⟩

theorem P_failPending {ex} (na : NA) (e : Err) :
    Ho (PX (exO ex na)) (failPending na e) (fun _ => PN ex na) := by
  unfold failPending
  refine Ho.getS_pin (fun s0 => ?_)
  split
  · refine Ho.bind (Q := fun _ => PN ex na)
      (Ho.setS_pin (fun s => { s with pending := s.pending.filter (·.1 != na) })
        (fun st hp => ⟨(hp.takePending.1).weaken (fun _ => Or.inl), hp.takePending.2⟩))
      (fun _ => Ho.forEachI _ _ (fun pr => Ho.iteI (PN_emit _) (Ho.pureI _)))
  · rename_i hf
    refine Ho.pure _ (fun st hp => ⟨hp.2, fun e he hk => ?_⟩)
    have := List.find?_eq_none.1 hf e (hp.1 ▸ he)
    simp [hk] at this

theorem P_failActive {ex} (na : NA) (e : Err) : Ho (PN ex na) (failActive na e) (fun _ => PX ex) := by
  unfold failActive
  refine Ho.bind (P_activeRemoveRequests na) (fun calls => ?_)
  refine Ho.post (Ho.forEachI _ _ (fun call => ?_)) (fun _ st hp => hp.1.dropEx hp.2)
  exact Ho.ite (fun _ => Ho.bind (PN_emit _) (fun _ => PN_removeExpected _)) (fun _ => PN_removeExpected _)

theorem P_failSession {ex} (c : Cfg) (na e b) :
    Ho (PX (exO ex na)) (failSession c na e b) (fun _ => PX ex) := by
  rw [failSession_eq]
  exact Ho.bind (Ho.iteI (Ho.bind (P_removeExpiredSessions c) (fun _ => P_sessRemove na)) (Ho.pureI _))
    (fun _ => Ho.bind (P_failPending na e) (fun _ => P_failActive na e))

theorem P_failSessionI {ex} (c : Cfg) (na e b) : Ho (PX ex) (failSession c na e b) (fun _ => PX ex) :=
  Ho.pre (P_failSession c na e b) (fun _ hp => hp.weaken (fun _ => Or.inl))

theorem P_failRequest {ex} (c : Cfg) (call e b) :
    Ho (PX (exO ex (callNA call))) (failRequest c call e b) (fun _ => PX ex) := by
  unfold failRequest
  exact Ho.ite (fun _ => Ho.bind (P_emit _) (fun _ => P_failSession ..)) (fun _ => P_failSession ..)

theorem P_handleRequestTimeout {ex} (c : Cfg) (call : Call) :
    Ho (fun st => PX ex (addCall call st)) (handleRequestTimeout c call) (fun _ => PX ex) := by
  unfold handleRequestTimeout
  refine Ho.ite (fun _ => ?_) (fun _ => ?_)
  · refine Ho.pre ?_ (fun st hp => hp.of_addCall)
    exact Ho.bind (P_removeExpected _) (fun _ => P_failRequest ..)
  · refine Ho.bind (Q := fun _ st => PX ex (addCall call st)) ⟨fun st hp => hp⟩ (fun _ => ?_)
    exact P_activeInsert_hand c call _ (fun _ h => h)

theorem P_replayActiveRequests {ex} (c : Cfg) (na sk) :
    Ho (PX ex) (replayActiveRequests c na sk) (fun _ => PX ex) := by
  rw [replayActiveRequests_eq]
  refine Ho.bind (P_sessGetMutI c na) (fun r => ?_)
  cases r with
  | none => exact Ho.pureI _
  | some sess0 =>
    exact Ho.getS_pin (fun s => Ho.unpin (Ho.bind (P_reencryptAll ..) (fun x => Ho.bind (P_sessPut ..)
      (fun _ => Ho.forEachI _ _ (fun y => Ho.bind (P_replayStep ..) (fun _ => P_send ..))))))

theorem P_newSession {ex} (c : Cfg) (na sess sk) :
    Ho (PX (exO ex na)) (newSession c na sess sk) (fun _ => PX ex) := by
  unfold newSession
  refine Ho.bind (P_removeExpiredSessions c) (fun _ => Ho.bind (P_sessGetMutI c na) (fun r => ?_))
  cases r with
  | some cur =>
    exact Ho.bind (P_sessPut ..) (fun _ => Ho.bind (P_replayActiveRequests ..) (fun _ => P_sendPendingRequests ..))
  | none =>
    exact Ho.bind (P_sessInsert c na sess (Or.inr rfl)) (fun _ => P_sendPendingRequests ..)

theorem P_sendChallenge {ex} (c : Cfg) (na n k) : Ho (PX ex) (sendChallenge c na n k) (fun _ => PX ex) := by
  unfold sendChallenge
  refine Ho.getS_pin (fun s => Ho.unpin (Ho.ite (fun _ => Ho.pureI _) (fun _ => ?_)))
  refine Ho.bind (P_freshCd c) (fun cd => Ho.bind (P_addExpected _) (fun _ => Ho.bind (P_send ..) (fun _ => ?_)))
  exact Ho.pre (P_addChallenge _ na (fun s => ⟨_, rfl, rfl⟩)) (fun st hp => hp.weaken (fun _ => Or.inl))

theorem P_handleChallenge {ex} (c : Cfg) (src n cd es) :
    Ho (PX ex) (handleChallenge c src n cd es) (fun _ => PX ex) := by
  unfold handleChallenge
  refine Ho.bind (P_activeRemoveByNonce n) (fun r => ?_)
  cases r with
  | none => exact Ho.pure _ (fun st hp => hp.1 rfl)
  | some call0 =>
    refine Ho.pre (P' := fun st => PX ex (addCall call0 st)) ?_ (fun st hp => hp.2 _ rfl)
    refine Ho.ite (fun _ => ?_) (fun _ => Ho.ite (fun _ => ?_) (fun _ => Ho.ite (fun _ => ?_) (fun _ => ?_)))
    · exact Ho.bind (P_activeInsert_hand c call0 call0 (fun _ h => h)) (fun _ => Ho.pureI _)
    · refine Ho.pre ?_ (fun st hp => hp.of_addCall)
      exact Ho.bind (P_removeExpected _) (fun _ => Ho.bind (P_failRequest ..) (fun _ => Ho.pureI _))
    · refine Ho.pre ?_ (fun st hp => hp.of_addCall)
      exact Ho.bind (P_removeExpected _) (fun _ => Ho.bind (P_failRequest ..) (fun _ => Ho.pureI _))
    · refine Ho.pre (P' := PX (exO ex (callNA call0))) ?_ (fun st hp => hp.of_addCall)
      refine Ho.bind (P_freshEph c) (fun eph => Ho.bind (P_freshNonce c) (fun hsNonce => ?_))
      dsimp only
      split
      · exact Ho.bind (P_activeInsert ..) (fun _ => Ho.bind (P_send ..) (fun _ =>
          Ho.bind (P_emit _) (fun _ => P_newSession ..)))
      · exact Ho.bind (P_activeInsert ..) (fun _ => Ho.bind (P_send ..) (fun _ =>
          Ho.bind (P_freshRid c) (fun _ => Ho.bind (P_sendRequest ..) (fun _ => P_newSession ..))))

theorem PH_sessPut {ex} (na sess) : Ho (PH ex na) (sessPut na sess) (fun _ => PH ex na) :=
  Ho.conj (P_sessPut na sess) (Ho.modS _ (fun st h => by
    unfold HasSess at h ⊢
    rw [List.any_eq_true] at h ⊢
    obtain ⟨x, hx, hk⟩ := h
    refine ⟨_, List.mem_map_of_mem hx, ?_⟩
    simp only [hk, if_true, beq_self_eq_true]))

theorem P_handleResponse {ex} (c : Cfg) (na rid rb) :
    Ho (PH ex na) (handleResponse c na rid rb) (fun _ => PX ex) := by
  unfold handleResponse
  refine Ho.bind (P_activeRemoveRequest na rid) (fun r => Ho.pre (P' := PX ex) ?_ (fun _ hp => hp.1))
  cases r with
  | none => exact Ho.pureI _
  | some call =>
    have fin : Ho (PX ex) (do removeExpected na.addr; emit (Out.response na rid rb)) (fun _ => PX ex) :=
      Ho.bind (P_removeExpected _) (fun _ => P_emit _)
    have again : ∀ call', Ho (PX ex) (do activeInsert c call'; emit (Out.response na rid rb); pure ())
        (fun _ => PX ex) :=
      fun _ => Ho.bind (P_activeInsert ..) (fun _ => Ho.bind (P_emit _) (fun _ => Ho.pureI _))
    dsimp only
    split
    · refine Ho.ite (fun _ => ?_) (fun _ => fin)
      split
      · exact Ho.ite (fun _ => again _) (fun _ => fin)
      · exact again _
    · exact fin

theorem P_verifyLast {ex} (na : NA) (rb : RespBody) : Ho (PX ex) (verifyLast na rb) (fun _ => PX ex) := by
  unfold verifyLast
  split
  · split
    · exact Ho.ite (fun _ => Ho.bind (P_emit _) (fun _ => Ho.pureI _))
        (fun _ => Ho.bind (P_emit _) (fun _ => Ho.pureI _))
    · exact Ho.pureI _
  · exact Ho.pureI _

theorem P_verifyAwaited {ex} (c : Cfg) (na : NA) (rb : RespBody) :
    Ho (PX ex) (verifyAwaited c na rb) (fun _ => PX ex) :=
  Ho.bind (P_verifyLast ..) (fun _ => Ho.iteI (P_failSessionI ..) (Ho.pureI _))

theorem P_finishEnr {ex} (c : Cfg) (na : NA) (sess : Session) (rid : Nat) (rb : RespBody) :
    Ho (PH ex na) (finishEnr c na sess rid rb) (fun _ => PX ex) := by
  unfold finishEnr
  refine Ho.bind (PH_sessPut ..) (fun _ => Ho.bind (P_activeRemoveRequest na _) (fun r =>
    Ho.pre (P' := PX ex) ?_ (fun _ hp => hp.1)))
  cases r with
  | none => exact P_verifyAwaited c na rb
  | some _ => exact Ho.bind (P_removeExpected _) (fun _ => P_verifyAwaited c na rb)

theorem P_handleMessage {ex} (c : Cfg) (na n ct) : Ho (PX ex) (handleMessage c na n ct) (fun _ => PX ex) := by
  rw [handleMessage_eq]
  refine Ho.bind (P_sessGetMut c na) (fun r => ?_)
  cases r with
  | none => exact Ho.pre (P_emit _) (fun _ hp => hp.1)
  | some sess =>
    refine Ho.pre (P' := PH ex na) ?_ (fun _ hp => ⟨hp.1, hp.2.2 (fun h => nomatch h)⟩)
    refine Ho.bind (PH_sessPut ..) (fun _ => ?_)
    split
    · exact Ho.pre (Ho.bind (P_failSessionI ..) (fun _ =>
        Ho.getS_pin (fun s => Ho.unpin (Ho.iteI (P_emit _) (Ho.pureI _))))) (fun _ hp => hp.1)
    · exact Ho.pure _ (fun _ hp => hp.1)
    · exact Ho.pre (P_emit _) (fun _ hp => hp.1)
    · exact Ho.ite (fun _ => P_finishEnr ..) (fun _ => P_handleResponse ..)

theorem P_handleAuthMessage {ex} (c : Cfg) (na n sig eph r ct) :
    Ho (PX ex) (handleAuthMessage c na n sig eph r ct) (fun _ => PX ex) := by
  unfold handleAuthMessage
  refine Ho.getS_pin (fun s0 => ?_)
  split
  · exact Ho.pure _ (fun _ hp => hp.2)
  · rename_i k ch dl sq hf
    refine Ho.bind (Q := fun _ => PX (exO ex na))
      (Ho.setS_pinned _ (fun _ hp => hp.filterChallenges na _)) (fun _ => ?_)
    · split
      · refine Ho.bind (P_removeExpected _) (fun _ => Ho.ite (fun _ => ?_) (fun _ => ?_)) <;>
          exact Ho.bind (P_emit _) (fun _ => Ho.bind (P_newSession ..) (fun _ => P_handleMessage ..))
      · exact P_addChallenge _ na (fun s => ⟨_, rfl, rfl⟩)
      · exact Ho.bind (P_removeExpected _) (fun _ => P_failSession ..)

theorem P_fireTimers {ex} (c : Cfg) (target fuel : Nat) :
    Ho (PX ex) (fireTimers c target fuel) (fun _ => PX ex) :=
  ⟨fireTimers_inv c target
    (fun _ _ call hp _ => (P_handleRequestTimeout c call).out _ (hp.addCall_of_mem _))
    (fun _ _ na hp _ => (Ho.bind (P_removeExpected _) (fun _ => P_sendPendingRequests c na)).out _
      (hp.filterChallenges na _))
    fuel⟩

theorem P_stepM {ex} (c : Cfg) (e : Ev) : Ho (PX ex) (stepM c e) (fun _ => PX ex) := by
  cases e with
  | appRequest ct rid b =>
    refine Ho.bind (P_sendRequest ..) (fun r => ?_)
    cases r with
    | none => exact Ho.pureI _
    | some e => exact P_emit _
  | appResponse na rid rb =>
    refine Ho.bind (P_sessGetMutI c na) (fun r => ?_)
    cases r with
    | none => exact Ho.pureI _
    | some sess => exact Ho.bind (P_encryptMessage ..) (fun _ => Ho.bind (P_sessPut ..) (fun _ => P_send ..))
  | appWru na nonce known => exact P_sendChallenge ..
  | dgram src p =>
    cases p with
    | whoareyou nonce cd enrSeq => exact P_handleChallenge ..
    | handshake srcId nonce sig eph record ct => exact P_handleAuthMessage ..
    | message srcId nonce ct => exact P_handleMessage ..
  | adv dt =>
    exact Ho.getS_pin (fun s => Ho.unpin (Ho.bind (P_fireTimers ..)
      (fun _ => P_modS _ (fun _ => rfl) (fun _ _ _ h => h))))
  | rtAdv dt => exact P_modS (fun s => { s with rt := s.rt + dt }) (fun _ => rfl) (fun _ _ _ h => h)

/-! ## Walk A -/

/-- (request id, internal?) of a tracked request. -/
abbrev Item := Nat × Bool
def _root_.Discv5.H.Call.item (x : Call) : Item := (x.rid, x.internal)
def _root_.Discv5.H.PendingReq.item (x : PendingReq) : Item := (x.rid, x.internal)
def pitems (p : List (NA × List PendingReq)) : List Item := p.flatMap (fun e => e.2.map PendingReq.item)
/-- Everything tracked by the state. -/
def items (s : HState) : List Item := s.active.map Call.item ++ pitems s.pending

def nfail (rid : Nat) (os : List Out) : Nat := (os.filter (isFailure rid)).length
def nabout (rid : Nat) (os : List Out) : Nat := (os.filter (aboutRid rid)).length
def PKN (s : HState) : Prop := (s.pending.map (·.1)).Nodup
def SBig (sess : Session) : Prop := ∀ r, sess.awaitingEnr = some r → 1000000 ≤ r
def SessBig (s : HState) : Prop := ∀ e ∈ s.sessions, SBig e.2.1

theorem isFailure_about {rid : Nat} {o : Out} (h : isFailure rid o = true) : aboutRid rid o = true := by
  cases o <;> simp_all [isFailure, aboutRid]

theorem nfail_append (rid : Nat) (a b : List Out) : nfail rid (a ++ b) = nfail rid a + nfail rid b := by
  simp [nfail, List.filter_append]
theorem nabout_append (rid : Nat) (a b : List Out) : nabout rid (a ++ b) = nabout rid a + nabout rid b := by
  simp [nabout, List.filter_append]
theorem nfail_single (rid : Nat) (o : Out) : nfail rid [o] = if isFailure rid o then 1 else 0 := by
  by_cases h : isFailure rid o <;> simp [nfail, List.filter, h]
theorem nabout_single (rid : Nat) (o : Out) : nabout rid [o] = if aboutRid rid o then 1 else 0 := by
  by_cases h : aboutRid rid o <;> simp [nabout, List.filter, h]

theorem count_ext {α} (rid : Nat) (r : α → Nat) (i : α → Bool) (l : List α) :
    ((l.filter (fun x => !i x)).map r).count rid = (l.map (fun x => (r x, i x))).count (rid, false) := by
  induction l with
  | nil => rfl
  | cons x xs ih =>
    cases hi : i x
    · by_cases hr : r x = rid
      · simp [hi, ih, hr]
      · simp [hi, ih, hr]
    · simp [hi, ih]

theorem count_trackedExt (rid : Nat) (s : HState) :
    (trackedExt s).count rid = (items s).count (rid, false) := by
  unfold trackedExt items pitems
  rw [List.count_append, List.count_append]
  congr 1
  · exact count_ext rid (·.rid) (·.internal) s.active
  · induction s.pending with
    | nil => rfl
    | cons e es ih =>
      simp only [List.flatMap_cons, List.count_append, ih]
      exact congrArg (· + _) (count_ext rid (·.rid) (·.internal) e.2)

theorem items_erase {s : HState} {call : Call} (h : call ∈ s.active) (now : Nat) :
    (call.item :: items { s with active := s.active.erase call, now := now }).Perm (items s) := by
  unfold items
  have := (List.perm_cons_erase h).map Call.item
  simp only [List.map_cons] at this
  exact (List.Perm.append_right _ this).symm

theorem items_removeRequests (s : HState) (p : Call → Bool) :
    ((s.active.filter p).map Call.item ++
      items { s with active := s.active.filter (fun c => !p c) }).Perm (items s) := by
  unfold items
  rw [← List.append_assoc, ← List.map_append]
  exact List.Perm.append_right _ ((List.filter_append_perm p s.active).map _)

theorem map_upd_of_not_mem {es : List (NA × List PendingReq)} {na : NA} (pr : PendingReq)
    (h : na ∉ es.map (·.1)) :
    es.map (fun e => if e.1 == na then (e.1, e.2 ++ [pr]) else e) = es := by
  induction es with
  | nil => rfl
  | cons x xs ih =>
    simp only [List.map_cons, List.mem_cons, not_or] at h
    have hx : ¬ (x.1 == na) = true := fun hh => h.1 (beq_iff_eq.1 hh).symm
    simp only [List.map_cons, hx, ih h.2]
    rfl

theorem pitems_cons (e : NA × List PendingReq) (es : List (NA × List PendingReq)) :
    pitems (e :: es) = e.2.map PendingReq.item ++ pitems es := by
  simp [pitems]

theorem pitems_push_mem {p : List (NA × List PendingReq)} {na : NA} (pr : PendingReq)
    (hn : (p.map (·.1)).Nodup) (hm : na ∈ p.map (·.1)) :
    (pitems (p.map (fun e => if e.1 == na then (e.1, e.2 ++ [pr]) else e))).Perm (pr.item :: pitems p) := by
  induction p with
  | nil => simp at hm
  | cons e es ih =>
    simp only [List.map_cons, List.nodup_cons] at hn
    by_cases hk : (e.1 == na) = true
    · have hk' : e.1 = na := beq_iff_eq.1 hk
      have hrest := map_upd_of_not_mem pr (hk' ▸ hn.1)
      simp only [List.map_cons, hk, if_true, hrest, pitems_cons, List.map_append, List.map_cons, List.map_nil]
      rw [List.append_assoc]
      exact List.perm_middle
    · have hk' : e.1 ≠ na := fun hh => hk (beq_iff_eq.2 hh)
      simp only [List.map_cons, List.mem_cons] at hm
      have hm' : na ∈ es.map (·.1) := hm.resolve_left (fun hh => hk' hh.symm)
      simp only [List.map_cons, hk, pitems_cons]
      exact ((ih hn.2 hm').append_left _).trans List.perm_middle

theorem pitems_push_new (p : List (NA × List PendingReq)) (na : NA) (pr : PendingReq) :
    (pitems (p ++ [(na, [pr])])).Perm (pr.item :: pitems p) := by
  simp only [pitems, List.flatMap_append, List.flatMap_cons, List.flatMap_nil, List.map_cons, List.map_nil,
    List.append_nil]
  exact List.perm_append_comm

theorem pitems_take {p : List (NA × List PendingReq)} {na : NA} {ent : NA × List PendingReq}
    (hn : (p.map (·.1)).Nodup) (hf : p.find? (·.1 == na) = some ent) :
    (ent.2.map PendingReq.item ++ pitems (p.filter (·.1 != na))).Perm (pitems p) := by
  induction p with
  | nil => simp at hf
  | cons e es ih =>
    simp only [List.map_cons, List.nodup_cons] at hn
    by_cases hk : (e.1 == na) = true
    · have hk' : e.1 = na := beq_iff_eq.1 hk
      simp only [List.find?_cons, hk, Option.some.injEq] at hf
      subst hf
      have : (e :: es).filter (·.1 != na) = es := by
        simp only [List.filter_cons, bne, hk, Bool.not_true]
        exact filter_ne_self (hk' ▸ hn.1)
      rw [this, pitems_cons]
    · simp only [List.find?_cons, hk] at hf
      have : (e :: es).filter (·.1 != na) = e :: es.filter (·.1 != na) := by
        simp [bne, hk]
      rw [this, pitems_cons, pitems_cons, ← List.append_assoc]
      refine (List.Perm.append_right _ List.perm_append_comm).trans ?_
      rw [List.append_assoc]
      exact (ih hn.2 hf).append_left _

theorem filter_ne_of_find_none {p : List (NA × List PendingReq)} {na : NA}
    (hf : p.find? (·.1 == na) = none) : p.filter (·.1 != na) = p :=
  filter_ne_self fun h =>
    let ⟨a, ha, hk⟩ := List.mem_map.1 h
    List.find?_eq_none.1 hf a ha (beq_iff_eq.2 hk)

/-- The accounting invariant for request id `rid`, with the items `H` currently "in hand"
(removed from the state but not yet re-inserted or reported).  `n1`, `n2`, `z` are ghost values that
turn the relational statement (failures + tracked never grows; tracked + reports never shrinks;
untracked stays silent) into a state predicate.  The bound `1000000` separates the ids of the
application from those the handler draws (`AppDiscipline`, `mkName_big`). -/
structure Acc (rid n1 n2 : Nat) (z : Prop) (H : List Item) (st : St) : Prop where
  pkn : PKN st.1
  sb : SessBig st.1
  ib : ∀ x ∈ items st.1 ++ H, x.2 = true → 1000000 ≤ x.1
  up : nfail rid st.2 + (items st.1 ++ H).count (rid, false) ≤ n1
  lo : rid < 1000000 → n2 ≤ (items st.1 ++ H).count (rid, false) + nabout rid st.2
  si : z → rid < 1000000 ∧ (items st.1 ++ H).count (rid, false) = 0 ∧ nabout rid st.2 = 0

variable {rid n1 n2 : Nat} {z : Prop}

theorem Acc.change {H H' : List Item} {st st' : St} (h : Acc rid n1 n2 z H st)
    (hpk : PKN st'.1) (hsb : SessBig st'.1)
    (hib : ∀ x ∈ items st'.1 ++ H', x.2 = true → 1000000 ≤ x.1)
    (hup : nfail rid st'.2 + (items st'.1 ++ H').count (rid, false) ≤
      nfail rid st.2 + (items st.1 ++ H).count (rid, false))
    (hlo : rid < 1000000 → (items st.1 ++ H).count (rid, false) + nabout rid st.2 ≤
      (items st'.1 ++ H').count (rid, false) + nabout rid st'.2)
    (hsi : rid < 1000000 → (items st.1 ++ H).count (rid, false) = 0 → nabout rid st.2 = 0 →
      (items st'.1 ++ H').count (rid, false) = 0 ∧ nabout rid st'.2 = 0) :
    Acc rid n1 n2 z H' st' :=
  ⟨hpk, hsb, hib, Nat.le_trans hup h.up, fun hr => Nat.le_trans (h.lo hr) (hlo hr),
    fun hz => ⟨(h.si hz).1, hsi (h.si hz).1 (h.si hz).2.1 (h.si hz).2.2⟩⟩

theorem Acc.move {H H' : List Item} {st st' : St} (h : Acc rid n1 n2 z H st)
    (hpk : PKN st'.1) (hsb : SessBig st'.1)
    (hperm : (items st'.1 ++ H').Perm (items st.1 ++ H)) (hout : st'.2 = st.2) :
    Acc rid n1 n2 z H' st' := by
  have hc := hperm.count_eq (rid, false)
  refine h.change hpk hsb (fun x hx => h.ib x (hperm.mem_iff.1 hx)) ?_ ?_ ?_
  · rw [hout, hc]; exact Nat.le_refl _
  · intro _; rw [hout, hc]; exact Nat.le_refl _
  · intro _ h0 h1; rw [hout, hc]; exact ⟨h0, h1⟩

theorem Acc.permH {H H' : List Item} {st : St} (h : Acc rid n1 n2 z H st) (hp : H'.Perm H) :
    Acc rid n1 n2 z H' st :=
  h.move h.pkn h.sb (hp.append_left _) rfl

theorem Acc.sess {H : List Item} {st : St} (h : Acc rid n1 n2 z H st) (ss : List (NA × Session × Nat))
    (hs : ∀ e ∈ ss, SBig e.2.1) : Acc rid n1 n2 z H ({ st.1 with sessions := ss }, st.2) :=
  h.move h.pkn hs (List.Perm.refl _) rfl

/-- One output is appended while the hand goes from `H` to `H'`: what its weight as a failure and
as a report must be against the occurrences that leave. -/
theorem Acc.emit {H H' : List Item} {st : St} (h : Acc rid n1 n2 z H st) (o : Out)
    (hib : ∀ x ∈ items st.1 ++ H', x ∈ items st.1 ++ H)
    (hup : nfail rid [o] + (items st.1 ++ H').count (rid, false) ≤ (items st.1 ++ H).count (rid, false))
    (hlo : rid < 1000000 →
      (items st.1 ++ H).count (rid, false) ≤ (items st.1 ++ H').count (rid, false) + nabout rid [o])
    (hsi : rid < 1000000 → (items st.1 ++ H).count (rid, false) = 0 →
      (items st.1 ++ H').count (rid, false) = 0 ∧ nabout rid [o] = 0) :
    Acc rid n1 n2 z H' (st.1, st.2 ++ [o]) := by
  refine h.change h.pkn h.sb (fun x hx => h.ib x (hib x hx)) ?_ ?_ ?_
  · dsimp only
    rw [nfail_append]; omega
  · intro hr
    dsimp only
    rw [nabout_append]; have := hlo hr; omega
  · intro hr h0 h1
    dsimp only
    rw [nabout_append, h1]; have := hsi hr h0; omega

theorem Acc.neutral {H : List Item} {st : St} (h : Acc rid n1 n2 z H st) (o : Out)
    (ho : ∀ r, aboutRid r o = false) : Acc rid n1 n2 z H (st.1, st.2 ++ [o]) := by
  have h1 : nfail rid [o] = 0 := by
    rw [nfail_single]
    cases hf : isFailure rid o
    · rfl
    · have := isFailure_about hf; rw [ho] at this; cases this
  have h2 : nabout rid [o] = 0 := by rw [nabout_single, ho]; rfl
  exact h.emit o (fun _ hx => hx) (by omega) (fun _ => by omega) (fun _ h0 => ⟨h0, h2⟩)

theorem count_cons_item (r : Nat) (i : Bool) (l : List Item) (rid : Nat) :
    (l ++ (r, i) :: H).count (rid, false) =
      (l ++ H).count (rid, false) + if r = rid ∧ i = false then 1 else 0 := by
  rw [List.count_append, List.count_cons, List.count_append, Nat.add_assoc]
  congr 2
  by_cases h : r = rid ∧ i = false
  · obtain ⟨h1, h2⟩ := h; subst h1; subst h2; simp
  · simp [h]

theorem mem_append_cons {r : Nat} {i : Bool} {l H : List Item} {x : Item} (h : x ∈ l ++ H) :
    x ∈ l ++ (r, i) :: H := by
  simp only [List.mem_append, List.mem_cons] at h ⊢
  rcases h with h | h
  · exact Or.inl h
  · exact Or.inr (Or.inr h)

theorem Acc.fail {H : List Item} {st : St} {r : Nat} (e : Err)
    (h : Acc rid n1 n2 z ((r, false) :: H) st) : Acc rid n1 n2 z H (st.1, st.2 ++ [.failed r e]) := by
  have hc := count_cons_item (H := H) r false (items st.1) rid
  have h1 : nfail rid [.failed r e] = if r = rid then 1 else 0 := by simp [nfail_single, isFailure]
  have h2 : nabout rid [.failed r e] = if r = rid then 1 else 0 := by simp [nabout_single, aboutRid]
  refine h.emit _ (fun _ => mem_append_cons) ?_ (fun _ => ?_) (fun _ h0 => ?_) <;>
    rw [hc] at * <;> by_cases hr : r = rid <;> simp [hr] at * <;> omega

theorem Acc.drop {H : List Item} {st : St} {r : Nat} {i : Bool}
    (h : Acc rid n1 n2 z ((r, i) :: H) st) (hne : rid < 1000000 → ¬ (r = rid ∧ i = false)) :
    Acc rid n1 n2 z H st := by
  have hc := count_cons_item (H := H) r i (items st.1) rid
  refine h.change h.pkn h.sb (fun x hx => h.ib x (mem_append_cons hx)) ?_ ?_ ?_
  · rw [hc]; omega
  · intro hr; rw [hc]; simp [hne hr]
  · intro hr h0 h3; rw [hc] at h0; exact ⟨by omega, h3⟩

theorem Acc.drop_int {H : List Item} {st : St} {r : Nat}
    (h : Acc rid n1 n2 z ((r, true) :: H) st) : Acc rid n1 n2 z H st :=
  h.drop (fun _ hh => nomatch hh.2)

theorem Acc.drop_big {H : List Item} {st : St} {r : Nat} {i : Bool}
    (h : Acc rid n1 n2 z ((r, i) :: H) st) (hb : 1000000 ≤ r) : Acc rid n1 n2 z H st :=
  h.drop (fun hr hh => by omega)

theorem Acc.add_int {H : List Item} {st : St} {r : Nat}
    (h : Acc rid n1 n2 z H st) (hb : 1000000 ≤ r) : Acc rid n1 n2 z ((r, true) :: H) st := by
  have hc := count_cons_item (H := H) r true (items st.1) rid
  have : ¬ (r = rid ∧ true = false) := fun hh => nomatch hh.2
  simp only [this, if_false, Nat.add_zero] at hc
  refine h.change h.pkn h.sb ?_ ?_ ?_ ?_
  · intro x hx hxi
    simp only [List.mem_append, List.mem_cons] at hx
    rcases hx with hx | hx | hx
    · exact h.ib x (List.mem_append.2 (Or.inl hx)) hxi
    · rw [hx]; exact hb
    · exact h.ib x (List.mem_append.2 (Or.inr hx)) hxi
  · rw [hc]; exact Nat.le_refl _
  · intro _; rw [hc]; exact Nat.le_refl _
  · intro _ h0 h3; rw [hc]; exact ⟨h0, h3⟩

/-- A NODES response with more to come: the request stays tracked. -/
theorem Acc.resp_keep {H : List Item} {st : St} {r : Nat} {i : Bool} (na : NA) (rb : RespBody)
    (h : Acc rid n1 n2 z H st) (hm : (r, i) ∈ items st.1 ++ H) :
    Acc rid n1 n2 z H (st.1, st.2 ++ [.response na r rb]) := by
  have h1 : nfail rid [.response na r rb] = 0 := by simp [nfail_single, isFailure]
  have h2 : nabout rid [.response na r rb] = if r = rid then 1 else 0 := by simp [nabout_single, aboutRid]
  refine h.emit _ (fun _ hx => hx) (by omega) (fun _ => by omega) (fun hr h0 => ⟨h0, ?_⟩)
  rw [h2]
  by_cases hrr : r = rid
  · subst hrr
    cases i with
    | false => exact absurd (List.count_pos_iff.2 hm) (by omega)
    | true => have := h.ib _ hm rfl; simp at this; omega
  · simp [hrr]

/-- The final response for an in-hand request: the item leaves the hand, and the lower bound is paid
by the response just emitted. -/
theorem Acc.resp_final {H : List Item} {st : St} {r : Nat} {i : Bool} (na : NA) (rb : RespBody)
    (h : Acc rid n1 n2 z ((r, i) :: H) st) :
    Acc rid n1 n2 z H (st.1, st.2 ++ [.response na r rb]) := by
  have hb := h.ib (r, i) (by simp)
  have hc := count_cons_item (H := H) r i (items st.1) rid
  have h1 : nfail rid [.response na r rb] = 0 := by simp [nfail_single, isFailure]
  have h2 : nabout rid [.response na r rb] = if r = rid then 1 else 0 := by simp [nabout_single, aboutRid]
  refine h.emit _ (fun _ => mem_append_cons) ?_ (fun _ => ?_) (fun _ h0 => ?_) <;>
    rw [hc] at * <;> by_cases hr : r = rid <;> cases i <;> simp [hr] at * <;> omega

variable {H : List Item}

theorem Acc.frame {st st' : St} (h : Acc rid n1 n2 z H st) (ha : st'.1.active = st.1.active)
    (hp : st'.1.pending = st.1.pending) (hs : st'.1.sessions = st.1.sessions) (ho : st'.2 = st.2) :
    Acc rid n1 n2 z H st' := by
  have hi : items st'.1 = items st.1 := by unfold items; rw [ha, hp]
  exact h.move (by unfold PKN; rw [hp]; exact h.pkn) (by unfold SessBig; rw [hs]; exact h.sb)
    (by rw [hi]) ho

theorem A_frame {α} {m : M α}
    (h : ∀ st, (m.run st).2.1.active = st.1.active ∧ (m.run st).2.1.pending = st.1.pending ∧
      (m.run st).2.1.sessions = st.1.sessions ∧ (m.run st).2.2 = st.2) :
    Ho (Acc rid n1 n2 z H) m (fun _ => Acc rid n1 n2 z H) :=
  ⟨fun st hp => hp.frame (h st).1 (h st).2.1 (h st).2.2.1 (h st).2.2.2⟩

theorem A_emit (o : Out) (ho : ∀ r, aboutRid r o = false) :
    Ho (Acc rid n1 n2 z H) (emit o) (fun _ => Acc rid n1 n2 z H) := ⟨fun _ hp => hp.neutral o ho⟩
theorem A_send (na p) : Ho (Acc rid n1 n2 z H) (send na p) (fun _ => Acc rid n1 n2 z H) :=
  A_emit _ (fun _ => rfl)
theorem A_freshNonce (c : Cfg) : Ho (Acc rid n1 n2 z H) (freshNonce c) (fun _ => Acc rid n1 n2 z H) :=
  A_frame (fun _ => ⟨rfl, rfl, rfl, rfl⟩)
theorem A_freshCd (c : Cfg) : Ho (Acc rid n1 n2 z H) (freshCd c) (fun _ => Acc rid n1 n2 z H) :=
  A_frame (fun _ => ⟨rfl, rfl, rfl, rfl⟩)
theorem A_freshEph (c : Cfg) : Ho (Acc rid n1 n2 z H) (freshEph c) (fun _ => Acc rid n1 n2 z H) :=
  A_frame (fun _ => ⟨rfl, rfl, rfl, rfl⟩)
theorem A_removeExpected (a) : Ho (Acc rid n1 n2 z H) (removeExpected a) (fun _ => Acc rid n1 n2 z H) :=
  A_frame (fun _ => ⟨rfl, rfl, rfl, rfl⟩)
theorem A_addExpected (a) : Ho (Acc rid n1 n2 z H) (addExpected a) (fun _ => Acc rid n1 n2 z H) := by
  unfold addExpected
  refine Ho.modS _ (fun st hp => ?_)
  show Acc rid n1 n2 z H (if _ then _ else _, st.2)
  split <;> exact hp.frame rfl rfl rfl rfl

theorem mkName_big {c : Cfg} (hl : 1 ≤ c.localId) (k : Nat) : 1000000 ≤ mkName c k := by
  unfold mkName
  have hl' : (1 : Nat) ≤ (c.localId : Nat) := hl
  omega

theorem A_freshRid_bind {β} {c : Cfg} (hl : 1 ≤ c.localId) {k : Nat → M β} {Q : β → St → Prop}
    (h : ∀ r, 1000000 ≤ r → Ho (Acc rid n1 n2 z H) (k r) Q) :
    Ho (Acc rid n1 n2 z H) (freshRid c >>= k) Q :=
  ⟨fun st hp => (h _ (mkName_big hl _)).out _
    ((A_frame (m := freshRid c) (fun _ => ⟨rfl, rfl, rfl, rfl⟩)).out st hp)⟩

theorem A_encryptMessage_bind {β} {c : Cfg} {sess : Session} {pt : Msg} {k : Session × Pkt → M β}
    {Q : β → St → Prop}
    (h : ∀ r, (SBig sess → SBig r.1) → Ho (Acc rid n1 n2 z H) (k r) Q) :
    Ho (Acc rid n1 n2 z H) (encryptMessage c sess pt >>= k) Q :=
  ⟨fun st hp => (h _ (fun hs => hs)).out _
    ((A_frame (m := encryptMessage c sess pt) (fun _ => ⟨rfl, rfl, rfl, rfl⟩)).out st hp)⟩

theorem A_sessGetMut (c : Cfg) (na) : Ho (Acc rid n1 n2 z H) (sessGetMut c na)
    (fun r st => Acc rid n1 n2 z H st ∧ ∀ sess, r = some sess → SBig sess) := by
  refine sessGetMut_elim (fun st hp => ⟨fun _ => ⟨hp, fun _ h => nomatch h⟩, fun k sess stamp hf =>
    ⟨fun _ => ⟨hp.sess _ (fun e he => hp.sb e (List.mem_filter.1 he).1), fun _ h => nomatch h⟩, fun _ => ?_⟩⟩)
  have hm := List.mem_of_find?_eq_some hf
  have hs : SBig sess := hp.sb _ hm
  refine ⟨hp.sess _ (fun e he => ?_), fun s' h => by cases h; exact hs⟩
  simp only [List.mem_append, List.mem_singleton] at he
  rcases he with he | he
  · exact hp.sb e (List.mem_filter.1 he).1
  · subst he; exact hs

theorem A_sessGetMut_bind {β} {c : Cfg} {na : NA} {k : Option Session → M β} {Q : β → St → Prop}
    (h : ∀ r, (∀ sess, r = some sess → SBig sess) → Ho (Acc rid n1 n2 z H) (k r) Q) :
    Ho (Acc rid n1 n2 z H) (sessGetMut c na >>= k) Q :=
  Ho.bind (A_sessGetMut c na) (fun r => Ho.pre_pure_right (h r))

theorem A_sessPut (na sess) (hs : SBig sess) :
    Ho (Acc rid n1 n2 z H) (sessPut na sess) (fun _ => Acc rid n1 n2 z H) :=
  Ho.modS _ (fun st hp => hp.sess _ (fun e he => by
    simp only [List.mem_map] at he
    obtain ⟨y, hy, rfl⟩ := he
    by_cases hk : (y.1 == na) = true
    · simp only [hk, if_true]; exact hs
    · simp only [hk]; exact hp.sb y hy))

theorem A_sessRemove (na) : Ho (Acc rid n1 n2 z H) (sessRemove na) (fun _ => Acc rid n1 n2 z H) :=
  Ho.modS _ (fun _ hp => hp.sess _ (fun e he => hp.sb e (List.mem_filter.1 he).1))

theorem A_sessInsert (c : Cfg) (na sess) (hs : SBig sess) :
    Ho (Acc rid n1 n2 z H) (sessInsert c na sess) (fun _ => Acc rid n1 n2 z H) :=
  Ho.modS _ (fun st hp => hp.sess _ (fun e he => by
    have key : ∀ e ∈ st.1.sessions.filter (·.1 != na) ++ [(na, sess, st.1.rt)], SBig e.2.1 := by
      intro e he
      simp only [List.mem_append, List.mem_singleton] at he
      rcases he with he | he
      · exact hp.sb e (List.mem_filter.1 he).1
      · subst he; exact hs
    split at he
    · exact key e (List.mem_of_mem_drop he)
    · exact key e he))

theorem A_removeExpiredSessions (c : Cfg) :
    Ho (Acc rid n1 n2 z H) (removeExpiredSessions c) (fun _ => Acc rid n1 n2 z H) :=
  ⟨fun st hp => by
    rw [removeExpiredSessions_run]
    have hs := hp.sess (popExpired c.sessionTtl st.1.rt st.1.sessions).2
      (fun x hx => hp.sb x (popExpired_sub _ _ _ x hx))
    split
    · exact hs
    · exact hs.neutral _ (fun _ => rfl)⟩

theorem A_activeInsert (c : Cfg) (call : Call) (x : Item) (hx : call.item = x) :
    Ho (Acc rid n1 n2 z (x :: H)) (activeInsert c call) (fun _ => Acc rid n1 n2 z H) :=
  Ho.modS _ (fun st hp => hp.move hp.pkn hp.sb (by
    subst hx
    show (items { st.1 with active := st.1.active ++ [_], tctr := _ } ++ H).Perm _
    unfold items
    simp only [List.map_append, List.map_cons, List.map_nil, List.append_assoc]
    refine List.Perm.append_left _ ?_
    exact (List.perm_middle (a := call.item) (l₁ := pitems st.1.pending) (l₂ := H)).symm) rfl)

theorem perm_hand {x : Item} {I I' H : List Item} (h : (x :: I').Perm I) :
    (I' ++ x :: H).Perm (I ++ H) :=
  List.perm_middle.trans (List.Perm.append_right H h)

theorem A_activeRemoveByNonce (n) : Ho (Acc rid n1 n2 z H) (activeRemoveByNonce n)
    (fun r st => (r = none → Acc rid n1 n2 z H st) ∧
      ∀ call, r = some call → Acc rid n1 n2 z (call.item :: H) st) :=
  activeRemoveByNonce_elim (fun st hp => ⟨fun _ => ⟨fun _ => hp, fun _ h => nomatch h⟩,
    fun call hf => ⟨fun h => (nomatch h), fun x hx => by
      cases hx
      exact hp.move hp.pkn hp.sb (perm_hand (items_erase (List.mem_of_find?_eq_some hf) _)) rfl⟩⟩)

theorem A_activeRemoveRequest (na rid') : Ho (Acc rid n1 n2 z H) (activeRemoveRequest na rid')
    (fun r st => (r = none → Acc rid n1 n2 z H st) ∧
      ∀ call, r = some call → Acc rid n1 n2 z (call.item :: H) st ∧ call.rid = rid') :=
  activeRemoveRequest_elim (fun st hp => ⟨fun _ => ⟨fun _ => hp, fun _ h => nomatch h⟩,
    fun call hf => ⟨fun h => (nomatch h), fun x hx => by
      cases hx
      have hc := List.find?_some hf
      simp only [Bool.and_eq_true, beq_iff_eq] at hc
      exact ⟨hp.move hp.pkn hp.sb (perm_hand (items_erase (List.mem_of_find?_eq_some hf) _)) rfl, hc.2⟩⟩⟩)

theorem A_activeRemoveRequests (na) : Ho (Acc rid n1 n2 z H) (activeRemoveRequests na)
    (fun calls => Acc rid n1 n2 z (calls.map Call.item ++ H)) :=
  ⟨fun st hp => hp.move hp.pkn hp.sb (by
    rw [activeRemoveRequests_run]
    have := items_removeRequests st.1 (fun call => callNA call == na)
    show (items { st.1 with active := st.1.active.filter (fun call => callNA call != na) } ++ (_ ++ H)).Perm _
    rw [← List.append_assoc]
    exact List.Perm.append_right H (List.perm_append_comm.trans this)) rfl⟩

theorem A_replayStep {c : Cfg} (oldNonce : Nat) (p : Pkt) :
    Ho (Acc rid n1 n2 z H) (modS (replayStep c oldNonce p)) (fun _ => Acc rid n1 n2 z H) :=
  Ho.modS _ (fun st hp => hp.move hp.pkn hp.sb (by
    have : ∀ l : List Call, (l.map (fun call => if call.pkt.nonce == oldNonce then
        { call with pkt := p, deadline := st.1.now + c.requestTimeout, tseq := st.1.tctr } else call)).map
        Call.item = l.map Call.item := by
      intro l
      rw [List.map_map]
      refine List.map_congr_left (fun x _ => ?_)
      simp only [Function.comp]
      split <;> rfl
    show (items { st.1 with active := _, tctr := _ } ++ H).Perm _
    unfold items
    dsimp only
    rw [this]) rfl)

/-- After an attempt to send the in-hand item `x`: it has left the hand, unless an error came back. -/
abbrev Sent (rid n1 n2 : Nat) (z : Prop) (H : List Item) (x : Item) (o : Option Err) (st : St) : Prop :=
  (o = none → Acc rid n1 n2 z H st) ∧ ∀ e, o = some e → Acc rid n1 n2 z (x :: H) st

theorem A_queueRequest (contact : Contact) (r : Nat) (i : Bool) (body : Nat) :
    Ho (Acc rid n1 n2 z ((r, i) :: H)) (queueRequest contact r i body) (Sent rid n1 n2 z H (r, i)) :=
  ⟨fun st hp => by
    rw [queueRequest_run]
    refine ⟨fun _ => ?_, fun _ h => nomatch h⟩
    have key : ∀ pend' : List (NA × List PendingReq), (pend'.map (·.1)).Nodup →
        (pitems pend').Perm ((r, i) :: pitems st.1.pending) →
        Acc rid n1 n2 z H ({ st.1 with pending := pend' }, st.2) := by
      intro pend' hn hperm
      refine hp.move hn hp.sb ?_ rfl
      show (items { st.1 with pending := pend' } ++ H).Perm _
      unfold items
      dsimp only
      rw [List.append_assoc, List.append_assoc]
      refine List.Perm.append_left _ ?_
      exact (List.Perm.append_right H hperm).trans List.perm_middle.symm
    unfold SU.pushPending
    dsimp only
    split
    · rename_i hany
      refine key _ ?_ ?_
      · have : (st.1.pending.map (fun e => if e.1 == contact.na then
            (e.1, e.2 ++ [({ contact := contact, rid := r, internal := i, body := body } : PendingReq)]) else e)).map (·.1)
            = st.1.pending.map (·.1) := by
          rw [List.map_map]
          refine List.map_congr_left (fun x _ => ?_)
          simp only [Function.comp]
          split <;> rfl
        rw [this]; exact hp.pkn
      · refine pitems_push_mem _ hp.pkn ?_
        rw [List.any_eq_true] at hany
        obtain ⟨x, hx, hk⟩ := hany
        exact (beq_iff_eq.1 hk) ▸ List.mem_map_of_mem hx
    · rename_i hany
      refine key _ ?_ (pitems_push_new _ _ _)
      rw [List.map_append, List.nodup_append]
      refine ⟨hp.pkn, by simp, ?_⟩
      intro a ha b hb hab
      simp only [List.map_cons, List.map_nil, List.mem_singleton] at hb
      subst hb; subst hab
      apply hany
      rw [List.any_eq_true]
      simp only [List.mem_map] at ha
      obtain ⟨x, hx, hk⟩ := ha
      exact ⟨x, hx, beq_iff_eq.2 hk⟩⟩

theorem Acc.take {st : St} {na : NA} {ent : NA × List PendingReq} (h : Acc rid n1 n2 z H st)
    (hf : st.1.pending.find? (·.1 == na) = some ent) :
    Acc rid n1 n2 z (ent.2.map PendingReq.item ++ H)
      ({ st.1 with pending := st.1.pending.filter (·.1 != na) }, st.2) :=
  h.move (List.Nodup.sublist (List.Sublist.map _ List.filter_sublist) h.pkn) h.sb (by
    show (items { st.1 with pending := _ } ++ _).Perm _
    unfold items
    dsimp only
    rw [List.append_assoc, List.append_assoc]
    refine List.Perm.append_left _ ?_
    rw [← List.append_assoc]
    exact List.Perm.append_right H (List.perm_append_comm.trans (pitems_take h.pkn hf))) rfl

theorem A_isAwaitingSession (c : Cfg) (na) :
    Ho (Acc rid n1 n2 z H) (isAwaitingSession c na) (fun _ => Acc rid n1 n2 z H) := by
  unfold isAwaitingSession
  refine A_sessGetMut_bind (fun r _ => ?_)
  cases r with
  | some _ => exact Ho.pureI _
  | none => exact Ho.getS_pin (fun s => Ho.unpin (Ho.pureI _))

theorem A_sendTail (c : Cfg) (ct : Contact) (r : Nat) (i : Bool) (b : Nat) (pkt : Pkt) (ini : Bool) :
    Ho (Acc rid n1 n2 z ((r, i) :: H)) (sendTail c ct r i b pkt ini) (Sent rid n1 n2 z H (r, i)) := by
  unfold sendTail
  exact Ho.bind (A_addExpected _) (fun _ => Ho.bind (A_send ..) (fun _ =>
    Ho.bind (A_activeInsert c _ _ rfl) (fun _ => Ho.pure _ (fun st hp => ⟨fun _ => hp, fun _ h => nomatch h⟩))))

theorem A_sendNow (c : Cfg) (ct : Contact) (r : Nat) (i : Bool) (b : Nat) :
    Ho (Acc rid n1 n2 z ((r, i) :: H)) (sendNow c ct r i b) (Sent rid n1 n2 z H (r, i)) := by
  unfold sendNow
  refine A_sessGetMut_bind (fun o hr => ?_)
  cases o with
  | some sess =>
    exact A_encryptMessage_bind (fun x hx => Ho.bind (A_sessPut _ _ (hx (hr _ rfl))) (fun _ => A_sendTail ..))
  | none => exact Ho.bind (A_freshNonce c) (fun _ => A_sendTail ..)

theorem A_sendRequest (c : Cfg) (ct : Contact) (r : Nat) (i : Bool) (b : Nat) :
    Ho (Acc rid n1 n2 z ((r, i) :: H)) (sendRequest c ct r i b) (Sent rid n1 n2 z H (r, i)) := by
  rw [sendRequest_split]
  have hq := A_queueRequest (rid := rid) (n1 := n1) (n2 := n2) (z := z) (H := H) ct r i b
  exact Ho.ite (fun _ => Ho.pure _ (fun st hp => ⟨fun h => (nomatch h), fun _ _ => hp⟩))
    (fun _ => Ho.getS_pin (fun s => Ho.unpin (Ho.ite (fun _ => hq) (fun _ =>
      Ho.bind (A_isAwaitingSession c ct.na) (fun aw => Ho.ite (fun _ => hq) (fun _ => A_sendNow ..))))))

theorem A_failItem (r : Nat) (i : Bool) (e : Err) :
    Ho (Acc rid n1 n2 z ((r, i) :: H)) (if (!i) = true then emit (.failed r e) else pure ())
      (fun _ => Acc rid n1 n2 z H) := by
  cases i with
  | false => exact Ho.ite (fun _ => ⟨fun _ hp => hp.fail e⟩) (fun h => absurd rfl h)
  | true => exact Ho.ite (fun h => nomatch h) (fun _ => Ho.pure _ (fun _ hp => hp.drop_int))

theorem A_sendPendingRequests (c : Cfg) (na) :
    Ho (Acc rid n1 n2 z H) (sendPendingRequests c na) (fun _ => Acc rid n1 n2 z H) := by
  unfold sendPendingRequests
  refine Ho.getS_pin (fun s0 => ?_)
  have loop : ∀ prs : List PendingReq, Ho (Acc rid n1 n2 z (prs.map PendingReq.item ++ H))
      (forEach prs fun pr => do
        match ← sendRequest c pr.contact pr.rid pr.internal pr.body with
        | some e => if !pr.internal then emit (.failed pr.rid e)
        | none => pure ()) (fun _ => Acc rid n1 n2 z H) := by
    intro prs
    refine Ho.forEach (fun rest => Acc rid n1 n2 z (rest.map PendingReq.item ++ H)) prs _ (fun pr rest => ?_)
    refine Ho.bind (A_sendRequest c pr.contact pr.rid pr.internal pr.body) (fun o => ?_)
    cases o with
    | none => exact Ho.pure _ (fun _ hp => hp.1 rfl)
    | some e => exact Ho.pre (A_failItem pr.rid pr.internal e) (fun _ hp => hp.2 e rfl)
  cases hf : s0.pending.find? (·.1 == na) with
  | none =>
    exact Ho.bind (Q := fun _ => Acc rid n1 n2 z H)
      (Ho.setS_pinned _ (fun _ hp => by rw [filter_ne_of_find_none hf]; exact hp)) (fun _ => loop [])
  | some ent =>
    exact Ho.bind (Q := fun _ => Acc rid n1 n2 z (ent.2.map PendingReq.item ++ H))
      (Ho.setS_pinned _ (fun _ hp => hp.take hf)) (fun _ => loop ent.2)

theorem A_failThen {α} (r : Nat) (i : Bool) (e : Err) (m : M α) (Q : α → St → Prop)
    (hm : Ho (Acc rid n1 n2 z H) m Q) :
    Ho (Acc rid n1 n2 z ((r, i) :: H)) (do
      if (!i) = true then emit (.failed r e)
      m) Q := by
  cases i with
  | false =>
    exact Ho.ite (fun _ => Ho.bind (Q := fun _ => Acc rid n1 n2 z H) ⟨fun _ hp => hp.fail e⟩ (fun _ => hm))
      (fun h => absurd rfl h)
  | true => exact Ho.ite (fun h => nomatch h) (fun _ => Ho.pre hm (fun _ hp => hp.drop_int))

theorem A_modS (f : HState → HState)
    (h : ∀ s, (f s).active = s.active ∧ (f s).pending = s.pending ∧ (f s).sessions = s.sessions) :
    Ho (Acc rid n1 n2 z H) (modS f) (fun _ => Acc rid n1 n2 z H) :=
  Ho.modS _ (fun st hp => hp.frame (h st.1).1 (h st.1).2.1 (h st.1).2.2 rfl)

theorem A_failActive (na : NA) (e : Err) :
    Ho (Acc rid n1 n2 z H) (failActive na e) (fun _ => Acc rid n1 n2 z H) := by
  unfold failActive
  refine Ho.bind (A_activeRemoveRequests na) (fun calls => ?_)
  refine Ho.forEach (fun rest => Acc rid n1 n2 z (rest.map Call.item ++ H)) calls _ (fun call rest => ?_)
  exact A_failThen call.rid call.internal e _ _ (A_removeExpected _)

theorem A_failPending (na : NA) (e : Err) :
    Ho (Acc rid n1 n2 z H) (failPending na e) (fun _ => Acc rid n1 n2 z H) := by
  unfold failPending
  refine Ho.getS_pin (fun s0 => ?_)
  split
  · rename_i ent hf
    exact Ho.bind (Q := fun _ => Acc rid n1 n2 z (ent.2.map PendingReq.item ++ H))
      (Ho.setS_pinned _ (fun _ hp => hp.take hf))
      (fun _ => Ho.forEach (fun rest => Acc rid n1 n2 z (rest.map PendingReq.item ++ H)) ent.2 _
        (fun pr rest => A_failItem pr.rid pr.internal e))
  · exact Ho.unpin (Ho.pureI _)

theorem A_failSession (c : Cfg) (na e b) :
    Ho (Acc rid n1 n2 z H) (failSession c na e b) (fun _ => Acc rid n1 n2 z H) := by
  rw [failSession_eq]
  exact Ho.bind (Ho.iteI (Ho.bind (A_removeExpiredSessions c) (fun _ => A_sessRemove na)) (Ho.pureI _))
    (fun _ => Ho.bind (A_failPending na e) (fun _ => A_failActive na e))

theorem A_failRequest (c : Cfg) (call : Call) (e b) :
    Ho (Acc rid n1 n2 z (call.item :: H)) (failRequest c call e b) (fun _ => Acc rid n1 n2 z H) := by
  unfold failRequest
  exact A_failThen call.rid call.internal e _ _ (A_failSession ..)

theorem A_handleRequestTimeout (c : Cfg) (call : Call) :
    Ho (Acc rid n1 n2 z (call.item :: H)) (handleRequestTimeout c call) (fun _ => Acc rid n1 n2 z H) := by
  unfold handleRequestTimeout
  refine Ho.ite (fun _ => Ho.bind (A_removeExpected _) (fun _ => A_failRequest ..)) (fun _ => ?_)
  exact Ho.bind (A_send ..) (fun _ => A_activeInsert c _ _ rfl)

theorem A_reencryptAll (c : Cfg) (l : List Call) (sess : Session) (acc) :
    Ho (Acc rid n1 n2 z H) (reencryptAll c l sess acc)
      (fun r st => Acc rid n1 n2 z H st ∧ (SBig sess → SBig r.1)) := by
  induction l generalizing sess acc with
  | nil => unfold reencryptAll; exact Ho.pure _ (fun _ hp => ⟨hp, id⟩)
  | cons x xs ih =>
    unfold reencryptAll
    refine A_encryptMessage_bind (fun r hr => ?_)
    exact (ih r.1 _).post (fun _ _ h => ⟨h.1, fun hs => h.2 (hr hs)⟩)

theorem A_reencryptAll_bind {β} {c : Cfg} {l : List Call} {sess : Session} {acc}
    {k : Session × List (Nat × Pkt) → M β} {Q : β → St → Prop}
    (h : ∀ r, (SBig sess → SBig r.1) → Ho (Acc rid n1 n2 z H) (k r) Q) :
    Ho (Acc rid n1 n2 z H) (reencryptAll c l sess acc >>= k) Q :=
  Ho.bind (A_reencryptAll c l sess acc) (fun r => Ho.pre_pure_right (h r))

theorem A_replayActiveRequests (c : Cfg) (na sk) :
    Ho (Acc rid n1 n2 z H) (replayActiveRequests c na sk) (fun _ => Acc rid n1 n2 z H) := by
  rw [replayActiveRequests_eq]
  refine A_sessGetMut_bind (fun r hr => ?_)
  cases r with
  | none => exact Ho.pureI _
  | some sess0 =>
    exact Ho.getS_pin (fun s => Ho.unpin (A_reencryptAll_bind (fun x hx =>
      Ho.bind (A_sessPut na _ (hx (hr _ rfl))) (fun _ => Ho.forEachI _ _ (fun y =>
        Ho.bind (A_replayStep ..) (fun _ => A_send ..))))))

theorem A_newSession (c : Cfg) (na sess sk) (hs : SBig sess) :
    Ho (Acc rid n1 n2 z H) (newSession c na sess sk) (fun _ => Acc rid n1 n2 z H) := by
  unfold newSession
  refine Ho.bind (A_removeExpiredSessions c) (fun _ => A_sessGetMut_bind (fun r hr => ?_))
  cases r with
  | some cur =>
    exact Ho.bind (A_sessPut na _ hs) (fun _ => Ho.bind (A_replayActiveRequests ..) (fun _ =>
      A_sendPendingRequests ..))
  | none => exact Ho.bind (A_sessInsert c na sess hs) (fun _ => A_sendPendingRequests ..)

theorem A_sendChallenge (c : Cfg) (na n k) :
    Ho (Acc rid n1 n2 z H) (sendChallenge c na n k) (fun _ => Acc rid n1 n2 z H) := by
  unfold sendChallenge
  refine Ho.getS_pin (fun s => Ho.unpin (Ho.ite (fun _ => Ho.pureI _) (fun _ => ?_)))
  exact Ho.bind (A_freshCd c) (fun cd => Ho.bind (A_addExpected _) (fun _ => Ho.bind (A_send ..) (fun _ =>
    A_modS _ (fun _ => ⟨rfl, rfl, rfl⟩))))

theorem A_handleChallenge (c : Cfg) (hl : 1 ≤ c.localId) (src n cd es) :
    Ho (Acc rid n1 n2 z H) (handleChallenge c src n cd es) (fun _ => Acc rid n1 n2 z H) := by
  unfold handleChallenge
  refine Ho.bind (A_activeRemoveByNonce n) (fun r => ?_)
  cases r with
  | none => exact Ho.pure _ (fun _ hp => hp.1 rfl)
  | some call0 =>
    refine Ho.pre (P' := Acc rid n1 n2 z (call0.item :: H)) ?_ (fun _ hp => hp.2 _ rfl)
    refine Ho.ite (fun _ => ?_) (fun _ => Ho.ite (fun _ => ?_) (fun _ => Ho.ite (fun _ => ?_) (fun _ => ?_)))
    · exact Ho.bind (A_activeInsert c call0 _ rfl) (fun _ => Ho.pureI _)
    · exact Ho.bind (A_removeExpected _) (fun _ => Ho.bind (A_failRequest ..) (fun _ => Ho.pureI _))
    · exact Ho.bind (A_removeExpected _) (fun _ => Ho.bind (A_failRequest ..) (fun _ => Ho.pureI _))
    · refine Ho.bind (A_freshEph c) (fun eph => Ho.bind (A_freshNonce c) (fun hsNonce => ?_))
      dsimp only
      split
      · exact Ho.bind (A_activeInsert c _ _ rfl) (fun _ => Ho.bind (A_send ..) (fun _ =>
          Ho.bind (A_emit _ (fun _ => rfl)) (fun _ => A_newSession _ _ _ _ (fun r h => nomatch h))))
      · refine Ho.bind (A_activeInsert c _ _ rfl) (fun _ => Ho.bind (A_send ..) (fun _ => ?_))
        refine A_freshRid_bind hl (fun rid' hbig => ?_)
        refine Ho.bind (Q := fun _ => Acc rid n1 n2 z H)
          (Ho.conseq (A_sendRequest c call0.contact rid' true c.findnode0)
            (fun _ hp => hp.add_int hbig) (fun o st hp => ?_)) (fun _ => ?_)
        · cases o with
          | none => exact hp.1 rfl
          | some e => exact (hp.2 e rfl).drop_int
        · refine A_newSession _ _ _ _ ?_
          intro r h; cases h; exact hbig

theorem A_activeInsert_mem (c : Cfg) (call : Call) (x : Item) (hx : call.item = x) :
    Ho (Acc rid n1 n2 z (x :: H)) (activeInsert c call)
      (fun _ st => Acc rid n1 n2 z H st ∧ x ∈ items st.1) :=
  Ho.conj (A_activeInsert c call x hx) (P' := fun _ => True) ⟨fun st _ => by
    subst hx
    show call.item ∈ items { st.1 with active := st.1.active ++ [_], tctr := _ }
    unfold items
    simp [Call.item]⟩ |>.pre (fun _ hp => ⟨hp, trivial⟩)

theorem A_handleResponse (c : Cfg) (na rid' rb) :
    Ho (Acc rid n1 n2 z H) (handleResponse c na rid' rb) (fun _ => Acc rid n1 n2 z H) := by
  unfold handleResponse
  refine Ho.bind (A_activeRemoveRequest na rid') (fun r => ?_)
  cases r with
  | none => exact Ho.pure _ (fun _ hp => hp.1 rfl)
  | some call =>
    refine Ho.pre (P' := fun st => Acc rid n1 n2 z ((rid', call.internal) :: H) st ∧ call.rid = rid') ?_
      (fun _ hp => by have := hp.2 _ rfl; exact ⟨this.2 ▸ this.1, this.2⟩)
    refine Ho.pre_pure_right (fun hrid => ?_)
    have keep : ∀ call' : Call, call'.item = (rid', call.internal) →
        Ho (Acc rid n1 n2 z ((rid', call.internal) :: H)) (do
          activeInsert c call'
          emit (.response na rid' rb)
          pure ()) (fun _ => Acc rid n1 n2 z H) := fun call' h =>
      Ho.bind (A_activeInsert_mem c call' _ h) (fun _ => Ho.bind (Q := fun _ => Acc rid n1 n2 z H)
        ⟨fun _ hp => hp.1.resp_keep na rb (List.mem_append.2 (Or.inl hp.2))⟩ (fun _ => Ho.pureI _))
    have fin : Ho (Acc rid n1 n2 z ((rid', call.internal) :: H)) (do
          removeExpected na.addr
          emit (.response na rid' rb)) (fun _ => Acc rid n1 n2 z H) :=
      Ho.bind (A_removeExpected _) (fun _ => ⟨fun _ hp => hp.resp_final na rb⟩)
    have hitem : ∀ rem, ({ call with remaining := rem } : Call).item = (rid', call.internal) := by
      intro rem; show (call.rid, call.internal) = _; rw [hrid]
    cases rb with
    | other code => exact fin
    | nodes total recs =>
      dsimp only
      refine Ho.ite (fun _ => ?_) (fun _ => fin)
      split
      · exact Ho.ite (fun _ => keep _ (hitem _)) (fun _ => fin)
      · exact keep _ (hitem _)

theorem decryptMessage_awaiting (sess : Session) (n : Nat) (ct : Ct) :
    (decryptMessage sess n ct).1.awaitingEnr = sess.awaitingEnr := by
  rcases decryptMessage_cases sess n ct with ⟨_, _, -, e⟩ | ⟨_, _, _, -, -, e⟩ | ⟨_, -, e⟩ | ⟨-, e⟩ <;> rw [e]

theorem establish_sbig {c : Cfg} {id : Id} {ch : Challenge} {sig : Sig} {eph : Nat} {record : Option Rec}
    {sess : Session} {r : Rec}
    (h : establishFromChallenge c id ch sig eph record = some (some (sess, r))) : SBig sess := by
  rw [(establish_ok _ _ _ _ _ _ _ _ h).2.2.2.2.2.1]
  exact fun _ hr => nomatch hr

theorem A_verifyLast (na : NA) (rb : RespBody) :
    Ho (Acc rid n1 n2 z H) (verifyLast na rb) (fun _ => Acc rid n1 n2 z H) := by
  unfold verifyLast
  split
  · split
    · exact Ho.ite (fun _ => Ho.bind (A_emit _ (fun _ => rfl)) (fun _ => Ho.pureI _))
        (fun _ => Ho.bind (A_emit _ (fun _ => rfl)) (fun _ => Ho.pureI _))
    · exact Ho.pureI _
  · exact Ho.pureI _

theorem A_verifyAwaited (c : Cfg) (na : NA) (rb : RespBody) :
    Ho (Acc rid n1 n2 z H) (verifyAwaited c na rb) (fun _ => Acc rid n1 n2 z H) :=
  Ho.bind (A_verifyLast ..) (fun _ => Ho.iteI (A_failSession ..) (Ho.pureI _))

theorem A_handleMessage (c : Cfg) (na n ct) :
    Ho (Acc rid n1 n2 z H) (handleMessage c na n ct) (fun _ => Acc rid n1 n2 z H) := by
  rw [handleMessage_eq]
  refine A_sessGetMut_bind (fun r hr => ?_)
  cases r with
  | none => exact A_emit _ (fun _ => rfl)
  | some sess =>
    have hs : SBig sess := hr _ rfl
    have hs' : SBig (decryptMessage sess n ct).1 := by
      intro r h; rw [decryptMessage_awaiting] at h; exact hs r h
    refine Ho.bind (A_sessPut na _ hs') (fun _ => ?_)
    split
    · exact Ho.bind (A_failSession ..) (fun _ =>
        Ho.getS_pin (fun s => Ho.unpin (Ho.iteI (A_emit _ (fun _ => rfl)) (Ho.pureI _))))
    · exact Ho.pureI _
    · exact A_emit _ (fun _ => rfl)
    · rename_i rid' rb hpt
      refine Ho.ite (fun haw => ?_) (fun _ => A_handleResponse ..)
      -- the awaited ENR request is the handler's own: its id is big, so the call removed for it
      -- is no `(rid, false)` and may be dropped from the hand
      have hb : 1000000 ≤ rid' := hs' rid' (beq_iff_eq.1 haw)
      unfold finishEnr
      refine Ho.bind (A_sessPut na _ (fun r h => nomatch h)) (fun _ =>
        Ho.bind (Q := fun _ => Acc rid n1 n2 z H)
          ((A_activeRemoveRequest na rid').post (fun o st hp => ?_)) (fun o => ?_))
      · cases o with
        | none => exact hp.1 rfl
        | some call => exact (hp.2 call rfl).1.drop_big ((hp.2 call rfl).2 ▸ hb)
      · cases o with
        | none => exact A_verifyAwaited c na rb
        | some _ => exact Ho.bind (A_removeExpected _) (fun _ => A_verifyAwaited c na rb)

theorem A_handleAuthMessage (c : Cfg) (na n sig eph r ct) :
    Ho (Acc rid n1 n2 z H) (handleAuthMessage c na n sig eph r ct) (fun _ => Acc rid n1 n2 z H) := by
  unfold handleAuthMessage
  refine Ho.getS_pin (fun s0 => ?_)
  split
  · exact Ho.pure _ (fun _ hp => hp.2)
  · refine Ho.bind (Q := fun _ => Acc rid n1 n2 z H) (Ho.setS_pin
      (fun s => { s with challenges := s.challenges.filter (·.1 != na) })
      (fun _ hp => hp.frame rfl rfl rfl rfl)) (fun _ => ?_)
    split
    · rename_i sess r' heq
      refine Ho.bind (A_removeExpected _) (fun _ => Ho.ite (fun _ => ?_) (fun _ => ?_)) <;>
        exact Ho.bind (A_emit _ (fun _ => rfl)) (fun _ =>
          Ho.bind (A_newSession _ _ _ _ (establish_sbig heq)) (fun _ => A_handleMessage ..))
    · exact A_modS _ (fun _ => ⟨rfl, rfl, rfl⟩)
    · exact Ho.bind (A_removeExpected _) (fun _ => A_failSession ..)

theorem A_fireTimers (c : Cfg) (target fuel : Nat) :
    Ho (Acc rid n1 n2 z H) (fireTimers c target fuel) (fun _ => Acc rid n1 n2 z H) :=
  ⟨fireTimers_inv c target
    (fun _ _ call hp hnd => (A_handleRequestTimeout c call).out _
      (hp.move hp.pkn hp.sb (perm_hand (items_erase (nextDue_spec hnd).2.1 _)) rfl))
    (fun _ _ na hp _ => (Ho.bind (A_removeExpected _) (fun _ => A_sendPendingRequests c na)).out _
      (hp.frame rfl rfl rfl rfl))
    fuel⟩

theorem A_stepM (c : Cfg) (hl : 1 ≤ c.localId) (e : Ev) (he : ∀ ct r b, e ≠ .appRequest ct r b) :
    Ho (Acc rid n1 n2 z H) (stepM c e) (fun _ => Acc rid n1 n2 z H) := by
  cases e with
  | appRequest ct r b => exact absurd rfl (he ct r b)
  | appResponse na r rb =>
    refine A_sessGetMut_bind (fun o hr => ?_)
    cases o with
    | none => exact Ho.pureI _
    | some sess =>
      exact A_encryptMessage_bind (fun x hx => Ho.bind (A_sessPut _ _ (hx (hr _ rfl))) (fun _ => A_send ..))
  | appWru na nonce known => exact A_sendChallenge ..
  | dgram src p =>
    cases p with
    | whoareyou nonce cd enrSeq => exact A_handleChallenge c hl ..
    | handshake srcId nonce sig eph record ct => exact A_handleAuthMessage ..
    | message srcId nonce ct => exact A_handleMessage ..
  | adv dt =>
    exact Ho.getS_pin (fun s => Ho.unpin (Ho.bind (A_fireTimers ..) (fun _ => A_modS _ (fun _ => ⟨rfl, rfl, rfl⟩))))
  | rtAdv dt => exact A_modS (fun s => { s with rt := s.rt + dt }) (fun _ => ⟨rfl, rfl, rfl⟩)

theorem A_stepM_req (c : Cfg) (ct : Contact) (r b : Nat) :
    Ho (Acc rid n1 n2 z ((r, false) :: H)) (stepM c (.appRequest ct r b)) (fun _ => Acc rid n1 n2 z H) := by
  simp only [stepM]
  refine Ho.bind (A_sendRequest c ct r false b) (fun o => ?_)
  cases o with
  | none => exact Ho.pure _ (fun _ hp => hp.1 rfl)
  | some e => exact ⟨fun _ hp => (hp.2 e rfl).fail e⟩

/-! ## From the walk to histories -/

/-- What `Acc` says of the state alone. -/
def Good (s : HState) : Prop :=
  PKN s ∧ SessBig s ∧ ∀ x ∈ items s, x.2 = true → 1000000 ≤ x.1

def cnt (rid : Nat) (s : HState) : Nat := (items s).count (rid, false)

/-- 1 if the event submits request `rid`. -/
def subm (rid : Nat) : Ev → Nat
  | .appRequest _ r _ => if r = rid then 1 else 0
  | _ => 0

theorem step_spec (c : Cfg) (hl : 1 ≤ c.localId) (s : HState) (hg : Good s) (e : Ev) (rid : Nat) :
    Good (step c s e).1 ∧
    nfail rid (step c s e).2 + cnt rid (step c s e).1 ≤ cnt rid s + subm rid e ∧
    (rid < 1000000 → cnt rid s + subm rid e ≤ cnt rid (step c s e).1 + nabout rid (step c s e).2) ∧
    (rid < 1000000 → cnt rid s + subm rid e = 0 → nabout rid (step c s e).2 = 0) := by
  obtain ⟨hpk, hsb, hib⟩ := hg
  -- `Hs`: the item submitted by this event, in hand until `sendRequest` tracks or reports it
  obtain ⟨Hs, hHs, hcount, hho⟩ : ∃ Hs : List Item, (∀ x ∈ Hs, x.2 = false) ∧
      Hs.count (rid, false) = subm rid e ∧
      Ho (Acc rid (cnt rid s + subm rid e) (cnt rid s + subm rid e)
        (rid < 1000000 ∧ cnt rid s + subm rid e = 0) Hs) (stepM c e)
        (fun _ => Acc rid (cnt rid s + subm rid e) (cnt rid s + subm rid e)
          (rid < 1000000 ∧ cnt rid s + subm rid e = 0) []) := by
    cases e with
    | appRequest ct r b =>
      refine ⟨[(r, false)], fun x hx => by rw [List.mem_singleton.1 hx], ?_, A_stepM_req c ct r b⟩
      by_cases hr : r = rid
      · subst hr; simp [subm]
      · simp [subm, hr]
    | _ =>
      exact ⟨[], fun x hx => (nomatch hx), rfl, A_stepM c hl _ (fun _ _ _ h => nomatch h)⟩
  have hinit : Acc rid (cnt rid s + subm rid e) (cnt rid s + subm rid e)
      (rid < 1000000 ∧ cnt rid s + subm rid e = 0) Hs (s, []) := by
    refine ⟨hpk, hsb, ?_, ?_, ?_, ?_⟩
    · intro x hx hxi
      rcases List.mem_append.1 hx with hx | hx
      · exact hib x hx hxi
      · rw [hHs x hx] at hxi; cases hxi
    · show nfail rid [] + _ ≤ _
      rw [List.count_append, hcount]; simp [nfail, cnt]
    · intro _
      rw [List.count_append, hcount]; simp [nabout, cnt]
    · intro hz
      refine ⟨hz.1, ?_, rfl⟩
      rw [List.count_append, hcount]; exact hz.2
  have hpost := hho.out (s, []) hinit
  rw [step_eq]
  generalize ((stepM c e).run (s, [])).2 = st' at hpost
  have hc : (items st'.1 ++ []).count (rid, false) = cnt rid st'.1 := by rw [List.append_nil]; rfl
  refine ⟨⟨hpost.pkn, hpost.sb, fun x hx => hpost.ib x (by rw [List.append_nil]; exact hx)⟩, ?_, ?_, ?_⟩
  · have := hpost.up; rw [hc] at this; exact this
  · intro hr; have := hpost.lo hr; rw [hc] at this; exact this
  · intro hr h0; exact (hpost.si ⟨hr, h0⟩).2.2

theorem appRids_append (a b : List Ev) : appRids (a ++ b) = appRids a ++ appRids b := by
  induction a with
  | nil => rfl
  | cons e es ih => cases e <;> simp [appRids, ih]

theorem count_appRids_snoc (evs : List Ev) (e : Ev) (rid : Nat) :
    (appRids (evs ++ [e])).count rid = (appRids evs).count rid + subm rid e := by
  rw [appRids_append, List.count_append]
  congr 1
  cases e with
  | appRequest ct r b =>
    by_cases hr : r = rid
    · subst hr; simp [appRids, subm]
    · simp [appRids, subm, hr]
  | _ => simp [appRids, subm]

theorem _root_.Discv5.H.AppDiscipline.prefix {c : Cfg} {a b : List Ev} (h : AppDiscipline c (a ++ b)) : AppDiscipline c a := by
  obtain ⟨h1, h2, h3⟩ := h
  rw [appRids_append] at h1 h2
  exact ⟨(List.nodup_append.1 h1).1, fun r hr => h2 r (List.mem_append.2 (Or.inl hr)), h3⟩

/-- Along every history: reported failures plus tracked occurrences never exceed the submissions,
and every submission is still tracked or has been reported on. -/
theorem accounting (c : Cfg) (hl : 1 ≤ c.localId) (evs : List Ev) :
    Good (run c evs) ∧ ∀ rid,
      nfail rid (outputs c evs) + cnt rid (run c evs) ≤ (appRids evs).count rid ∧
      (rid < 1000000 → (appRids evs).count rid ≤ cnt rid (run c evs) + nabout rid (outputs c evs)) :=
  run_induction
    (I := fun evs s os => Good s ∧ ∀ rid, nfail rid os + cnt rid s ≤ (appRids evs).count rid ∧
      (rid < 1000000 → (appRids evs).count rid ≤ cnt rid s + nabout rid os))
    ⟨⟨List.nodup_nil, fun _ he => (nomatch he), fun _ hx => (nomatch hx)⟩,
      fun rid => by simp [nfail, cnt, items, pitems, appRids]⟩
    (fun evs e h => ⟨(step_spec c hl _ h.1 e 0).1, fun rid => by
      have hs := step_spec c hl _ h.1 e rid
      have hi := h.2 rid
      rw [nfail_append, nabout_append, count_appRids_snoc]
      exact ⟨by omega, fun hr => by have := hs.2.2.1 hr; have := hi.2 hr; omega⟩⟩) evs

theorem Good_run (c : Cfg) (hl : 1 ≤ c.localId) (evs : List Ev) : Good (run c evs) :=
  (accounting c hl evs).1

theorem global_upper (c : Cfg) (hl : 1 ≤ c.localId) (evs : List Ev) (rid : Nat) :
    nfail rid (outputs c evs) + cnt rid (run c evs) ≤ (appRids evs).count rid :=
  ((accounting c hl evs).2 rid).1

theorem global_lower (c : Cfg) (hl : 1 ≤ c.localId) (evs : List Ev) (rid : Nat) (hr : rid < 1000000) :
    (appRids evs).count rid ≤ cnt rid (run c evs) + nabout rid (outputs c evs) :=
  ((accounting c hl evs).2 rid).2 hr

theorem cnt_eq (rid : Nat) (s : HState) : cnt rid s = (trackedExt s).count rid := (count_trackedExt rid s).symm

theorem nabout_zero {rid : Nat} {os : List Out} (h : nabout rid os = 0) :
    ∀ o ∈ os, aboutRid rid o = false := by
  intro o ho
  unfold nabout at h
  have := List.length_eq_zero_iff.1 h
  rw [List.filter_eq_nil_iff] at this
  cases hb : aboutRid rid o
  · rfl
  · exact absurd hb (this o ho)

theorem nabout_pos {rid : Nat} {os : List Out} (h : 1 ≤ nabout rid os) : ∃ o ∈ os, aboutRid rid o = true := by
  unfold nabout at h
  obtain ⟨o, ho⟩ := List.exists_mem_of_length_pos h
  exact ⟨o, (List.mem_filter.1 ho).1, (List.mem_filter.1 ho).2⟩

theorem subm_zero {rid : Nat} {e : Ev} (hs : ∀ ct b, e ≠ .appRequest ct rid b) : subm rid e = 0 := by
  cases e with
  | appRequest ct r b =>
    by_cases hr : r = rid
    · subst hr; exact absurd rfl (hs ct b)
    · simp [subm, hr]
  | _ => rfl

theorem nfail_pos {rid : Nat} {er : Err} {os : List Out} (h : Out.failed rid er ∈ os) : 1 ≤ nfail rid os := by
  unfold nfail
  have : Out.failed rid er ∈ os.filter (isFailure rid) := List.mem_filter.2 ⟨h, by simp [isFailure]⟩
  exact List.length_pos_of_mem this

theorem silent_once_untracked (c : Cfg) (rid : Nat) (hr : rid < 1000000) (rest : List Ev) :
    ∀ evs : List Ev, AppDiscipline c (evs ++ rest) → cnt rid (run c evs) = 0 →
      1 ≤ (appRids evs).count rid →
      ∀ o ∈ (trace c (run c evs) rest).flatten, aboutRid rid o = false := by
  induction rest with
  | nil => intro evs _ _ _ o ho; simp [trace] at ho
  | cons e rest ih =>
    intro evs h h0 h1 o ho
    have hd : AppDiscipline c (evs ++ [e]) := by
      have : evs ++ e :: rest = (evs ++ [e]) ++ rest := by simp
      rw [this] at h; exact h.prefix
    have hl := h.2.2
    have hsub : subm rid e = 0 := by
      have := (List.nodup_iff_count.1 hd.1) rid
      rw [count_appRids_snoc] at this; omega
    have hs := step_spec c hl _ (Good_run c hl evs) e rid
    simp only [trace, List.flatten_cons, List.mem_append] at ho
    rcases ho with ho | ho
    · exact nabout_zero (hs.2.2.2 hr (by omega)) o ho
    · have hrun : (step c (run c evs) e).1 = run c (evs ++ [e]) := (run_snoc c evs e).symm
      rw [hrun] at ho
      refine ih (evs ++ [e]) (by simpa using h) ?_ ?_ o ho
      · have := hs.2.1; rw [hrun] at this; omega
      · rw [count_appRids_snoc]; omega

end Discv5.H.RQ

