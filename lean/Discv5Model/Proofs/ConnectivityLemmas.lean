/-
Helper lemmas for `Model/Connectivity.lean`: what each of the three operations of `Conn` does to
the per-family projections `wait` / `cnt` / `next`, the invariants that follow, the shape of
`KSvc.step`, and the frame of a service step whose oracle says "do not count this vote".
-/
import Discv5Model.Model.Connectivity
import Discv5Model.Proofs.ServiceVotes

namespace Discv5.Conn

open Discv5.KB
open Discv5.Svc
open Discv5.Svc.Svc
open Discv5.SvcVotes (Fr Env votePong step_fr handleResponse_vote)

/-- The model file cannot import `ServiceVotes` and states `sockEvs` again. -/
theorem sockEvs_eq (outs : List Out) : sockEvs outs = SvcVotes.sockEvs outs := rfl

/-- Nothing is ever awaited when the feature is off. -/
def Conn.Quiet (k : Conn) : Prop := k.duration = none → k.wait4 = none ∧ k.wait6 = none

/-- While a family is awaited, fewer than the required number of incoming sessions were seen. -/
def Conn.Counting (k : Conn) : Prop :=
  (k.wait4.isSome → k.cnt4 < required) ∧ (k.wait6.isSome → k.cnt6 < required)

theorem Conn.quiet_iff (k : Conn) : k.Quiet ↔ (k.duration = none → ∀ f, k.wait f = none) :=
  imp_congr_right fun _ => (Bool.forall_bool (p := fun f => k.wait f = none)).symm

theorem Conn.counting_iff (k : Conn) : k.Counting ↔ ∀ f, (k.wait f).isSome → k.cnt f < required :=
  (Bool.forall_bool (p := fun f => (k.wait f).isSome → k.cnt f < required)).symm

theorem Conn.new_inv (d : Option Nat) (inst : Nat) : (Conn.new d inst).Quiet ∧ (Conn.new d inst).Counting :=
  ⟨fun _ => ⟨rfl, rfl⟩, Bool.noConfusion, Bool.noConfusion⟩

theorem Conn.enrSocketUpdate_off (k : Conn) (tok : Nat) (v6 : Bool) (hd : k.duration = none) :
    k.enrSocketUpdate tok v6 = k := by
  unfold Conn.enrSocketUpdate
  rw [hd]

theorem Conn.enrSocketUpdate_duration (k : Conn) (tok : Nat) (v6 : Bool) :
    (k.enrSocketUpdate tok v6).duration = k.duration := by
  unfold Conn.enrSocketUpdate
  split
  · rfl
  · cases v6 <;> rfl

theorem Conn.enrSocketUpdate_next (k : Conn) (tok : Nat) (v6 f : Bool) :
    (k.enrSocketUpdate tok v6).next f = k.next f := by
  unfold Conn.enrSocketUpdate
  split
  · rfl
  · cases v6 <;> cases f <;> rfl

theorem Conn.enrSocketUpdate_wait (k : Conn) (tok d : Nat) (v6 f : Bool) (hd : k.duration = some d) :
    (k.enrSocketUpdate tok v6).wait f = if v6 = f then some (tok + d) else k.wait f := by
  unfold Conn.enrSocketUpdate
  rw [hd]
  cases v6 <;> cases f <;> rfl

theorem Conn.enrSocketUpdate_cnt (k : Conn) (tok d : Nat) (v6 f : Bool) (hd : k.duration = some d) :
    (k.enrSocketUpdate tok v6).cnt f = if v6 = f then 0 else k.cnt f := by
  unfold Conn.enrSocketUpdate
  rw [hd]
  cases v6 <;> cases f <;> rfl

theorem Conn.enrSocketUpdate_inv (k : Conn) (tok : Nat) (v6 : Bool) (h : k.Quiet ∧ k.Counting) :
    (k.enrSocketUpdate tok v6).Quiet ∧ (k.enrSocketUpdate tok v6).Counting := by
  cases hd : k.duration with
  | none =>
    rw [Conn.enrSocketUpdate_off k tok v6 hd]
    exact h
  | some d =>
    refine ⟨fun hd' => ?_, (Conn.counting_iff _).2 fun f hw => ?_⟩
    · rw [Conn.enrSocketUpdate_duration, hd] at hd'
      cases hd'
    · rw [Conn.enrSocketUpdate_cnt k tok d v6 f hd]
      rw [Conn.enrSocketUpdate_wait k tok d v6 f hd] at hw
      split
      · decide
      · rw [if_neg ‹_›] at hw
        exact (Conn.counting_iff k).1 h.2 f hw

theorem Conn.enrSocketUpdate_keeps_wait (k : Conn) (tok : Nat) (v6 f : Bool)
    (h : (k.enrSocketUpdate tok v6).wait f = none) : k.wait f = none := by
  cases hd : k.duration with
  | none => rwa [Conn.enrSocketUpdate_off k tok v6 hd] at h
  | some d =>
    rw [Conn.enrSocketUpdate_wait k tok d v6 f hd] at h
    split at h
    · cases h
    · exact h

theorem Conn.receivedIncoming_duration (k : Conn) (v6 : Bool) :
    (k.receivedIncoming v6).duration = k.duration := by
  unfold Conn.receivedIncoming
  cases v6 <;> simp only [Bool.false_eq_true, if_false, if_true] <;> split <;> (try split) <;> rfl

theorem Conn.receivedIncoming_next (k : Conn) (v6 f : Bool) :
    (k.receivedIncoming v6).next f = k.next f := by
  unfold Conn.receivedIncoming
  cases v6 <;> simp only [Bool.false_eq_true, if_false, if_true] <;> split <;> (try split) <;> rfl

theorem Conn.receivedIncoming_wait (k : Conn) (v6 f : Bool) :
    (k.receivedIncoming v6).wait f = if v6 = f ∧ required ≤ k.cnt f + 1 then none else k.wait f := by
  unfold Conn.receivedIncoming Conn.wait Conn.cnt
  cases v6 <;> cases f <;>
    simp only [Bool.false_eq_true, if_false, if_true, true_and, false_and, reduceCtorEq] <;>
    split <;> (try split) <;> first | rfl | assumption

theorem Conn.receivedIncoming_cnt (k : Conn) (v6 f : Bool) :
    (k.receivedIncoming v6).cnt f = if v6 = f ∧ (k.wait f).isSome then k.cnt f + 1 else k.cnt f := by
  unfold Conn.receivedIncoming Conn.wait Conn.cnt
  cases v6 <;> cases f <;>
    simp only [Bool.false_eq_true, if_false, if_true, true_and, false_and, reduceCtorEq] <;>
    split <;> (try split) <;> simp_all

theorem Conn.receivedIncoming_inv (k : Conn) (v6 : Bool) (h : k.Quiet ∧ k.Counting) :
    (k.receivedIncoming v6).Quiet ∧ (k.receivedIncoming v6).Counting := by
  rw [Conn.quiet_iff, Conn.counting_iff] at h ⊢
  refine ⟨fun hd f => ?_, fun f hw => ?_⟩
  · rw [Conn.receivedIncoming_duration] at hd
    rw [Conn.receivedIncoming_wait]
    split
    · rfl
    · exact h.1 hd f
  · rw [Conn.receivedIncoming_wait] at hw
    rw [Conn.receivedIncoming_cnt]
    split at hw
    · cases hw
    · rename_i hn
      split
      · rename_i hp
        have : ¬ required ≤ k.cnt f + 1 := fun hle => hn ⟨hp.1, hle⟩
        omega
      · exact h.2 f hw

/-- A wait that an incoming session ends was that of the session's family, and the session was at
least the `required`-th. -/
theorem Conn.receivedIncoming_clears (k : Conn) (v6 f : Bool) (d : Nat) (hw : k.wait f = some d)
    (h : (k.receivedIncoming v6).wait f = none) : v6 = f ∧ required ≤ k.cnt f + 1 := by
  rw [Conn.receivedIncoming_wait] at h
  split at h
  · assumption
  · rw [hw] at h
    cases h

theorem Conn.fire_duration (k : Conn) (inst : Nat) (g : Bool) : (k.fire inst g).duration = k.duration := by
  cases g <;> rfl

theorem Conn.fire_wait (k : Conn) (inst : Nat) (g f : Bool) :
    (k.fire inst g).wait f = if g = f then none else k.wait f := by
  cases g <;> cases f <;> rfl

theorem Conn.fire_cnt (k : Conn) (inst : Nat) (g f : Bool) : (k.fire inst g).cnt f = k.cnt f := by
  cases g <;> cases f <;> rfl

theorem Conn.fire_next (k : Conn) (inst : Nat) (g f : Bool) :
    (k.fire inst g).next f = if g = f then inst + retryMs else k.next f := by
  cases g <;> cases f <;> rfl

theorem Conn.fire_inv (k : Conn) (inst : Nat) (g : Bool) (h : k.Quiet ∧ k.Counting) :
    (k.fire inst g).Quiet ∧ (k.fire inst g).Counting := by
  rw [Conn.quiet_iff, Conn.counting_iff] at h ⊢
  refine ⟨fun hd f => ?_, fun f hw => ?_⟩
  · rw [Conn.fire_duration] at hd
    rw [Conn.fire_wait]
    split
    · rfl
    · exact h.1 hd f
  · rw [Conn.fire_wait] at hw
    rw [Conn.fire_cnt]
    split at hw
    · cases hw
    · exact h.2 f hw

theorem Conn.due_iff (w : Option Nat) (tok : Nat) : Conn.due w tok = true ↔ ∃ d, w = some d ∧ d ≤ tok := by
  cases w <;> simp [Conn.due]

theorem Conn.firing_due (k : Conn) (tok : Nat) (f : Bool) (h : k.firing tok = some f) :
    Conn.due (k.wait f) tok = true := by
  unfold Conn.firing at h
  split at h
  · cases h
    assumption
  · split at h
    · cases h
      assumption
    · cases h

theorem Conn.quiet_firing (k : Conn) (tok : Nat) (h : k.Quiet) (hd : k.duration = none) :
    k.firing tok = none := by
  obtain ⟨h4, h6⟩ := h hd
  simp [Conn.firing, Conn.due, h4, h6]

theorem Conn.shouldCount_eq (k : Conn) (inst : Nat) (f : Bool) :
    k.shouldCount inst f = (k.duration.isNone || decide (k.next f ≤ inst)) := by
  unfold Conn.shouldCount
  cases k.duration <;> cases f <;> rfl

/-- Family `f` is awaited until `w`, no incoming session seen yet. -/
def Conn.Armed (f : Bool) (w : Nat) (k : Conn) : Prop := k.wait f = some w ∧ k.cnt f = 0

/-- A socket update of family `f` arms that family's timer until `tok + d`; an update of either
family at the same `tok` leaves it armed so. -/
theorem Conn.enrSocketUpdate_armed (k : Conn) (tok d : Nat) (v6 f : Bool) (hd : k.duration = some d)
    (h : v6 = f ∨ k.Armed f (tok + d)) : (k.enrSocketUpdate tok v6).Armed f (tok + d) := by
  unfold Conn.Armed
  rw [Conn.enrSocketUpdate_wait k tok d v6 f hd, Conn.enrSocketUpdate_cnt k tok d v6 f hd]
  by_cases hf : v6 = f
  · rw [if_pos hf, if_pos hf]
    exact ⟨rfl, rfl⟩
  · rw [if_neg hf, if_neg hf]
    exact h.resolve_left hf

theorem Conn.foldUpdate_preserves {P : Conn → Prop} (tok : Nat)
    (hupd : ∀ c v6, P c → P (c.enrSocketUpdate tok v6)) (evs : List Addr) (k : Conn) (h : P k) :
    P (evs.foldl (fun c a => c.enrSocketUpdate tok a.v6) k) :=
  List.foldlRecOn evs _ h fun c hc a _ => hupd c a.v6 hc

/-- An update of family `f` in the sequence arms the timer; every later one, of either family, keeps it
armed. -/
theorem Conn.foldUpdate_arms (tok d : Nat) (f : Bool) (evs : List Addr) (k : Conn)
    (hd : k.duration = some d) (hm : ∃ a ∈ evs, a.v6 = f) :
    (evs.foldl (fun c a => c.enrSocketUpdate tok a.v6) k).wait f = some (tok + d) ∧
    (evs.foldl (fun c a => c.enrSocketUpdate tok a.v6) k).cnt f = 0 := by
  obtain ⟨a, ha, rfl⟩ := hm
  obtain ⟨l1, l2, rfl⟩ := List.append_of_mem ha
  rw [List.foldl_append, List.foldl_cons]
  have hd1 := Conn.foldUpdate_preserves (P := fun c => c.duration = some d) tok
    (fun c v6 hc => (Conn.enrSocketUpdate_duration c tok v6).trans hc) l1 k hd
  exact (Conn.foldUpdate_preserves (P := fun c => c.duration = some d ∧ c.Armed a.v6 (tok + d)) tok
    (fun c v6 hc => ⟨(Conn.enrSocketUpdate_duration c tok v6).trans hc.1,
      Conn.enrSocketUpdate_armed c tok d v6 a.v6 hc.1 (.inr hc.2)⟩) l2 _
    ⟨(Conn.enrSocketUpdate_duration _ tok a.v6).trans hd1,
      Conn.enrSocketUpdate_armed _ tok d a.v6 a.v6 hd1 (.inl rfl)⟩).2

theorem Conn.foldUpdate_keeps_wait (tok : Nat) (f : Bool) (evs : List Addr) (k : Conn)
    (h : (evs.foldl (fun c a => c.enrSocketUpdate tok a.v6) k).wait f = none) : k.wait f = none :=
  Conn.foldUpdate_preserves (P := fun c => c.wait f = none → k.wait f = none) tok
    (fun c v6 hc h => hc (Conn.enrSocketUpdate_keeps_wait c tok v6 f h)) evs k id h

theorem KSvc.step_timer_idle (k : KSvc) (tok inst sz sg : Nat) (h : k.conn.firing tok = none) :
    k.step tok inst (.timer sz sg) = (k, []) := by
  unfold KSvc.step
  rw [h]

theorem KSvc.step_timer_fires (k : KSvc) (tok inst sz sg : Nat) (f : Bool) (h : k.conn.firing tok = some f) :
    k.step tok inst (.timer sz sg) =
      ({ svc := (pingConnected { k.svc with localRec := removeSocket k.svc.localRec f sz sg }).1,
         conn := k.conn.fire inst f },
       (pingConnected { k.svc with localRec := removeSocket k.svc.localRec f sz sg }).2) := by
  unfold KSvc.step
  rw [h]

/-- The connectivity state after a service step: an incoming session is reported first, if the step
establishes one; then every socket the step announces restarts its family's wait. -/
theorem KSvc.step_svc_conn (k : KSvc) (tok inst : Nat) (o : Oracle) (inp : Input) :
    ∃ c1, (c1 = k.conn ∨ ∃ r addr, inp = .established r addr true ∧ c1 = k.conn.receivedIncoming addr.v6) ∧
      (k.step tok inst (.svc o inp)).1.conn =
        (sockEvs (k.step tok inst (.svc o inp)).2).foldl (fun c a => c.enrSocketUpdate tok a.v6) c1 := by
  refine ⟨match inp with
    | .established _ addr true => k.conn.receivedIncoming addr.v6
    | _ => k.conn, ?_, rfl⟩
  split
  · exact .inr ⟨_, _, rfl, rfl⟩
  · exact .inl rfl

theorem KSvc.step_conn_preserves {P : Conn → Prop} (tok inst : Nat)
    (hinc : ∀ c v6, P c → P (c.receivedIncoming v6))
    (hupd : ∀ c v6, P c → P (c.enrSocketUpdate tok v6))
    (hfire : ∀ c f, P c → P (c.fire inst f))
    (k : KSvc) (i : KInput) (h : P k.conn) : P (k.step tok inst i).1.conn := by
  cases i with
  | svc o inp =>
    obtain ⟨c1, hc1, heq⟩ := KSvc.step_svc_conn k tok inst o inp
    rw [heq]
    refine Conn.foldUpdate_preserves tok hupd _ _ ?_
    rcases hc1 with rfl | ⟨_, addr, _, rfl⟩
    · exact h
    · exact hinc _ _ h
  | timer sz sg =>
    cases hf : k.conn.firing tok with
    | none =>
      rw [KSvc.step_timer_idle k tok inst sz sg hf]
      exact h
    | some f =>
      rw [KSvc.step_timer_fires k tok inst sz sg f hf]
      exact hfire _ _ h

theorem KSvc.run_preserves {P : KSvc → Prop} (steps : List (Nat × Nat × KInput))
    (hstep : ∀ k s, s ∈ steps → P k → P (k.step s.1 s.2.1 s.2.2).1) (k : KSvc) (h : P k) :
    P (k.run steps).1 := by
  induction steps generalizing k with
  | nil => exact h
  | cons s rest ih =>
    exact ih (fun k' s' hs' => hstep k' s' (List.mem_cons_of_mem _ hs')) _ (hstep k s List.mem_cons_self h)

/-- Whether `votePong s e inp` is `some` does not depend on `e`, which only fills in the clock
readings; for that case distinction any environment serves. -/
def env0 : Env := { tClear := 0, tIns := 0, tMaj := 0 }

theorem ipVote_uncounted (s : Svc) (o : Oracle) (peer : Nat) (h : o.countable = false) :
    s.ipVote o peer = (s, []) := by
  unfold ipVote
  simp [h]

/-- With `should_count_ip_vote` false a step neither touches the local record nor announces a new
socket - whatever the rest of the oracle says. -/
theorem step_uncounted_fr (s : Svc) (o : Oracle) (inp : Input) (h : o.countable = false) :
    Fr s (s.step o inp) := by
  cases hv : votePong s env0 inp with
  | none => exact step_fr s o env0 inp hv
  | some p =>
    obtain ⟨peer, addr, id, enrSeq, observed, rfl, hr, _⟩ := SvcVotes.votePong_some hv
    obtain ⟨h1, h2, h3⟩ := handleResponse_vote s o peer addr id enrSeq observed hr
    rw [ipVote_uncounted _ o peer h] at h1 h2 h3
    have h0 := SvcVotes.removeActive_frs s id
    exact ⟨⟨h1.trans h0.cfg, h2.trans h0.loc⟩, h3⟩

/-- `ping_connected_peers` sends requests only: no event, hence no `SocketUpdated`, and the local
record stays. -/
theorem pingConnected_fr (s : Svc) : Fr s (pingConnected s) := by
  unfold pingConnected
  refine List.foldlRecOn (motive := Fr s) _ _ (Fr.of_st ⟨rfl, rfl⟩) fun acc h r _ => ?_
  exact Fr.seq h (SvcVotes.sendPing_fr acc.1 r false)

end Discv5.Conn
