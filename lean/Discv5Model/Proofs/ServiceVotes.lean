/-
Composition of the service model (`Model/Service.lean`) with the IP-vote model
(`Model/IpVote.lean`) for C17.

The service model treats the IP-vote sub-step of its PONG arm as an `Oracle` (`countable`,
`requireMore`, `newLocal`) which the correspondence harness fills from its own vote ledger.  This
file instantiates that oracle from an explicit vote table (`oracleOf`), defines the composed system
(`CSt` = service state + vote table, `cstep`, `crun`) and proves that it simulates the IP-vote
model: a step on a PONG response that reaches `handle_ip_vote_from_pong` performs
exactly `IpVote.pongStep` on (vote table, local record, dual-stack flag) and emits exactly its
events; every other step leaves the local record untouched and emits no `SocketUpdated`, and the
vote table is unchanged, except that an `established` step whose table insertion fails for an
outgoing session calls `require_more_ip_votes`, which prunes expired votes (`clear_old_votes`).
The invariants of `Proofs/IpVoteLemmas.lean` and `Proofs/IpVoteLedger.lean` are carried along every
history of the composed system through that simulation.

What is NOT in either model: the user-level API `Discv5::update_local_enr_socket` / `enr_insert`,
which write the local record directly.  (The connectivity state - the `countable` bit of the
environment here - and its timer, `remove_udp_socket` / `remove_udp6_socket` after `TimerFailure`,
are modelled in `Model/Connectivity.lean` and composed with the service model in
`Props/C17Connectivity.lean`.)

Where the two models are aligned (none of it is a disagreement on the validated domain):
* `ip_votes.is_none()` is `votes.isNone` in `IpVote.pongStep` and `!cfg.enrUpdate` in
  `Svc.ipVote`; the composition carries the coupling `CSt.Coupled` (`votes.isSome = cfg.enrUpdate`,
  which is how `Service::spawn` builds the field; neither component ever changes).
* `IpVote.pongStep` evaluates `is_connected_and_outgoing | require_more_ip_votes(..)` without
  short-circuit and its vote table is pruned by the call even when the vote is then refused;
  `Svc.ipVote` reads `o.requireMore` as a pure flag.  The composed step takes the vote table from
  `pongStep`, so the pruning side effect is kept.
* `Svc.connectionUpdated` reads `o.requireMore` (second call site of `require_more_ip_votes`,
  argument `enr.udp6_socket().is_some()`); the IP-vote model has no such step.  The composition
  models it as the pruning step `IpVote.requireMore` (`estAsks` says when the call is reached).
* `Oracle.newLocal` is a whole new record; the IP-vote model only knows `ip4`, `ip6`, `seq`.  The
  remaining fields of the re-signed record (`size`, `sig`, `udp6Mapped`) are inputs of the step
  (`Env`), everything else is kept (`setSocket`).
-/
import Discv5Model.Proofs.ServiceResponse
import Discv5Model.Proofs.IpVoteLedger

namespace Discv5.SvcVotes

open Discv5.KB
open Discv5.Svc
open Discv5.Svc.Svc
open Discv5.IpVote (Sock Entry Pong IsShuffle pongStep)

/-- The vote table of a service: `ip_votes: Option<IpVote>`; addresses are `ip * 65536 + port`
as in the service model. -/
abbrev Votes := Option (IpVote.IpVote Nat)

/-- A service-model address as an IP-vote-model socket. -/
def sockOf (a : Addr) : Sock Nat := if a.v6 then .v6 a.sock else .v4 a.sock

def addrOf : Sock Nat → Addr
  | .v4 a => { v6 := false, sock := a }
  | .v6 a => { v6 := true, sock := a }

/-- The part of the service's local record the IP-vote model talks about. -/
def absRec (r : Rec) : IpVote.Rec Nat := { ip4 := r.udp4, ip6 := r.udp6, seq := r.seq }

/-- Everything one step reads that is in neither model state: the connectivity state's verdict,
the result of `set_udp_socket` (and the derived fields of the re-signed record), the three
`Instant::now()` readings of the vote path and the two hash-map visiting orders. -/
structure Env where
  countable : Bool := true
  setOk : Bool := true
  tClear : Nat
  tIns : Nat
  tMaj : Nat
  sh4 : List (Entry Nat) → List (Entry Nat) := id
  sh6 : List (Entry Nat) → List (Entry Nat) := id
  /-- encoded size / content digest of the re-signed record, IPv4-mapped flag of a new IPv6 socket -/
  newSize : Nat := 0
  newSig : Nat := 0
  newMapped : Bool := false

def Env.Valid (e : Env) : Prop := IsShuffle e.sh4 ∧ IsShuffle e.sh6

/-- `set_udp_socket` on the service model's record: the socket of the family, `seq + 1`, and the
derived fields from the environment. -/
def setSocket (r : Rec) (e : Env) : Sock Nat → Rec
  | .v4 a => { r with udp4 := some a, seq := r.seq + 1, size := e.newSize, sig := e.newSig }
  | .v6 a => { r with udp6 := some a, udp6Mapped := e.newMapped, seq := r.seq + 1,
                      size := e.newSize, sig := e.newSig }

/-- The `Pong` record of the IP-vote model for a PONG from `peer` reporting `observed`. -/
def pongOf (e : Env) (peer : Nat) (observed : Addr) (connOut : Bool) : Pong Nat :=
  { voter := peer, sock := sockOf observed, countable := e.countable, connOut := connOut,
    setOk := e.setOk, tClear := e.tClear, tIns := e.tIns, tMaj := e.tMaj, sh4 := e.sh4, sh6 := e.sh6 }

/-- `is_connected_and_outgoing` as the service model computes it. -/
def connOutOf (s : Svc) (peer : Nat) : Bool :=
  match (s.entry peer).2 with
  | .present _ st => st.conn && !st.incoming
  | _ => false

/-- An event of the IP-vote model as an output of the service model. -/
def evOut : IpVote.Ev Nat → Out
  | .socketUpdated sk => .event (.socketUpdated (addrOf sk))

/-- The `SocketUpdated` events among the outputs of a service step. -/
def sockEvs (outs : List Out) : List Addr :=
  outs.filterMap fun
    | .event (.socketUpdated a) => some a
    | _ => none

/-- The socket of a family in the service's local record. -/
def udpOf (r : Rec) (f : Bool) : Option Nat := bif f then r.udp6 else r.udp4

theorem absRec_ip (r : Rec) (f : Bool) : (absRec r).ip f = udpOf r f := by
  cases f <;> rfl

theorem absRec_setSocket (r : Rec) (e : Env) (f : Bool) (a : Nat) :
    absRec (setSocket r e (Sock.of f a)) = (absRec r).move f a := by
  cases f <;> rfl

theorem setSocket_udp (r : Rec) (e : Env) (f : Bool) (a : Nat) (g : Bool) :
    udpOf (setSocket r e (Sock.of f a)) g = if g = f then some a else udpOf r g := by
  cases f <;> cases g <;> rfl

theorem setSocket_seq (r : Rec) (e : Env) (sk : Sock Nat) : (setSocket r e sk).seq = r.seq + 1 := by
  cases sk <;> rfl

theorem sockOf_eq (a : Addr) : sockOf a = Sock.of a.v6 a.sock := by
  unfold sockOf; cases a.v6 <;> rfl

theorem sockOf_isV6 (a : Addr) : (sockOf a).isV6 = a.v6 := by
  rw [sockOf_eq, Sock.isV6_of]

theorem addrOf_sockOf (a : Addr) : addrOf (sockOf a) = a := by
  obtain ⟨v6, sock⟩ := a
  cases v6 <;> rfl

/-- The oracle induced by a vote table for a PONG from `peer` reporting `observed`:
`requireMore` is `require_more_ip_votes` read off the table, `newLocal` is what `pongStep` does to
the record when the vote is counted.  It depends on the service only through the local record and
the dual-stack flag. -/
def oracleOf (thr : Nat → Nat) (votes : Votes) (localRec : Rec) (dual : Bool) (e : Env)
    (peer : Nat) (observed : Addr) : Oracle :=
  let A : IpVote.Svc Nat := { votes := votes, enr := absRec localRec, dual := dual }
  { countable := e.countable
    requireMore := (IpVote.requireMore A e.tClear observed.v6).2
    newLocal := (pongStep thr A (pongOf e peer observed true)).2.head?.map fun
      | .socketUpdated sk => (setSocket localRec e sk, addrOf sk) }

/-- Service state + vote table. -/
structure CSt where
  svc : Svc
  votes : Votes

def CSt.dual (c : CSt) : Bool := decide (c.svc.cfg.ipMode = .dual)

/-- The IP-vote model's view of a composed state. -/
def CSt.abs (c : CSt) : IpVote.Svc Nat :=
  { votes := c.votes, enr := absRec c.svc.localRec, dual := c.dual }

/-- `ip_votes.is_some()` iff `config.enr_update`. -/
def CSt.Coupled (c : CSt) : Prop := c.votes.isSome = c.svc.cfg.enrUpdate

/-- A PONG response with request id `id` from `(peer, addr)` gets as far as
`handle_ip_vote_from_pong`: the request is active, was sent to that peer and address, was a PING,
and has no user-level callback. -/
def reachesVote (s : Svc) (peer : Nat) (addr : Addr) (id : Nat) : Bool :=
  match (s.removeActive id).2 with
  | none => false
  | some req =>
    !(req.peer != peer || req.addr != addr) &&
      (RespBody.pong 0 addr).matchRequest req.body && !req.callback

/-- The direction `inject_session_established` hands to `connection_updated`. -/
def estDir (s : Svc) (r : Rec) (incoming : Bool) : Bool :=
  match bucketIndex s.table.localKey r.id with
  | some i =>
    match (s.table.bucket i).nodes.find? (fun n => n.key == r.id) with
    | some n => n.st.incoming
    | none => incoming
  | none => incoming

/-- An `established` step reaches the call `require_more_ip_votes(enr.udp6_socket().is_some())`
in `connection_updated`: the record is admissible, the insertion failed and the direction is
outgoing. -/
def estAsks (s : Svc) (r : Rec) (incoming : Bool) : Bool :=
  contactable s.cfg.ipMode r && r.passesFilter && !estDir s r incoming &&
    (match (s.table.insertOrUpdate s.cfg.kb s.now r.id r
        { conn := true, incoming := estDir s r incoming }).2 with
      | .failed _ => true
      | _ => false)

/-- The `Pong` of the IP-vote model a step amounts to, if it reaches the vote path. -/
def votePong (s : Svc) (e : Env) : Input → Option (Pong Nat)
  | .response peer addr id (.pong _ observed) =>
    if reachesVote s peer addr id then some (pongOf e peer observed (connOutOf s peer)) else none
  | _ => none

/-- The argument of a call of `require_more_ip_votes` outside the PONG arm, if the step makes one. -/
def pruneAsk (s : Svc) : Input → Option Bool
  | .established r _ incoming => if estAsks s r incoming then some r.udp6.isSome else none
  | _ => none

/-- The oracle of a step of the composed system. -/
def oracleFor (thr : Nat → Nat) (c : CSt) (e : Env) : Input → Oracle
  | .response peer _ _ (.pong _ observed) => oracleOf thr c.votes c.svc.localRec c.dual e peer observed
  | .established r _ _ => { requireMore := (IpVote.requireMore c.abs e.tClear r.udp6.isSome).2 }
  | _ => {}

/-- The vote table after a step. -/
def votesAfter (thr : Nat → Nat) (c : CSt) (e : Env) (inp : Input) : Votes :=
  match votePong c.svc e inp with
  | some p => (pongStep thr c.abs p).1.votes
  | none =>
    match pruneAsk c.svc inp with
    | some b => (IpVote.requireMore c.abs e.tClear b).1.votes
    | none => c.votes

/-- One step of the composed system: the service step under the induced oracle. -/
def cstep (thr : Nat → Nat) (c : CSt) (e : Env) (inp : Input) : CSt × List Out :=
  let r := c.svc.step (oracleFor thr c e inp) inp
  ({ svc := r.1, votes := votesAfter thr c e inp }, r.2)

/-- A history of the composed system. -/
def crun (thr : Nat → Nat) (c : CSt) : List (Env × Input) → CSt × List Out
  | [] => (c, [])
  | (e, inp) :: rest =>
    let r1 := cstep thr c e inp
    let r2 := crun thr r1.1 rest
    (r2.1, r1.2 ++ r2.2)

/-- The PONGs of a history that reached the vote path, oldest first. -/
def pongsOf (thr : Nat → Nat) (c : CSt) : List (Env × Input) → List (Pong Nat)
  | [] => []
  | (e, inp) :: rest =>
    (votePong c.svc e inp).toList ++ pongsOf thr (cstep thr c e inp).1 rest

/-! ## Frame: what does not touch the local record -/

/-- Frame of the vote path: a state transformer keeps the configuration and the local record. -/
structure FrS (s s' : Svc) : Prop where
  cfg : s'.cfg = s.cfg
  loc : s'.localRec = s.localRec

/-- Frame for a step function: `FrS`, and no `SocketUpdated` among the outputs. -/
structure Fr (s : Svc) (r : Svc × List Out) : Prop where
  st : FrS s r.1
  outs : sockEvs r.2 = []

theorem FrS.refl {s : Svc} : FrS s s := ⟨rfl, rfl⟩

theorem FrS.trans {s s1 s2 : Svc} (h1 : FrS s s1) (h2 : FrS s1 s2) : FrS s s2 :=
  ⟨h2.cfg.trans h1.cfg, h2.loc.trans h1.loc⟩

theorem sockEvs_append (a b : List Out) : sockEvs (a ++ b) = sockEvs a ++ sockEvs b := by
  unfold sockEvs; exact List.filterMap_append

theorem Fr.refl {s : Svc} : Fr s (s, []) := ⟨FrS.refl, rfl⟩

theorem Fr.of_st {s s' : Svc} (h : FrS s s') : Fr s (s', []) := ⟨h, rfl⟩

theorem Fr.seq {s : Svc} {r1 r2 : Svc × List Out} (h1 : Fr s r1) (h2 : Fr r1.1 r2) :
    Fr s (r2.1, r1.2 ++ r2.2) :=
  ⟨h1.st.trans h2.st, by rw [sockEvs_append, h1.outs, h2.outs]; rfl⟩

theorem Fr.pre {s s1 : Svc} {r : Svc × List Out} (h1 : FrS s s1) (h2 : Fr s1 r) : Fr s r :=
  ⟨h1.trans h2.st, h2.outs⟩

theorem Fr.post {s : Svc} {r : Svc × List Out} {outs : List Out} (h : Fr s r)
    (ho : sockEvs outs = []) : Fr s (r.1, r.2 ++ outs) :=
  ⟨h.st, by rw [sockEvs_append, h.outs, ho]; rfl⟩

theorem entry_frs (s : Svc) (key : Nat) : FrS s (s.entry key).1 := ⟨rfl, rfl⟩

theorem entryRemove_frs (s : Svc) (key : Nat) : FrS s (s.entryRemove key) := by
  unfold entryRemove
  cases bucketIndex s.table.localKey key with
  | none => exact FrS.refl
  | some i => exact ⟨rfl, rfl⟩

/-- What holds of both branches holds of the conditional (used where splitting a large goal
would be slow). -/
theorem of_ite {α : Sort _} {P : α → Prop} {c : Prop} [Decidable c] {a b : α} (ha : P a) (hb : P b) :
    P (if c then a else b) := by
  split <;> assumption

theorem findEnr_frs (s : Svc) (id : Nat) : FrS s (s.findEnr id).1 := by
  unfold findEnr
  dsimp only
  split
  · exact entry_frs s id
  · split <;> exact entry_frs s id

theorem sendRpcRequest_fr (s : Svc) (peer : Nat) (addr : Addr) (body : ReqBody) (q : Option Nat)
    (cb : Bool) : Fr s (s.sendRpcRequest peer addr body q cb) := ⟨⟨rfl, rfl⟩, rfl⟩

/-- A request to the address of a record, if it has one: the shape of every place that contacts a
peer. -/
theorem contact_fr (s : Svc) (r : Rec) (f : Addr → Svc × List Out) (hf : ∀ a, Fr s (f a)) :
    Fr s (match contactableAddr s.cfg.ipMode r with
      | some a => f a
      | none => (s, [])) := by
  cases contactableAddr s.cfg.ipMode r with
  | none => exact Fr.refl
  | some a => exact hf a

theorem sendPing_fr (s : Svc) (r : Rec) (cb : Bool) : Fr s (s.sendPing r cb) :=
  contact_fr s r _ fun _ => sendRpcRequest_fr ..

theorem connectionUpdated_fr (s : Svc) (o : Oracle) (nodeId : Nat) (cs : ConnStatus) :
    Fr s (s.connectionUpdated o nodeId cs) := by
  cases cs with
  | connected r incoming =>
    have h1 : FrS s { s with table := (s.table.insertOrUpdate s.cfg.kb s.now nodeId r
        { conn := true, incoming := incoming }).1 } := ⟨rfl, rfl⟩
    unfold connectionUpdated
    dsimp only
    split
    · exact Fr.pre h1 (Fr.post (of_ite (P := Fr _) (sendPing_fr ..) Fr.refl) rfl)
    · split
      · exact Fr.pre (h1.trans (entry_frs ..)) (sendPing_fr ..)
      · exact Fr.of_st (h1.trans (entry_frs ..))
    · exact Fr.pre h1 (of_ite (P := Fr _) (sendPing_fr ..) Fr.refl)
    · exact Fr.of_st h1
  | pongReceived => exact ⟨⟨rfl, rfl⟩, rfl⟩
  | disconnected => exact ⟨⟨rfl, rfl⟩, rfl⟩

theorem injectSessionEstablished_fr (s : Svc) (o : Oracle) (r : Rec) (addr : Addr) (incoming : Bool) :
    Fr s (s.injectSessionEstablished o r addr incoming) := by
  unfold injectSessionEstablished
  dsimp only
  exact of_ite (P := Fr s) ⟨FrS.refl, rfl⟩
    (of_ite (P := Fr s) ⟨FrS.refl, rfl⟩ ((connectionUpdated_fr ..).post rfl))

theorem discoveredOne_fr (s : Svc) (source : Nat) (r : Rec) :
    FrS s (s.discoveredOne source r).1 ∧ sockEvs (s.discoveredOne source r).2.2 = [] := by
  have hev : sockEvs (if s.cfg.reportDiscovered then [Out.event (.discovered r)] else []) = [] := by
    split <;> rfl
  have he := entry_frs s r.id
  have hrm : FrS s ((s.entry r.id).1.entryRemove r.id) := he.trans (entryRemove_frs ..)
  let Q (t : Svc × Bool × List Out) : Prop := FrS s t.1 ∧ sockEvs t.2.2 = []
  unfold discoveredOne
  dsimp only
  refine of_ite (P := Q) ⟨FrS.refl, rfl⟩ (of_ite (P := Q) ?_ ⟨?_, hev⟩)
  · exact of_ite (P := Q) (of_ite (P := Q) ⟨he.trans ⟨rfl, rfl⟩, hev⟩ ⟨he.trans ⟨rfl, rfl⟩, hev⟩) ⟨he, hev⟩
  · cases (s.entry r.id).2 with
    | present v _ => exact of_ite (P := FrS s) hrm he
    | pending v _ => exact of_ite (P := FrS s) hrm he
    | _ => exact he

theorem discoveredLoop_fr (source : Nat) :
    ∀ (recs : List Rec) (s : Svc) (kept : List Rec) (outs : List Out), sockEvs outs = [] →
      FrS s (discoveredLoop s source recs kept outs).1 ∧
        sockEvs (discoveredLoop s source recs kept outs).2.2 = [] := by
  intro recs
  induction recs with
  | nil => intro s kept outs h; exact ⟨FrS.refl, h⟩
  | cons r rs ih =>
    intro s kept outs h
    have h1 := discoveredOne_fr s source r
    have h2 := ih (s.discoveredOne source r).1
      (if (s.discoveredOne source r).2.1 then kept ++ [r] else kept)
      (outs ++ (s.discoveredOne source r).2.2) (by rw [sockEvs_append, h, h1.2]; rfl)
    exact ⟨h1.1.trans h2.1, h2.2⟩

theorem discovered_fr (s : Svc) (source : Nat) (recs : List Rec) (q : Option Nat) :
    Fr s (s.discovered source recs q) := by
  have h1 := discoveredLoop_fr source recs s [] [] rfl
  unfold discovered
  dsimp only
  split
  · exact of_ite (P := Fr s) ⟨h1.1.trans ⟨rfl, rfl⟩, h1.2⟩ ⟨h1.1, h1.2⟩
  · exact ⟨h1.1, h1.2⟩

theorem nodesToSend_frs (s : Svc) (requester : Nat) (ds : List Nat) :
    FrS s (s.nodesToSend requester ds).1 := by
  unfold nodesToSend
  exact of_ite (P := fun t : Svc × List Rec => FrS s t.1) FrS.refl ⟨rfl, rfl⟩

theorem sockEvs_map_response (peer : Nat) (addr : Addr) (rid : Bytes) (total : Nat)
    (ps : List (List Rec)) :
    sockEvs (ps.map fun p => Out.response peer addr rid (.nodes total p)) = [] := by
  induction ps with
  | nil => rfl
  | cons p ps ih => exact ih

theorem handleRequest_fr (s : Svc) (peer : Nat) (addr : Addr) (rid : Bytes) (body : ReqBody) :
    Fr s (s.handleRequest peer addr rid body) := by
  cases body with
  | findNode ds => exact ⟨nodesToSend_frs s peer ds, sockEvs_map_response ..⟩
  | talk p q => exact ⟨FrS.refl, rfl⟩
  | ping enrSeq =>
    unfold handleRequest
    dsimp only
    refine Fr.pre (entry_frs s peer) (Fr.post ?_ (by split <;> rfl))
    split
    · exact contact_fr _ _ _ fun _ => sendRpcRequest_fr ..
    · exact Fr.refl

theorem removeActive_frs (s : Svc) (id : Nat) : FrS s (s.removeActive id).1 := by
  rw [removeActive_eq]
  cases activeReq s id <;> exact ⟨rfl, rfl⟩

theorem takeNodesResp_frs (s : Svc) (id : Nat) : FrS s (s.takeNodesResp id).1 := by
  unfold takeNodesResp
  cases s.nodesResp.find? (fun p => p.1 == id) with
  | none => exact FrS.refl
  | some a => exact ⟨rfl, rfl⟩

theorem rpcFailure_fr (s : Svc) (o : Oracle) (id : Nat) : Fr s (s.rpcFailure o id) := by
  have h0 := removeActive_frs s id
  unfold rpcFailure
  generalize s.removeActive id = x at h0 ⊢
  obtain ⟨s0, _ | req⟩ := x
  · exact Fr.refl
  dsimp only at h0 ⊢
  refine of_ite (P := Fr s) ⟨h0, rfl⟩ (Fr.pre h0 (Fr.seq ?_ (connectionUpdated_fr ..)))
  split
  · have h2 := takeNodesResp_frs s0 id
    generalize s0.takeNodesResp id = y at h2 ⊢
    obtain ⟨s1, _ | nr⟩ := y
    · exact Fr.of_st h2
    · exact of_ite (P := Fr s0) (Fr.pre h2 (discovered_fr ..)) (Fr.of_st h2)
  · exact Fr.refl

theorem addEnr_frs (s : Svc) (r : Rec) : FrS s (s.addEnr r).1 := by
  unfold addEnr
  exact of_ite (P := fun t : Svc × AddRes => FrS s t.1) FrS.refl
    (of_ite (P := fun t : Svc × AddRes => FrS s t.1) FrS.refl ⟨rfl, rfl⟩)

theorem startQuery_frs (s : Svc) (target : Nat) : FrS s (s.startQuery target) := by
  unfold startQuery
  exact of_ite (P := FrS s) ⟨rfl, rfl⟩ ⟨rfl, rfl⟩

theorem sendRpcQuery_fr (s : Svc) (peer : Nat) : Fr s (s.sendRpcQuery peer) := by
  unfold sendRpcQuery
  cases s.query with
  | none => exact Fr.refl
  | some q =>
    dsimp only
    split
    · exact Fr.pre (findEnr_frs s peer) (contact_fr _ _ _ fun _ => sendRpcRequest_fr ..)
    · exact Fr.of_st (findEnr_frs s peer)

/-! ## The vote sub-step under the induced oracle -/

/-- The local record after the events of a `pongStep`. -/
def recAfter (r : Rec) (e : Env) : List (IpVote.Ev Nat) → Rec
  | [] => r
  | .socketUpdated sk :: _ => setSocket r e sk

/-- The direction flag only matters through `connOut | require_more`. -/
theorem pongStep_connOut (thr : Nat → Nat) (A : IpVote.Svc Nat) (p : Pong Nat)
    (h : (p.connOut || (IpVote.requireMore A p.tClear p.sock.isV6).2) = true) :
    pongStep thr A { p with connOut := true } = pongStep thr A p := by
  unfold pongStep
  simp only [h, Bool.true_or, Bool.not_true]
  rfl

theorem absRec_recAfter_nil (r : Rec) (e : Env) : recAfter r e [] = r := rfl

theorem absStep_enr (thr : Nat → Nat) (r : Rec) (e : Env) (A : IpVote.Svc Nat) (now : Nat)
    (vp : Option (Pong Nat)) (pa : Option Bool) (hA : A.enr = absRec r) :
    absRec (recAfter r e (absStep thr A now vp pa).2) = (absStep thr A now vp pa).1.enr := by
  rcases absStep_cases thr A now vp pa with ⟨h1, h2⟩ | ⟨p, f, a, rfl, hm⟩
  · rw [h1, h2, hA]
    rfl
  · show absRec (recAfter r e (pongStep thr A p).2) = (pongStep thr A p).1.enr
    rw [hm.enr, hm.evs, hA]
    exact absRec_setSocket r e f a

/-- Under the oracle induced by the vote table, `Svc.ipVote` changes the local record and emits
events exactly as `IpVote.pongStep` does on the abstraction, with the direction flag the service
reads off its routing table. -/
theorem ipVote_sim (thr : Nat → Nat) (s : Svc) (votes : Votes) (hc : votes.isSome = s.cfg.enrUpdate)
    (dual : Bool) (e : Env) (peer : Nat) (observed : Addr) :
    let A : IpVote.Svc Nat := { votes := votes, enr := absRec s.localRec, dual := dual }
    let R := pongStep thr A (pongOf e peer observed (connOutOf s peer))
    let r := s.ipVote (oracleOf thr votes s.localRec dual e peer observed) peer
    r.1.cfg = s.cfg ∧ r.1.localRec = recAfter s.localRec e R.2 ∧ r.2 = R.2.map evOut := by
  intro A R r
  have harms : if e.countable && s.cfg.enrUpdate &&
      (connOutOf s peer || (IpVote.requireMore A e.tClear observed.v6).2) then _ else _ :=
    ipVote_arms s (oracleOf thr votes s.localRec dual e peer observed) peer
  -- the guards of the two models agree: both evaluate `counted`
  rw [← hc, ← sockOf_isV6 observed] at harms
  change if counted A (pongOf e peer observed (connOutOf s peer)) then _ else _ at harms
  cases hcnt : counted A (pongOf e peer observed (connOutOf s peer)) with
  | false =>
    rw [hcnt] at harms
    have hR : R.2 = [] := by
      have hp : if counted A _ then _ else _ :=
        IpVote.pongStep_arms thr A (pongOf e peer observed (connOutOf s peer))
      rw [hcnt] at hp
      rcases hp with h | h <;> exact congrArg Prod.snd h
    rw [hR]
    rcases harms with h | h <;> rw [show r = _ from h] <;> exact ⟨rfl, rfl, rfl⟩
  | true =>
    rw [hcnt, if_pos rfl] at harms
    have hR : pongStep thr A (pongOf e peer observed true) = R := by
      simp only [counted, Bool.and_eq_true] at hcnt
      exact pongStep_connOut thr A (pongOf e peer observed (connOutOf s peer)) hcnt.2
    have hnew : (oracleOf thr votes s.localRec dual e peer observed).newLocal =
        R.2.head?.map fun | .socketUpdated sk => (setSocket s.localRec e sk, addrOf sk) := by
      rw [← hR]; rfl
    rw [show r = _ from harms, hnew]
    -- the events of a `pongStep` are none or one
    rcases IpVote.pongStep_cases thr A (pongOf e peer observed (connOutOf s peer)) with
      ⟨_, h⟩ | ⟨f, a, hm⟩
    · rw [show R.2 = _ from h]; exact ⟨rfl, rfl, rfl⟩
    · rw [show R.2 = _ from hm.evs]; exact ⟨rfl, rfl, rfl⟩

theorem matchRequest_pong (a b : Nat) (x y : Addr) (q : ReqBody) :
    (RespBody.pong a x).matchRequest q = (RespBody.pong b y).matchRequest q := by
  cases q <;> rfl

/-- `reachesVote` by the tests of `handleResponse_eq`: a PONG reaches the vote iff it passes the
mismatch test against the first active request with its id and that request has no callback. -/
theorem reachesVote_eq (s : Svc) (peer : Nat) (addr : Addr) (id enrSeq : Nat) (observed : Addr) :
    reachesVote s peer addr id =
      match activeReq s id with
      | none => false
      | some req =>
        !(req.peer != peer || req.addr != addr || !(RespBody.pong enrSeq observed).matchRequest req.body) &&
          !req.callback := by
  unfold reachesVote
  rw [removeActive_eq]
  cases activeReq s id with
  | none => rfl
  | some req => simp only [Bool.not_or, Bool.not_not, matchRequest_pong enrSeq 0 observed addr]

/-- The state a vote-reaching PONG runs its vote on differs from `s` in the active requests only. -/
theorem removeActive_of_reaches {s : Svc} {peer : Nat} {addr : Addr} {id : Nat}
    (h : reachesVote s peer addr id = true) : (s.removeActive id).1 = dropActive s id := by
  unfold reachesVote at h
  rw [removeActive_eq] at h ⊢
  generalize activeReq s id = x at h ⊢
  cases x with
  | none => exact absurd h Bool.false_ne_true
  | some req => rfl

/-- A PONG response that reaches the vote: the local record and the `SocketUpdated` events of the
whole step are those of the vote sub-step (run on the state without the answered request); what
follows the vote in the PONG arm (`find_enr`, the ENR request, `PongReceived`) touches neither. -/
theorem handleResponse_vote (s : Svc) (o : Oracle) (peer : Nat) (addr : Addr) (id enrSeq : Nat)
    (observed : Addr) (h : reachesVote s peer addr id = true) :
    (s.handleResponse o peer addr id (.pong enrSeq observed)).1.cfg =
        ((s.removeActive id).1.ipVote o peer).1.cfg ∧
    (s.handleResponse o peer addr id (.pong enrSeq observed)).1.localRec =
        ((s.removeActive id).1.ipVote o peer).1.localRec ∧
    sockEvs (s.handleResponse o peer addr id (.pong enrSeq observed)).2 =
        sockEvs ((s.removeActive id).1.ipVote o peer).2 := by
  rw [reachesVote_eq s peer addr id enrSeq observed] at h
  rw [handleResponse_eq, removeActive_eq]
  generalize activeReq s id = x at h ⊢
  cases x with
  | none => exact absurd h Bool.false_ne_true
  | some req =>
    simp only [Bool.and_eq_true, Bool.not_eq_true'] at h
    simp only
    rw [if_neg (by rw [h.1]; exact Bool.false_ne_true)]
    unfold pongArm
    rw [if_neg (by rw [h.2]; exact Bool.false_ne_true)]
    simp only
    have h2 := findEnr_frs ((dropActive s id).ipVote o peer).1 peer
    generalize ((dropActive s id).ipVote o peer).1.findEnr peer = z at h2 ⊢
    obtain ⟨s2, _ | r⟩ := z
    · exact ⟨h2.cfg, h2.loc, rfl⟩
    · dsimp only
      have hq : Fr s2 (if r.seq < enrSeq then _ else _) := of_ite (P := Fr s2)
        (sendRpcRequest_fr s2 req.peer req.addr (.findNode [Consts.ENR_REQUEST_DISTANCE]) none false) Fr.refl
      generalize (if r.seq < enrSeq then (_ : Svc × List Out) else _) = q at hq ⊢
      have hu : Fr q.1 (if contactable q.1.cfg.ipMode r then _ else _) := of_ite (P := Fr q.1)
        (connectionUpdated_fr q.1 o peer .pongReceived) Fr.refl
      have ht := Fr.pre h2 (Fr.seq hq hu)
      exact ⟨ht.st.cfg, ht.st.loc, by rw [List.append_assoc, sockEvs_append, ht.outs, List.append_nil]⟩

theorem nodesArm_fr (s : Svc) (peer : Nat) (addr : Addr) (id : Nat) (req : ActiveReq) (total : Nat)
    (recs : List Rec) : Fr s (nodesArm s peer addr id req total recs) := by
  have hb : ∀ b : Bool, sockEvs (if b then [Out.ban peer addr] else []) = [] := by
    intro b; cases b <;> rfl
  have h1 : FrS s (if total > 1 then s.takeNodesResp id else (s, none)).1 :=
    of_ite (P := fun t : Svc × Option NodesResp => FrS s t.1) (takeNodesResp_frs ..) FrS.refl
  unfold nodesArm
  refine of_ite (P := Fr s) ⟨FrS.refl, rfl⟩ ?_
  simp only
  generalize (if total > 1 then s.takeNodesResp id else (s, none)) = y at h1 ⊢
  cases nodesAccount _ _ _ _ with
  | wait nr => exact ⟨h1.trans ⟨rfl, rfl⟩, hb _⟩
  | done all =>
    exact Fr.seq (r1 := ((y.1.takeNodesResp id).1, _)) ⟨h1.trans (takeNodesResp_frs ..), hb _⟩
      (discovered_fr ..)

/-- A response other than a PONG that reaches the vote - no such request, wrong sender, not the
kind the request asks for, a PONG for a PING of the user-level API, NODES, TALK - has the same
result under every oracle, keeps the local record and emits no `SocketUpdated`. -/
theorem handleResponse_unreached (s : Svc) (peer : Nat) (addr : Addr) (id : Nat) (body : RespBody)
    (h : ∀ enrSeq observed, body = .pong enrSeq observed → reachesVote s peer addr id = false) :
    ∃ r, Fr s r ∧ ∀ o, s.handleResponse o peer addr id body = r := by
  have h0 : FrS s (dropActive s id) := ⟨rfl, rfl⟩
  simp only [handleResponse_eq]
  cases ha : activeReq s id with
  | none => exact ⟨(s, []), Fr.refl, fun _ => rfl⟩
  | some req =>
    simp only
    by_cases hm : (req.peer != peer || req.addr != addr || !body.matchRequest req.body) = true
    · exact ⟨(dropActive s id, droppedOut id req), ⟨h0, by unfold droppedOut; split <;> rfl⟩,
        fun _ => if_pos hm⟩
    simp only [if_neg hm]
    cases body with
    | nodes total recs => exact ⟨_, Fr.pre h0 (nodesArm_fr ..), fun _ => rfl⟩
    | talk resp =>
      exact ⟨_, of_ite (P := Fr s) (a := (dropActive s id, [.callback id (.talk resp)])) ⟨h0, rfl⟩
        (Fr.of_st h0), fun _ => rfl⟩
    | pong enrSeq observed =>
      have hc := h enrSeq observed rfl
      rw [reachesVote_eq s peer addr id enrSeq observed, ha] at hc
      simp only [hm, Bool.not_false, Bool.true_and, Bool.not_eq_false'] at hc
      exact ⟨(dropActive s id, [.callback id (.pong enrSeq observed)]), ⟨h0, rfl⟩, fun _ => if_pos hc⟩

theorem votePong_pong (s : Svc) (e : Env) (peer : Nat) (addr : Addr) (id enrSeq : Nat) (observed : Addr) :
    votePong s e (.response peer addr id (.pong enrSeq observed)) =
      if reachesVote s peer addr id then some (pongOf e peer observed (connOutOf s peer)) else none := rfl

theorem votePong_none_response {s : Svc} {e : Env} {peer : Nat} {addr : Addr} {id : Nat} {body : RespBody}
    (h : votePong s e (.response peer addr id body) = none) :
    ∀ enrSeq observed, body = .pong enrSeq observed → reachesVote s peer addr id = false := by
  intro enrSeq observed hb
  subst hb
  cases hr : reachesVote s peer addr id with
  | false => rfl
  | true =>
    rw [votePong_pong, hr, if_pos rfl] at h
    cases h

theorem step_fr (s : Svc) (o : Oracle) (e : Env) (inp : Input) (h : votePong s e inp = none) :
    Fr s (s.step o inp) := by
  cases inp with
  | established r addr incoming => exact injectSessionEstablished_fr s o r addr incoming
  | request peer addr rid body => exact handleRequest_fr ..
  | response peer addr id body =>
    obtain ⟨r, hr, heq⟩ := handleResponse_unreached s peer addr id body (votePong_none_response h)
    exact (congrArg (Fr s) (heq o)).mpr hr
  | requestFailed id => exact rpcFailure_fr s o id
  | unverifiable id => exact ⟨⟨rfl, rfl⟩, rfl⟩
  | whoAreYou peer addr => exact ⟨findEnr_frs s peer, rfl⟩
  | addEnr r => exact Fr.of_st (addEnr_frs ..)
  | removeNode id => exact ⟨⟨rfl, rfl⟩, rfl⟩
  | apiPing r => exact sendPing_fr ..
  | apiFindNode r ds => exact contact_fr s r _ fun _ => sendRpcRequest_fr ..
  | apiTalk r p q => exact contact_fr s r _ fun _ => sendRpcRequest_fr ..
  | startQuery target => exact Fr.of_st (startQuery_frs ..)
  | queryEmit peer => exact sendRpcQuery_fr ..
  | queryFinished => exact ⟨⟨rfl, rfl⟩, rfl⟩

def evAddr : IpVote.Ev Nat → Addr
  | .socketUpdated sk => addrOf sk

theorem sockEvs_map_evOut (l : List (IpVote.Ev Nat)) : sockEvs (l.map evOut) = l.map evAddr := by
  induction l with
  | nil => rfl
  | cons x xs ih =>
    cases x with
    | socketUpdated sk => exact congrArg (addrOf sk :: ·) ih

theorem votePong_some {s : Svc} {e : Env} {inp : Input} {p : Pong Nat} (h : votePong s e inp = some p) :
    ∃ peer addr id enrSeq observed, inp = .response peer addr id (.pong enrSeq observed) ∧
      reachesVote s peer addr id = true ∧ p = pongOf e peer observed (connOutOf s peer) := by
  cases inp with
  | response peer addr id body =>
    cases body with
    | pong enrSeq observed =>
      rw [votePong_pong] at h
      by_cases hr : reachesVote s peer addr id = true
      · rw [if_pos hr] at h
        exact ⟨peer, addr, id, enrSeq, observed, rfl, hr, by cases h; rfl⟩
      · rw [if_neg hr] at h; cases h
    | _ => cases h
  | _ => cases h

theorem votesAfter_eq (thr : Nat → Nat) (c : CSt) (e : Env) (inp : Input) :
    votesAfter thr c e inp =
      (absStep thr c.abs e.tClear (votePong c.svc e inp) (pruneAsk c.svc inp)).1.votes := by
  unfold votesAfter
  cases votePong c.svc e inp <;> cases pruneAsk c.svc inp <;> rfl

theorem svc_ext {A B : IpVote.Svc Nat} (h1 : A.votes = B.votes) (h2 : A.enr = B.enr)
    (h3 : A.dual = B.dual) : A = B := by
  obtain ⟨_, _, _⟩ := A
  obtain ⟨_, _, _⟩ := B
  simp only at h1 h2 h3
  rw [h1, h2, h3]

theorem cstep_rec (thr : Nat → Nat) (c : CSt) (hc : c.Coupled) (e : Env) (inp : Input) :
    (cstep thr c e inp).1.svc.localRec = recAfter c.svc.localRec e
      (absStep thr c.abs e.tClear (votePong c.svc e inp) (pruneAsk c.svc inp)).2 ∧
    sockEvs (cstep thr c e inp).2 =
      (absStep thr c.abs e.tClear (votePong c.svc e inp) (pruneAsk c.svc inp)).2.map evAddr ∧
    (cstep thr c e inp).1.svc.cfg = c.svc.cfg := by
  cases hv : votePong c.svc e inp with
  | none =>
    have hf := step_fr c.svc (oracleFor thr c e inp) e inp hv
    have hR : (absStep thr c.abs e.tClear none (pruneAsk c.svc inp)).2 = [] := by
      cases pruneAsk c.svc inp <;> rfl
    rw [hR]
    exact ⟨hf.st.loc, hf.outs, hf.st.cfg⟩
  | some p =>
    show _ = recAfter c.svc.localRec e (pongStep thr c.abs p).2 ∧
      _ = (pongStep thr c.abs p).2.map evAddr ∧ _
    obtain ⟨peer, addr, id, enrSeq, observed, rfl, hr, rfl⟩ := votePong_some hv
    obtain ⟨hv1, hv2, hv3⟩ := handleResponse_vote c.svc
      (oracleOf thr c.votes c.svc.localRec c.dual e peer observed) peer addr id enrSeq observed hr
    rw [removeActive_of_reaches hr] at hv1 hv2 hv3
    -- `dropActive` keeps everything the vote reads: table, clock, configuration, local record
    obtain ⟨hs1, hs2, hs3⟩ := ipVote_sim thr (dropActive c.svc id) c.votes hc c.dual e peer observed
    exact ⟨hv2.trans hs2, hv3.trans ((congrArg sockEvs hs3).trans (sockEvs_map_evOut _)), hv1.trans hs1⟩

/-- The simulation: on the abstraction a step of the composed system is `absStep` - `pongStep` for
a PONG response that reaches `handle_ip_vote_from_pong`, the pruning of `require_more_ip_votes` for
an `established` whose failed insertion asks for it, nothing otherwise - and the coupling is kept. -/
theorem cstep_sim (thr : Nat → Nat) (c : CSt) (hc : c.Coupled) (e : Env) (inp : Input) :
    (cstep thr c e inp).1.abs =
      (absStep thr c.abs e.tClear (votePong c.svc e inp) (pruneAsk c.svc inp)).1 ∧
    (cstep thr c e inp).1.Coupled := by
  obtain ⟨hloc, _, hcfg⟩ := cstep_rec thr c hc e inp
  refine ⟨svc_ext (votesAfter_eq thr c e inp) ?_ ?_, ?_⟩
  · show absRec (cstep thr c e inp).1.svc.localRec = _
    rw [hloc]
    exact absStep_enr thr c.svc.localRec e c.abs _ _ _ rfl
  · show decide ((cstep thr c e inp).1.svc.cfg.ipMode = .dual) = _
    rw [hcfg]
    exact (absStep_keeps thr c.abs e.tClear _ _).1.symm
  · unfold CSt.Coupled
    rw [hcfg, ← hc]
    exact (congrArg Option.isSome (votesAfter_eq thr c e inp)).trans (absStep_keeps ..).2

/-! ## The oracle is read nowhere else -/

theorem pruneAsk_established (s : Svc) (r : Rec) (addr : Addr) (incoming : Bool) :
    pruneAsk s (.established r addr incoming) =
      if estAsks s r incoming then some r.udp6.isSome else none := rfl

theorem connectionUpdated_connected_unread (s : Svc) (o o' : Oracle) (nodeId : Nat) (r : Rec)
    (incoming : Bool)
    (h : (!incoming && (match (s.table.insertOrUpdate s.cfg.kb s.now nodeId r
        { conn := true, incoming := incoming }).2 with
      | .failed _ => true
      | _ => false)) = false) :
    s.connectionUpdated o nodeId (.connected r incoming) =
      s.connectionUpdated o' nodeId (.connected r incoming) := by
  unfold connectionUpdated
  simp only
  generalize s.table.insertOrUpdate s.cfg.kb s.now nodeId r { conn := true, incoming := incoming } = x
    at h ⊢
  obtain ⟨t, res⟩ := x
  cases res with
  | failed f =>
    simp only [Bool.and_true, Bool.not_eq_false'] at h
    subst h
    rfl
  | _ => rfl

theorem handleResponse_unread (s : Svc) (o o' : Oracle) (peer : Nat) (addr : Addr) (id : Nat)
    (body : RespBody)
    (h : ∀ enrSeq observed, body = .pong enrSeq observed → reachesVote s peer addr id = false) :
    s.handleResponse o peer addr id body = s.handleResponse o' peer addr id body := by
  obtain ⟨r, _, heq⟩ := handleResponse_unreached s peer addr id body h
  rw [heq o, heq o']

open Discv5.IpVote (SOk VOk KeysNodup countOf ClearMajority)

/-- The ledger entry of a step: the counted vote, if the step is a PONG whose vote is counted. -/
def stepCast (c : CSt) (e : Env) (inp : Input) : Option (Cast Nat) :=
  (votePong c.svc e inp).bind (castOf c.abs)

/-- The ledger of counted votes of a history, newest first. -/
def ledgerOf (thr : Nat → Nat) (c : CSt) : List (Env × Input) → List (Cast Nat)
  | [] => []
  | (e, inp) :: rest => ledgerOf thr (cstep thr c e inp).1 rest ++ (stepCast c e inp).toList

theorem crun_cons (thr : Nat → Nat) (c : CSt) (e : Env) (inp : Input) (rest : List (Env × Input)) :
    crun thr c ((e, inp) :: rest) =
      ((crun thr (cstep thr c e inp).1 rest).1, (cstep thr c e inp).2 ++ (crun thr (cstep thr c e inp).1 rest).2) :=
  rfl

theorem crun_append_eq (thr : Nat → Nat) (xs ys : List (Env × Input)) :
    ∀ c : CSt, crun thr c (xs ++ ys) =
      ((crun thr (crun thr c xs).1 ys).1, (crun thr c xs).2 ++ (crun thr (crun thr c xs).1 ys).2) := by
  induction xs with
  | nil => intro c; rfl
  | cons x xs ih =>
    intro c
    obtain ⟨e, inp⟩ := x
    rw [List.cons_append, crun_cons, crun_cons, ih, List.append_assoc]

theorem crun_append (thr : Nat → Nat) (xs ys : List (Env × Input)) :
    ∀ c : CSt, (crun thr c (xs ++ ys)).1 = (crun thr (crun thr c xs).1 ys).1 :=
  fun c => by rw [crun_append_eq]

theorem crun_append_outs (thr : Nat → Nat) (xs ys : List (Env × Input)) :
    ∀ c : CSt, (crun thr c (xs ++ ys)).2 = (crun thr c xs).2 ++ (crun thr (crun thr c xs).1 ys).2 :=
  fun c => by rw [crun_append_eq]

theorem pongsOf_append (thr : Nat → Nat) (xs ys : List (Env × Input)) :
    ∀ c : CSt, pongsOf thr c (xs ++ ys) = pongsOf thr c xs ++ pongsOf thr (crun thr c xs).1 ys := by
  induction xs with
  | nil => intro c; simp [pongsOf, crun]
  | cons x xs ih =>
    intro c; obtain ⟨e, inp⟩ := x
    rw [List.cons_append, crun_cons]
    simp only [pongsOf, ih, List.append_assoc]

/-! Histories are taken apart at their last step: what a history has done is then a statement
about its prefixes from one given starting state. -/

theorem crun_snoc (thr : Nat → Nat) (c : CSt) (pre : List (Env × Input)) (e : Env) (inp : Input) :
    crun thr c (pre ++ [(e, inp)]) =
      ((cstep thr (crun thr c pre).1 e inp).1, (crun thr c pre).2 ++ (cstep thr (crun thr c pre).1 e inp).2) := by
  rw [crun_append_eq]
  simp only [crun, List.append_nil]

theorem ledgerOf_snoc (thr : Nat → Nat) (c : CSt) (pre : List (Env × Input)) (e : Env) (inp : Input) :
    ledgerOf thr c (pre ++ [(e, inp)]) =
      (stepCast (crun thr c pre).1 e inp).toList ++ ledgerOf thr c pre := by
  induction pre generalizing c with
  | nil => simp [ledgerOf, crun]
  | cons x xs ih =>
    obtain ⟨e', inp'⟩ := x
    rw [List.cons_append, crun_cons]
    simp only [ledgerOf, ih, List.append_assoc]

theorem pongsOf_snoc (thr : Nat → Nat) (c : CSt) (pre : List (Env × Input)) (e : Env) (inp : Input) :
    pongsOf thr c (pre ++ [(e, inp)]) =
      pongsOf thr c pre ++ (votePong (crun thr c pre).1.svc e inp).toList := by
  rw [pongsOf_append]
  simp only [pongsOf, List.append_nil]

theorem snoc_induct {β : Type} {P : List β → Prop} (nil : P [])
    (snoc : ∀ l a, P l → P (l ++ [a])) (l : List β) : P l := by
  rw [← List.reverse_reverse l]
  induction l.reverse with
  | nil => exact nil
  | cons a t ih => rw [List.reverse_cons]; exact snoc _ a ih

/-- Invariant of the composed system along a history: the coupling, one entry per voter backed
by a PONG of the history (`SOk`), every entry is its voter's latest counted vote (`SLOk`). -/
structure CInv (minimum : Nat) (hist : List (Pong Nat)) (L : List (Cast Nat)) (c : CSt) : Prop where
  coupled : c.Coupled
  ok : SOk minimum hist c.abs
  lok : SLOk L c.abs

theorem votePong_valid {s : Svc} {e : Env} (he : e.Valid) {inp : Input} (p : Pong Nat)
    (h : votePong s e inp = some p) : p.Valid := by
  obtain ⟨_, _, _, _, _, _, _, rfl⟩ := votePong_some h
  exact he

theorem cstep_inv (thr : Nat → Nat) {minimum : Nat} {hist : List (Pong Nat)} {L : List (Cast Nat)}
    {c : CSt} (h : CInv minimum hist L c) (e : Env) (he : e.Valid) (inp : Input) :
    CInv minimum (hist ++ (votePong c.svc e inp).toList) ((stepCast c e inp).toList ++ L)
      (cstep thr c e inp).1 := by
  obtain ⟨habs, hcoup⟩ := cstep_sim thr c h.coupled e inp
  obtain ⟨h1, h2⟩ := absStep_inv h.ok h.lok thr e.tClear (votePong_valid he) (pruneAsk c.svc inp)
  exact ⟨hcoup, habs ▸ h1, habs ▸ h2⟩

theorem crun_inv (thr : Nat → Nat) (minimum : Nat) (steps : List (Env × Input))
    (hist : List (Pong Nat)) (L : List (Cast Nat)) (c : CSt) (h : CInv minimum hist L c)
    (hv : ∀ x, x ∈ steps → x.1.Valid) :
    CInv minimum (hist ++ pongsOf thr c steps) (ledgerOf thr c steps ++ L) (crun thr c steps).1 := by
  induction steps using snoc_induct with
  | nil => simpa [pongsOf, ledgerOf, crun] using h
  | snoc pre x ih =>
    obtain ⟨e, inp⟩ := x
    have := cstep_inv thr (ih fun y hy => hv y (List.mem_append_left _ hy)) e
      (hv (e, inp) (List.mem_append_right _ (List.mem_singleton.2 rfl))) inp
    simpa only [crun_snoc, pongsOf_snoc, ledgerOf_snoc, List.append_assoc] using this

/-- A composed state at start-up: coupled, and the vote table (if any) empty with the configured
minimum. -/
def CSt.Fresh (c : CSt) (minimum : Nat) : Prop := c.Coupled ∧ c.abs.Fresh minimum

theorem fresh_inv {c : CSt} {minimum : Nat} (h : c.Fresh minimum) : CInv minimum [] [] c := by
  refine ⟨h.1, IpVote.fresh_ok h.2, fun v hv => ?_⟩
  obtain ⟨h4, h6, _⟩ := h.2 v hv
  constructor
  · intro en he; rw [h4] at he; cases he
  · intro en he; rw [h6] at he; cases he

theorem cstep_shape (thr : Nat → Nat) (c : CSt) (hc : c.Coupled) (e : Env) (inp : Input) :
    ((cstep thr c e inp).1.svc.localRec = c.svc.localRec ∧ sockEvs (cstep thr c e inp).2 = []) ∨
    ∃ p f a, votePong c.svc e inp = some p ∧ IpVote.Moves thr c.abs p f a ∧
      (cstep thr c e inp).1.svc.localRec = setSocket c.svc.localRec e (Sock.of f a) ∧
      sockEvs (cstep thr c e inp).2 = [addrOf (Sock.of f a)] := by
  obtain ⟨hloc, hev, _⟩ := cstep_rec thr c hc e inp
  rcases absStep_cases thr c.abs e.tClear (votePong c.svc e inp) (pruneAsk c.svc inp) with
    ⟨_, h2⟩ | ⟨p, f, a, hv, hm⟩
  · rw [h2] at hloc hev
    exact Or.inl ⟨hloc, hev⟩
  · rw [hv, show (absStep thr c.abs e.tClear (some p) (pruneAsk c.svc inp)).2 = _ from hm.evs]
      at hloc hev
    exact Or.inr ⟨p, f, a, hv, hm, hloc, hev⟩

theorem cstep_changed (thr : Nat → Nat) (c : CSt) (hc : c.Coupled) (e : Env) (inp : Input) (f : Bool)
    (hne : udpOf (cstep thr c e inp).1.svc.localRec f ≠ udpOf c.svc.localRec f) :
    ∃ a v' peer addr id enrSeq observed,
      inp = .response peer addr id (.pong enrSeq observed) ∧ observed.v6 = f ∧
      udpOf (cstep thr c e inp).1.svc.localRec f = some a ∧ (cstep thr c e inp).1.votes = some v' ∧
      v'.minimum ≤ countOf e.tMaj (v'.fam f) a ∧
      (∀ b, b ≠ a → countOf e.tMaj (v'.fam f) b < thr (countOf e.tMaj (v'.fam f) a)) ∧
      (∀ en, en ∈ v'.fam f → e.tMaj < en.expiry) ∧
      (cstep thr c e inp).1.svc.localRec = setSocket c.svc.localRec e (Sock.of f a) ∧
      udpOf (cstep thr c e inp).1.svc.localRec (!f) = udpOf c.svc.localRec (!f) ∧
      (cstep thr c e inp).1.svc.localRec.seq = c.svc.localRec.seq + 1 ∧
      sockEvs (cstep thr c e inp).2 = [addrOf (Sock.of f a)] := by
  rcases cstep_shape thr c hc e inp with ⟨h1, _⟩ | ⟨p, g, a, hv, hm, hloc, hev⟩
  · rw [h1] at hne
    exact absurd rfl hne
  · rw [hloc, setSocket_udp] at hne
    split at hne
    · rename_i hfg
      subst hfg
      have hvotes : (cstep thr c e inp).1.votes = (pongStep thr c.abs p).1.votes := by
        show votesAfter thr c e inp = _
        unfold votesAfter
        rw [hv]
      obtain ⟨peer, addr, id, enrSeq, observed, rfl, _, rfl⟩ := votePong_some hv
      obtain ⟨v', hv', hcm, hlive⟩ := hm.votes
      exact ⟨a, v', peer, addr, id, enrSeq, observed, rfl, (sockOf_isV6 observed).symm.trans hm.fam,
        by rw [hloc, setSocket_udp, if_pos rfl], hvotes.trans hv', hcm.1, hcm.2.2, hlive, hloc,
        by rw [hloc, setSocket_udp, if_neg (by cases f <;> decide)], by rw [hloc, setSocket_seq], hev⟩
    · exact absurd rfl hne

theorem pongsOf_mem (thr : Nat → Nat) (steps : List (Env × Input)) :
    ∀ (c : CSt) (q : Pong Nat), q ∈ pongsOf thr c steps →
      ∃ e peer addr id enrSeq observed,
        (e, Input.response peer addr id (.pong enrSeq observed)) ∈ steps ∧
        q.voter = peer ∧ q.sock = sockOf observed := by
  induction steps with
  | nil => intro c q h; cases h
  | cons x rest ih =>
    intro c q h
    obtain ⟨e, inp⟩ := x
    rcases List.mem_append.1 h with h | h
    · obtain ⟨peer, addr, id, enrSeq, observed, rfl, _, rfl⟩ := votePong_some (Option.mem_toList.1 h)
      exact ⟨e, peer, addr, id, enrSeq, observed, List.mem_cons_self .., rfl, rfl⟩
    · obtain ⟨e', peer, addr, id, enrSeq, observed, hm, h1, h2⟩ := ih _ q h
      exact ⟨e', peer, addr, id, enrSeq, observed, List.mem_cons_of_mem _ hm, h1, h2⟩

theorem cstep_few_liars (thr : Nat → Nat) {minimum : Nat} {hist : List (Pong Nat)} {L : List (Cast Nat)}
    {c : CSt} (h : CInv minimum hist L c) (e : Env) (he : e.Valid) (inp : Input) (f : Bool) (a : Nat)
    (liars : List Nat) (hfew : liars.length < minimum)
    (hl : ∀ q, q ∈ hist ++ (votePong c.svc e inp).toList → q.sock = Sock.of f a → q.voter ∈ liars)
    (hnew : udpOf (cstep thr c e inp).1.svc.localRec f = some a) : udpOf c.svc.localRec f = some a := by
  have hnew' : (cstep thr c e inp).1.abs.enr.ip f = some a := (absRec_ip _ f).trans hnew
  rw [(cstep_sim thr c h.coupled e inp).1] at hnew'
  rw [← absRec_ip]
  exact absStep_few_liars h.ok thr e.tClear (votePong_valid he) _ f a liars hl hfew hnew'

theorem crun_few_liars (thr : Nat → Nat) (minimum : Nat) (f : Bool) (a : Nat) (liars : List Nat)
    (hfew : liars.length < minimum) (steps : List (Env × Input)) (hist : List (Pong Nat))
    (L : List (Cast Nat)) (c : CSt) (h : CInv minimum hist L c) (hv : ∀ x, x ∈ steps → x.1.Valid)
    (hl : ∀ q, q ∈ hist ++ pongsOf thr c steps → q.sock = Sock.of f a → q.voter ∈ liars)
    (hnew : udpOf (crun thr c steps).1.svc.localRec f = some a) : udpOf c.svc.localRec f = some a := by
  induction steps using snoc_induct with
  | nil => exact hnew
  | snoc pre x ih =>
    obtain ⟨e, inp⟩ := x
    rw [pongsOf_snoc, ← List.append_assoc] at hl
    rw [crun_snoc] at hnew
    have hvp : ∀ y, y ∈ pre → y.1.Valid := fun y hy => hv y (List.mem_append_left _ hy)
    exact ih hvp (fun q hq => hl q (List.mem_append_left _ hq))
      (cstep_few_liars thr (crun_inv thr minimum pre hist L c h hvp) e
        (hv (e, inp) (List.mem_append_right _ (List.mem_singleton.2 rfl))) inp f a liars hfew hl hnew)

/-! ## Monotone clocks: the table is exactly the set of live latest counted votes -/

/-- The clock readings of a history never go back (`T` is the last reading before it). -/
def MonoFrom : Nat → List (Env × Input) → Prop
  | _, [] => True
  | T, (e, _) :: rest => T ≤ e.tClear ∧ e.tClear ≤ e.tIns ∧ e.tIns ≤ e.tMaj ∧ MonoFrom e.tMaj rest

/-- The last clock reading of a history. -/
def lastClock : Nat → List (Env × Input) → Nat
  | T, [] => T
  | _, (e, _) :: rest => lastClock e.tMaj rest

theorem cstep_comp (thr : Nat → Nat) {T : Nat} {L : List (Cast Nat)} {c : CSt} (hc : c.Coupled)
    (h : SLComp T L c.abs) (e : Env) (he : e.Valid) (h1 : T ≤ e.tClear) (h2 : e.tClear ≤ e.tIns)
    (h3 : e.tIns ≤ e.tMaj) (inp : Input) :
    SLComp e.tMaj ((stepCast c e inp).toList ++ L) (cstep thr c e inp).1.abs := by
  rw [(cstep_sim thr c hc e inp).1]
  refine absStep_lcomp h thr e.tClear (votePong_valid he) _ h1 (by omega) fun p hp => ?_
  obtain ⟨_, _, _, _, _, _, _, rfl⟩ := votePong_some hp
  exact ⟨rfl, h2, h3, rfl⟩

theorem crun_comp (thr : Nat → Nat) (steps : List (Env × Input)) :
    ∀ (T : Nat) (L : List (Cast Nat)) (c : CSt), c.Coupled → SLComp T L c.abs →
      (∀ x, x ∈ steps → x.1.Valid) → MonoFrom T steps →
      SLComp (lastClock T steps) (ledgerOf thr c steps ++ L) (crun thr c steps).1.abs := by
  induction steps with
  | nil => intro T L c _ h _ _; simpa [lastClock, ledgerOf, crun] using h
  | cons x rest ih =>
    intro T L c hc h hv hm
    obtain ⟨e, inp⟩ := x
    obtain ⟨m1, m2, m3, m4⟩ := hm
    have h1 := cstep_comp thr hc h e (hv (e, inp) (List.mem_cons_self ..)) m1 m2 m3 inp
    have h2 := ih _ _ _ (cstep_sim thr c hc e inp).2 h1
      (fun y hy => hv y (List.mem_cons_of_mem _ hy)) m4
    rw [crun_cons]
    simpa [lastClock, ledgerOf, List.append_assoc] using h2

theorem monoFrom_append {T : Nat} {xs ys : List (Env × Input)} (h : MonoFrom T (xs ++ ys)) :
    MonoFrom T xs ∧ MonoFrom (lastClock T xs) ys := by
  induction xs generalizing T with
  | nil => exact ⟨trivial, h⟩
  | cons x xs ih =>
    obtain ⟨e, inp⟩ := x
    obtain ⟨m1, m2, m3, m4⟩ := h
    obtain ⟨i1, i2⟩ := ih m4
    exact ⟨⟨m1, m2, m3, i1⟩, i2⟩

theorem comp_nil (c : CSt) (T : Nat) : SLComp T [] c.abs := by
  intro v _
  constructor <;> intro x c hl <;> cases hl

/-- A step changed the socket of family `f`.  In the table `v'` the step leaves, the voters behind
the tally of the new socket `a` are distinct, at least `minimum`, each has `a` as latest counted
vote of the family, unexpired at the clock reading of `majority()`; every rival's tally is below
`thr` of their number. -/
theorem cstep_changed_voters (thr : Nat → Nat) {minimum : Nat} {hist : List (Pong Nat)}
    {L : List (Cast Nat)} {c : CSt} (h : CInv minimum hist L c) (e : Env) (he : e.Valid) (inp : Input)
    (f : Bool) (hne : udpOf (cstep thr c e inp).1.svc.localRec f ≠ udpOf c.svc.localRec f) :
    ∃ a v', udpOf (cstep thr c e inp).1.svc.localRec f = some a ∧
      (cstep thr c e inp).1.votes = some v' ∧
      (tallyVoters e.tMaj (v'.fam f) a).Nodup ∧
      minimum ≤ (tallyVoters e.tMaj (v'.fam f) a).length ∧
      (∀ x, x ∈ tallyVoters e.tMaj (v'.fam f) a →
        VotesFor ((stepCast c e inp).toList ++ L) f e.tMaj x (Sock.of f a)) ∧
      (tallyVoters e.tMaj (v'.fam f) a).length = countOf e.tMaj (v'.fam f) a ∧
      (∀ b, b ≠ a → countOf e.tMaj (v'.fam f) b < thr (tallyVoters e.tMaj (v'.fam f) a).length) := by
  obtain ⟨a, v', _, _, _, _, _, _, _, hnew, hvotes, hmin, hriv, _⟩ :=
    cstep_changed thr c h.coupled e inp f hne
  have hinv := cstep_inv thr h e he inp
  have hok := hinv.ok v' hvotes
  refine ⟨a, v', hnew, hvotes, tallyVoters_nodup _ (hok.k f) a, ?_,
    tallyVoters_sound (hinv.lok v' hvotes) f e.tMaj a, tallyVoters_length .., ?_⟩
  · rw [tallyVoters_length, ← hok.hmin]; exact hmin
  · rw [tallyVoters_length]; exact hriv

/-- Under monotone clocks the table the step leaves is complete, so those voters are exactly the
peers whose latest counted vote is `a` and unexpired, and any distinct peers whose latest counted
vote is a rival `b` and unexpired are fewer than `thr` of their number. -/
theorem cstep_changed_exact (thr : Nat → Nat) {minimum T : Nat} {hist : List (Pong Nat)}
    {L : List (Cast Nat)} {c : CSt} (h : CInv minimum hist L c) (hcomp : SLComp T L c.abs) (e : Env)
    (he : e.Valid) (h1 : T ≤ e.tClear) (h2 : e.tClear ≤ e.tIns) (h3 : e.tIns ≤ e.tMaj) (inp : Input)
    (f : Bool) (hne : udpOf (cstep thr c e inp).1.svc.localRec f ≠ udpOf c.svc.localRec f) :
    ∃ a, ∃ v' : IpVote.IpVote Nat, udpOf (cstep thr c e inp).1.svc.localRec f = some a ∧
      (tallyVoters e.tMaj (v'.fam f) a).Nodup ∧
      minimum ≤ (tallyVoters e.tMaj (v'.fam f) a).length ∧
      (∀ x, x ∈ tallyVoters e.tMaj (v'.fam f) a ↔
        VotesFor ((stepCast c e inp).toList ++ L) f e.tMaj x (Sock.of f a)) ∧
      (∀ b (ws : List Nat), b ≠ a → ws.Nodup →
        (∀ x, x ∈ ws → VotesFor ((stepCast c e inp).toList ++ L) f e.tMaj x (Sock.of f b)) →
        ws.length < thr (tallyVoters e.tMaj (v'.fam f) a).length) := by
  obtain ⟨a, v', hnew, hv', hnd, hmin, hsound, _, hriv⟩ := cstep_changed_voters thr h e he inp f hne
  have hcmp := cstep_comp thr h.coupled hcomp e he h1 h2 h3 inp v' hv'
  exact ⟨a, v', hnew, hnd, hmin, fun x => ⟨hsound x, tallyVoters_complete hcmp f a x⟩,
    fun b ws hb hnd hws => Nat.lt_of_le_of_lt (voters_le_tally hcmp f b ws hnd hws) (hriv b hb)⟩

/-- The eligibility of a PONG as the composed system evaluates it: the connectivity state admits
the vote, ENR updates are on, and the voter is a connected outgoing table entry or
`require_more_ip_votes` asks for votes of its family. -/
def Eligible (c : CSt) (e : Env) (peer : Nat) (observed : Addr) : Prop :=
  e.countable = true ∧ c.svc.cfg.enrUpdate = true ∧
    (connOutOf c.svc peer || (IpVote.requireMore c.abs e.tClear observed.v6).2) = true

theorem counted_eligible {c : CSt} (hc : c.Coupled) (e : Env) (peer : Nat) (observed : Addr)
    (h : counted c.abs (pongOf e peer observed (connOutOf c.svc peer)) = true) :
    Eligible c e peer observed := by
  unfold counted at h
  simp only [Bool.and_eq_true] at h
  obtain ⟨⟨h1, h2⟩, h3⟩ := h
  refine ⟨h1, hc ▸ h2, ?_⟩
  rw [← sockOf_isV6]
  exact h3

end Discv5.SvcVotes
