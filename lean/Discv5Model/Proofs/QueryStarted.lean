/-
Lemmas for the pool's `started` field (`Query::started` in `query_pool.rs`): it is written by the
first `poll` that visits the query and by nothing else.
-/
import Discv5Model.Proofs.QueryPool

namespace Discv5.Query

/-- Every query of the pool with id `i` has `started = some s`. -/
def StartedAt (p : Pool) (i s : Nat) : Prop := ∀ x ∈ p.queries, x.id = i → x.started = some s

/-- A new query gets a fresh id (`i < nextId` rules out that it takes over `i`); the others keep a
`started` that is set. -/
theorem stepP_started (p : Pool) (ev : PEv) (i s : Nat) (hi : i < p.nextId) (h : StartedAt p i s) :
    StartedAt (stepP p ev).1 i s := by
  intro y hy hyi
  rcases (stepP_later p ev).1 y hy with ⟨x, hx, hid, _, hst⟩ | ⟨hid, _⟩
  · exact hst s (h x hx (hid.symm.trans hyi))
  · omega

theorem stepP_timeout (p : Pool) (ev : PEv) : (stepP p ev).1.timeout = p.timeout := by
  cases ev with
  | add v cfg t known => rfl
  | poll now order =>
    show (p.poll now order).1.timeout = p.timeout
    rcases poll_cases p now order with ⟨h, _⟩ | ⟨_, _, h, _⟩ <;> rw [h]
  | success id peer closer => exact (modify_ids p id (onSuccess · peer closer)).2.2
  | failure id peer => exact (modify_ids p id (onFailure · peer)).2.2

theorem runP_timeout : ∀ (evs : List PEv) (p : Pool), (runP p evs).timeout = p.timeout
  | [], _ => rfl
  | ev :: evs, p => by
    show (runP (stepP p ev).1 evs).timeout = p.timeout
    rw [runP_timeout evs, stepP_timeout]

theorem runP_started (evs : List PEv) (p : Pool) (hp : PoolInv p) (hw : NoWrap p evs) (i s : Nat)
    (hi : i < p.nextId) (h : StartedAt p i s) : StartedAt (runP p evs) i s :=
  ((runP_inv (J := fun p => i < p.nextId ∧ StartedAt p i s) (O := fun _ => True)
    (fun p ev hp hw h =>
      ⟨⟨by rw [(stepP_spec hp ev hw).2.1]; omega, stepP_started p ev i s h.1 h.2⟩, fun _ _ => trivial⟩)
    evs p hp hw ⟨hi, h⟩).1 evs [] (List.append_nil _).symm).2.2

theorem poll_first_visit (p : Pool) (now i : Nat) (rest : List Nat) (x : PQ)
    (hx : p.get i = some x) (hs : x.started = none) :
    StartedAt (p.poll now (i :: rest)).1 i now := by
  have hfind : p.queries.find? (fun y => y.id == i) = some x := hx
  obtain ⟨_, hxi⟩ := find_id hfind
  -- after the visit every entry with id `i` is the stamped one; the rest of the loop keeps the stamp
  have hrep : ∀ z ∈ replaceQ (visit now x) p.queries, z.id = i → z.started = some now := by
    intro z hz hzi
    rcases mem_replaceQ hz with rfl | ⟨_, hne⟩
    · show some (x.started.getD now) = some now
      rw [hs]; rfl
    · exact absurd (hzi.trans hxi.symm) hne
  have key : ∀ y ∈ (pollLoop p.timeout now (i :: rest) p.queries).1, y.id = i → y.started = some now := by
    unfold pollLoop
    rw [hfind]
    dsimp only
    intro y hy hyi
    split at hy
    · exact hrep y hy hyi
    · exact hrep y hy hyi
    · split at hy
      · exact hrep y hy hyi
      · obtain ⟨z, hz, hid, _, hst⟩ := pollLoop_later p.timeout now rest _ y hy
        exact hst now (hrep z hz (hid.symm.trans hyi))
  intro y hy
  rcases poll_cases p now (i :: rest) with ⟨h, _⟩ | ⟨_, _, h, _⟩ <;> rw [h] at hy
  · exact key y hy
  · exact key y (mem_removeQ hy)

end Discv5.Query
