/-
Who a reported response is credited to (`Props/C02Attribution.lean`, handler model; namespace `AT` for
attribution).

`Ext os0 P os`: the output log `os` is `os0` followed by outputs that all satisfy `P`, so a statement
about `Ext` speaks of exactly the outputs a call appends, from any starting log.  It is one more
invariant the session functions of `HandlerCrypto` keep (`Ext.stable`).

A `response` is appended by `handleResponse` alone, and there only for a request it has just found
active to the very address it was called with (`handleResponse_ext`).  Every other handler function
appends no response (walk N), and `newSession`, which runs between a handshake packet and the
message it carries, makes no request of its own: the ones it sends were queued, the ones it re-seals
were active (`AO`, kept along the same walk).  Hence `handleMessage_ext` and `handleAuthMessage_ext`.
-/
import Discv5Model.Proofs.HandlerCrypto
import Discv5Model.Proofs.HandlerIdentity
import Discv5Model.Proofs.HandlerRequests
namespace Discv5.H.AT
open Cr RQ

abbrev St := HState × List Out

/-- The output log `os` is `os0` followed by new outputs that all satisfy `P`. -/
def Ext (os0 : List Out) (P : Out → Prop) (os : List Out) : Prop :=
  ∃ new, os = os0 ++ new ∧ ∀ o ∈ new, P o

theorem Ext.refl (os0 : List Out) (P : Out → Prop) : Ext os0 P os0 :=
  ⟨[], (List.append_nil _).symm, fun _ h => nomatch h⟩

theorem Ext.snoc {os0 os : List Out} {P : Out → Prop} {o : Out} (h : Ext os0 P os) (ho : P o) :
    Ext os0 P (os ++ [o]) := by
  obtain ⟨new, rfl, hn⟩ := h
  refine ⟨new ++ [o], (List.append_assoc ..), fun x hx => ?_⟩
  rcases List.mem_append.1 hx with hx | hx
  · exact hn x hx
  · rw [List.mem_singleton.1 hx]; exact ho

theorem Ext.mono {os0 os : List Out} {P Q : Out → Prop} (h : Ext os0 P os) (hpq : ∀ o, P o → Q o) :
    Ext os0 Q os :=
  let ⟨new, h1, h2⟩ := h; ⟨new, h1, fun o ho => hpq o (h2 o ho)⟩

theorem Ext.all {os : List Out} {P : Out → Prop} (h : Ext [] P os) : ∀ o ∈ os, P o := by
  obtain ⟨new, rfl, hn⟩ := h
  simpa using hn

theorem Ext.stable (os0 : List Out) (P : Out → Prop) :
    Stable P (fun _ _ => True) (fun st => Ext os0 P st.2) where
  emit ho h := h.snoc ho
  other _ _ h := h
  sessions _ h := h
  touch _ h := h
  put _ _ h := h
  active _ h := h
  rearm _ _ _ h := h

theorem failSession_ext {os0 : List Out} {P : Out → Prop} (c : Cfg) (na : NA) (e : Err) (b : Bool)
    (hf : ∀ rid e, P (.failed rid e)) (hexp : ∀ l, P (.expired l)) :
    Ho (fun st => Ext os0 P st.2) (failSession c na e b) (fun _ st => Ext os0 P st.2) :=
  ⟨failSession_inv (Ext.stable os0 P) c na e b hf hexp⟩

/-- A computation that keeps `I`; by default, because `I` does not read what the computation writes. -/
theorem keep {α} {I : St → Prop} {m : M α}
    (h : ∀ st, I st → I (m.run st).2 := by exact fun _ h => h) : Ho I m (fun _ => I) := ⟨h⟩

theorem sessGetMut_keep {I : St → Prop} (c : Cfg) (na : NA)
    (h : ∀ st ss, I st → I ({ st.1 with sessions := ss }, st.2) := by exact fun _ _ h => h) :
    Ho I (sessGetMut c na) (fun _ => I) :=
  sessGetMut_elim (fun st hI => ⟨fun _ => hI, fun _ _ _ _ => ⟨fun _ => h st _ hI, fun _ => h st _ hI⟩⟩)

/-- `sessGetMut` hands out a session exactly when the cache has an entry for the address that has
not outlived the session timeout. -/
theorem sessGetMut_some_iff (c : Cfg) (na : NA) (st : St) (sess : Session) :
    (sessGetMut c na st).1 = some sess ↔
      ∃ stamp, st.1.sessions.find? (·.1 == na) = some (na, sess, stamp) ∧
        ¬ stamp + c.sessionTtl < st.1.rt := by
  show ((sessGetMut c na).run st).1 = some sess ↔ _
  rw [sessGetMut_run]
  cases hf : st.1.sessions.find? (·.1 == na) with
  | none => simp
  | some e =>
    obtain ⟨x, sess', stamp⟩ := e
    have hx : x = na := by simpa using List.find?_some hf
    subst hx
    by_cases hl : stamp + c.sessionTtl < st.1.rt
    · simp [hl]
    · simp only [hl, if_false, Option.some.injEq, Prod.mk.injEq, true_and]
      exact ⟨fun h => ⟨stamp, ⟨h, rfl⟩, hl⟩, fun ⟨_, ⟨h, _⟩, _⟩ => h⟩

/-- The session cache holds no entry for `na`. -/
def Gone (na : NA) (s : HState) : Prop := ∀ e ∈ s.sessions, e.1 ≠ na

theorem gone_filter (na : NA) (l : List (NA × Session × Nat)) :
    ∀ e ∈ l.filter (·.1 != na), e.1 ≠ na := by
  intro e he
  have := (List.mem_filter.1 he).2
  simpa using this

/-- `failSession … true` removes the entry for `na`; what follows does not touch the cache. -/
theorem failSession_gone (c : Cfg) (na : NA) (e : Err) :
    Ho (fun _ => True) (failSession c na e true) (fun _ st => Gone na st.1) := by
  refine ⟨fun st _ => ?_⟩
  show wp (failSession c na e true) (fun _ st => Gone na st.1) st
  rw [HI.failSession_true]
  exact HI.tail_failSession (K := fun st => Gone na st.1)
    ⟨fun _ _ _ h => h, fun _ _ h => h, fun _ _ h => h, fun _ _ h => h⟩ c na e _ (gone_filter na _)

/-- What a failing `handleMessage` may report. -/
def FailOut (na : NA) (nonce : Nat) (o : Out) : Prop :=
  (∃ rid e, o = .failed rid e) ∨ (∃ l, o = .expired l) ∨ o = .wru na nonce

/-- A packet that does not decrypt under the live session found for `na`: `handleMessage` drops that
session and reports nothing but failures, expiries and a who-are-you for this packet. -/
theorem handleMessage_undecryptable (c : Cfg) (na : NA) (nonce : Nat) (ct : Ct) (sess : Session)
    (os0 : List Out) (hd : (decryptMessage sess nonce ct).2 = none) :
    Ho (fun st => (sessGetMut c na st).1 = some sess ∧ Ext os0 (FailOut na nonce) st.2)
      (handleMessage c na nonce ct)
      (fun _ st => Gone na st.1 ∧ Ext os0 (FailOut na nonce) st.2) := by
  rw [handleMessage_eq]
  refine Ho.bind (Ho.conj (Q := fun r _ => r = some sess) ⟨fun _ h => h⟩ (sessGetMut_keep c na))
    (fun r => Ho.pre_pure (fun hr => ?_))
  subst hr
  simp only [hd]
  exact Ho.bind keep (fun _ => Ho.bind
    ((Ho.conj (failSession_gone c na _) (failSession_ext c na _ true
      (fun rid e => Or.inl ⟨rid, e, rfl⟩) (fun l => Or.inr (Or.inl ⟨l, rfl⟩)))).pre (fun _ h => ⟨trivial, h⟩))
    (fun _ => Ho.getS_pin (fun s => Ho.unpin (Ho.iteI
      (Ho.emit _ (fun _ h => ⟨h.1, h.2.snoc (Or.inr (Or.inr rfl))⟩)) (Ho.pureI _)))))

/-! ## Walk N: who reports no response, and makes no request

`NR os0 P`: the log is `os0` followed by outputs satisfying `P`, for a `P` that admits every output
other than a `response`.  `AO na O`: every active call to `na` and every queued request whose contact
is `na` has a request id satisfying `O`.  Sending a request with such an id keeps both (`NQ`), and so
does everything `newSession` does; the other handler functions, `handleResponse`, `handleMessage` and
`handleAuthMessage` apart, keep `NR`. -/

def NR (os0 : List Out) (P : Out → Prop) (st : St) : Prop := Ext os0 P st.2

/-- `P` holds of every output that is not a `response`. -/
def AdmitsNonResp (P : Out → Prop) : Prop := ∀ o, (∀ na rid rb, o ≠ .response na rid rb) → P o

def ActTo (na : NA) (O : Nat → Prop) (act : List Call) : Prop := ∀ cl ∈ act, callNA cl = na → O cl.rid

def PendTo (na : NA) (O : Nat → Prop) (pend : List (NA × List PendingReq)) : Prop :=
  ∀ e ∈ pend, ∀ pr ∈ e.2, pr.contact.na = na → O pr.rid

def AO (na : NA) (O : Nat → Prop) (s : HState) : Prop := ActTo na O s.active ∧ PendTo na O s.pending

def NQ (os0 : List Out) (P : Out → Prop) (na : NA) (O : Nat → Prop) (st : St) : Prop :=
  NR os0 P st ∧ AO na O st.1

section walkN
variable {os0 : List Out} {P : Out → Prop}

theorem AdmitsNonResp.failed (hP : AdmitsNonResp P) (rid : Nat) (e : Err) : P (.failed rid e) :=
  hP _ (fun _ _ _ h => nomatch h)
theorem AdmitsNonResp.expired (hP : AdmitsNonResp P) (l : List NA) : P (.expired l) :=
  hP _ (fun _ _ _ h => nomatch h)

theorem N_emit (hP : AdmitsNonResp P) (o : Out) (h : ∀ na rid rb, o ≠ .response na rid rb) :
    Ho (NR os0 P) (emit o) (fun _ => NR os0 P) := ⟨fun _ hp => Ext.snoc hp (hP o h)⟩
theorem N_activeRemoveRequest (na r) : Ho (NR os0 P) (activeRemoveRequest na r) (fun _ => NR os0 P) :=
  activeRemoveRequest_elim (fun _ h => ⟨fun _ => h, fun _ _ => h⟩)
theorem N_failSession (hP : AdmitsNonResp P) (c na e b) :
    Ho (NR os0 P) (failSession c na e b) (fun _ => NR os0 P) :=
  failSession_ext c na e b hP.failed hP.expired

/-- `NR` reads the output log alone, and admits whatever is no `response`. -/
theorem NR.leaves (hP : AdmitsNonResp P) (c : Cfg) :
    Leaves c (fun o => ∀ na rid rb, o ≠ .response na rid rb) (NR os0 P) (fun _ => True) where
  emit := N_emit hP
  plain _ _ h := h

variable {na : NA} {O : Nat → Prop}

/-- `NQ` along the handler walk, for the functions that make no request of their own (`newSession`):
`O` is asked of the id of a call, or of a request to be made, whose peer is `na`. -/
theorem NQ.leaves (hP : AdmitsNonResp P) (c : Cfg) :
    Leaves c (fun o => ∀ na rid rb, o ≠ .response na rid rb) (NQ os0 P na O)
      (fun call => callNA call = na → O call.rid) (fun ct rid => ct.na = na → O rid) where
  emit o h := ⟨fun _ hp => ⟨Ext.snoc hp.1 (hP o h), hp.2⟩⟩
  plain _ _ h := h
  found _ call h hm := h.2.1 call hm
  activeInsert call h := Ho.modS _ (fun st hp => ⟨hp.1, fun x hx => by
    rcases List.mem_append.1 hx with hx | hx
    · exact hp.2.1 x hx
    · rw [List.mem_singleton.1 hx]; exact h, hp.2.2⟩)
  erase _ _ _ h := ⟨h.1, fun x hx => h.2.1 x (List.mem_of_mem_erase hx), h.2.2⟩
  activeRemoveRequests _ := ⟨fun _ h => ⟨h.1, fun x hx => h.2.1 x (List.mem_filter.1 hx).1, h.2.2⟩⟩
  replay st old p h := ⟨h.1, fun x hx => by
    obtain ⟨y, hy, rfl⟩ := List.mem_map.1 hx
    split <;> exact h.2.1 y hy, h.2.2⟩
  push st ct rid i b hq h := ⟨h.1, h.2.1, fun e he pr hpr => by
    rcases SU.mem_pushPending he with he | ⟨-, he⟩
    · exact h.2.2 e he pr hpr
    · rcases he pr hpr with rfl | ⟨e0, he0, -, hpr0⟩
      · exact hq
      · exact h.2.2 e0 he0 pr hpr0⟩
  take _ _ h := ⟨h.1, h.2.1, fun e he => h.2.2 e (List.mem_filter.1 he).1⟩
  queued _ e pr h he hpr := h.2.2 e he pr hpr
  gc_new _ _ _ _ _ _ h := h
  gc_retry _ h _ := h
  gc_hs _ _ _ h := h
  gc_remaining _ _ h := h

/-- Every event other than a message or handshake datagram: no `response` is reported. -/
theorem N_stepM (hP : AdmitsNonResp P) (c : Cfg) (e : Ev)
    (hm : ∀ src srcId nonce ct, e ≠ .dgram src (.message srcId nonce ct))
    (hh : ∀ src srcId nonce sig eph r ct, e ≠ .dgram src (.handshake srcId nonce sig eph r ct)) :
    Ho (NR os0 P) (stepM c e) (fun _ => NR os0 P) :=
  (NR.leaves hP c).ho_stepM {} (fun _ _ => trivial) e (fun _ _ _ => nofun)
    (fun src p he hp => by
      cases p with
      | whoareyou n cd s => exact absurd rfl (hp n cd s)
      | message srcId nonce ct => exact absurd he (hm _ _ _ _)
      | handshake srcId nonce sig eph r ct => exact absurd he (hh _ _ _ _ _ _ _))
    (fun _ _ _ _ h => h) (fun _ _ _ h => h)

/-! ### The functions that report a response -/

/-- `handleResponse c na rid rb` appends `response na rid rb`, and only when it finds an active call to
`na` with request id `rid`. -/
theorem handleResponse_ext (c : Cfg) (na : NA) (rid : Nat) (rb : RespBody)
    (hr : O rid → P (.response na rid rb)) :
    Ho (fun st => NR os0 P st ∧ ActTo na O st.1.active) (handleResponse c na rid rb)
      (fun _ => NR os0 P) := by
  refine ⟨fun st ⟨h, ha⟩ => ?_⟩
  show wp (handleResponse c na rid rb) (fun _ => NR os0 P) st
  cases hf : st.1.active.find? (fun call => callNA call == na && call.rid == rid) with
  | none =>
    unfold handleResponse
    rw [wp_bind, wp_activeRemoveRequest]
    exact ⟨fun _ => h, fun call hc => by cases hf.symm.trans hc⟩
  | some cl =>
    have hk : callNA cl = na ∧ cl.rid = rid := by simpa using List.find?_some hf
    exact handleResponse_inv (Ext.stable os0 P) c na rid rb
      (hr (hk.2 ▸ ha cl (List.mem_of_find?_eq_some hf) hk.1)) st h

/-- The outputs `handleMessage c na nonce ct` appends: a `response` only for the id of a request that
is active to `na` in the state the call starts from. -/
theorem handleMessage_ext (hP : AdmitsNonResp P) (c : Cfg) (na : NA) (nonce : Nat) (ct : Ct)
    (hresp : ∀ rid rb, O rid → P (.response na rid rb)) :
    Ho (fun st => NR os0 P st ∧ ActTo na O st.1.active) (handleMessage c na nonce ct)
      (fun _ => NR os0 P) := by
  rw [handleMessage_eq]
  refine Ho.bind (sessGetMut_keep c na) (fun r => ?_)
  cases r with
  | none => exact Ho.emit _ (fun _ h => h.1.snoc (hP _ (fun _ _ _ e => nomatch e)))
  | some sess =>
    refine Ho.bind keep (fun _ => ?_)
    split
    · exact Ho.pre (Ho.bind (N_failSession hP ..) (fun _ => Ho.getS_pin (fun s => Ho.unpin
        (Ho.iteI (N_emit hP _ (fun _ _ _ e => nomatch e)) (Ho.pureI _))))) (fun _ h => h.1)
    · exact Ho.pure _ (fun _ h => h.1)
    · exact Ho.emit _ (fun _ h => h.1.snoc (hP _ (fun _ _ _ e => nomatch e)))
    · exact Ho.iteI (((NR.leaves hP c).ho_finishEnr {} ..).pre (fun _ h => h.1)) (handleResponse_ext c na _ _ (hresp _ _))

/-- `handleAuthMessage c na …` appends a `response` only for a request id `rid` with `O rid`, where
`O` holds of the ids of all requests active to, or queued for, `na` in the starting state. -/
theorem handleAuthMessage_ext (hP : AdmitsNonResp P) (c : Cfg) (na : NA) (nonce : Nat) (sig : Sig)
    (eph : Nat) (record : Option Rec) (ct : Ct) (hresp : ∀ rid rb, O rid → P (.response na rid rb)) :
    Ho (NQ os0 P na O) (handleAuthMessage c na nonce sig eph record ct) (fun _ => NR os0 P) := by
  unfold handleAuthMessage
  refine Ho.getS_pin (fun s0 => ?_)
  split
  · exact Ho.unpin (Ho.pure _ (fun _ h => h.1))
  · refine Ho.bind (Q := fun _ => NQ os0 P na O)
      (Ho.setS_pin (fun s => { s with challenges := s.challenges.filter (·.1 != na) }) (fun _ h => h))
      (fun _ => ?_)
    split
    · refine Ho.bind keep (fun _ => Ho.iteI ?_ ?_) <;>
        exact Ho.bind ((NQ.leaves hP c).emit _ nofun) (fun _ =>
          Ho.bind ((NQ.leaves hP c).ho_newSession {} ..) (fun _ =>
            (handleMessage_ext hP c na nonce ct hresp).pre (fun _ h => ⟨h.1, h.2.1⟩)))
    · exact Ho.modS _ (fun _ h => h.1)
    · exact Ho.bind keep (fun _ => (N_failSession hP ..).pre (fun _ h => h.1))

end walkN

end Discv5.H.AT
