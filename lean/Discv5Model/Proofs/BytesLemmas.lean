/- Lemmas about `Res`, the checked accesses, big-endian encodings and keystream xor. -/
import Discv5Model.Model.Bytes
namespace Discv5

theorem Res.bind_eq_ok {ε α β} {x : Res ε α} {f : α → Res ε β} {b : β} :
    (x >>= f) = .ok b ↔ ∃ a, x = .ok a ∧ f a = .ok b := by
  cases x with
  | ok a => simp
  | err e => simp
  | panic => simp

theorem Res.bind_ne_panic {ε α β} {x : Res ε α} {f : α → Res ε β} (hx : x ≠ .panic)
    (hf : ∀ a, x = .ok a → f a ≠ .panic) : (x >>= f) ≠ .panic := by
  cases x with
  | ok a => simpa using hf a rfl
  | err e => simp
  | panic => exact absurd rfl hx

theorem Res.ok_ne_panic {ε α} (a : α) : (Res.ok a : Res ε α) ≠ .panic := fun h => nomatch h
theorem Res.err_ne_panic {ε α} (e : ε) : (Res.err e : Res ε α) ≠ .panic := fun h => nomatch h

theorem Res.ite_ne_panic {ε α} {c : Prop} [Decidable c] {x y : Res ε α} (hx : x ≠ .panic)
    (hy : y ≠ .panic) : (if c then x else y) ≠ .panic := by
  split <;> assumption

theorem Res.ite_err_eq_ok {ε α} {c : Prop} [Decidable c] {e : ε} {x : Res ε α} {a : α}
    (h : (if c then .err e else x) = .ok a) : ¬c ∧ x = .ok a := by
  by_cases hc : c
  · rw [if_pos hc] at h; exact nomatch h
  · rw [if_neg hc] at h; exact ⟨hc, h⟩

@[simp] theorem xorStream_length (ks : Nat → UInt8) (off : Nat) (bs : Bytes) :
    (xorStream ks off bs).length = bs.length := by
  induction bs generalizing off with
  | nil => rfl
  | cons b bs ih => simp [xorStream, ih]

theorem xorStream_append (ks : Nat → UInt8) (off : Nat) (a b : Bytes) :
    xorStream ks off (a ++ b) = xorStream ks off a ++ xorStream ks (off + a.length) b := by
  induction a generalizing off with
  | nil => simp [xorStream]
  | cons x xs ih =>
    simp only [List.cons_append, xorStream, ih, List.length_cons]
    rw [show off + 1 + xs.length = off + (xs.length + 1) by omega]

@[simp] theorem xorStream_involutive (ks : Nat → UInt8) (off : Nat) (bs : Bytes) :
    xorStream ks off (xorStream ks off bs) = bs := by
  induction bs generalizing off with
  | nil => rfl
  | cons b bs ih => simp [xorStream, ih, UInt8.xor_assoc]

theorem xorStream_getElem? (ks : Nat → UInt8) (off : Nat) (bs : Bytes) (i : Nat) :
    (xorStream ks off bs)[i]? = bs[i]?.map (· ^^^ ks (off + i)) := by
  induction bs generalizing off i with
  | nil => simp [xorStream]
  | cons b bs ih =>
    cases i with
    | zero => simp [xorStream]
    | succ i =>
      simp only [xorStream, List.getElem?_cons_succ, ih]
      congr 2
      funext x; congr 2; omega

@[simp] theorem beBytes_length (k n : Nat) : (beBytes k n).length = k := by
  induction k generalizing n with
  | zero => rfl
  | succ k ih => simp [beBytes, ih]

theorem beNat_append_singleton (bs : Bytes) (b : UInt8) :
    beNat (bs ++ [b]) = beNat bs * 256 + b.toNat := by
  simp [beNat, List.foldl_append]

theorem ofNat_mod_toNat (n : Nat) : (UInt8.ofNat (n % 256)).toNat = n % 256 :=
  UInt8.toNat_ofNat_of_lt' (Nat.mod_lt _ (by decide))

theorem ofNat_mod_toNat_of_le (n : Nat) (h : n ≤ 255) : (UInt8.ofNat (n % 256)).toNat = n := by
  rw [ofNat_mod_toNat]; omega

theorem beNat_beBytes (k n : Nat) (h : n < 256 ^ k) : beNat (beBytes k n) = n := by
  induction k generalizing n with
  | zero => simp at h; subst h; rfl
  | succ k ih =>
    have h1 : n / 256 < 256 ^ k := by
      rw [Nat.pow_succ] at h
      exact Nat.div_lt_of_lt_mul (by omega)
    rw [beBytes, beNat_append_singleton, ih _ h1, ofNat_mod_toNat]
    omega

theorem beNat_foldl_lt (bs : Bytes) (acc k : Nat) (h : acc < 256 ^ k) :
    bs.foldl (fun acc b => acc * 256 + b.toNat) acc < 256 ^ (k + bs.length) := by
  induction bs generalizing acc k with
  | nil => simpa using h
  | cons b bs ih =>
    simp only [List.foldl_cons, List.length_cons]
    have hb := b.toNat_lt
    have : acc * 256 + b.toNat < 256 ^ (k + 1) := by rw [Nat.pow_succ]; omega
    have := ih _ _ this
    rwa [show k + 1 + bs.length = k + (bs.length + 1) by omega] at this

theorem beNat_lt (bs : Bytes) : beNat bs < 256 ^ bs.length := by
  have := beNat_foldl_lt bs 0 0 (by simp)
  simpa [beNat] using this

theorem slice_ok {ε α} (l : List α) (a b : Nat) (h1 : a ≤ b) (h2 : b ≤ l.length) :
    (slice l a b : Res ε _) = .ok ((l.drop a).take (b - a)) := by
  simp [slice, h1, h2]

theorem sliceFrom_ok {ε α} (l : List α) (a : Nat) (h : a ≤ l.length) :
    (sliceFrom l a : Res ε _) = .ok (l.drop a) := by
  simp [sliceFrom, h]

theorem index_ok {ε α} (l : List α) (i : Nat) (h : i < l.length) :
    (index l i : Res ε _) = .ok l[i] := by
  simp [index, h]

theorem index_getD {ε α} (l : List α) (i : Nat) (d : α) (h : i < l.length) :
    (index l i : Res ε _) = .ok (l.getD i d) := by
  rw [index_ok l i h, List.getD_eq_getElem?_getD, List.getElem?_eq_getElem h, Option.getD_some]

theorem slice_ne_panic {ε α} (l : List α) (a b : Nat) (h1 : a ≤ b) (h2 : b ≤ l.length) :
    (slice l a b : Res ε _) ≠ .panic := by
  rw [slice_ok l a b h1 h2]; exact fun h => nomatch h

/-- Only the keystream byte `k` unmasks `a ^^^ k` to `a`. -/
theorem xor_cancel_mid (a k k' : UInt8) (h : (a ^^^ k) ^^^ k' = a) : k' = k := by
  have : ((a ^^^ k) ^^^ k') ^^^ (a ^^^ k') = a ^^^ (a ^^^ k') := by rw [h]
  have e1 : ((a ^^^ k) ^^^ k') ^^^ (a ^^^ k') = k := by
    rw [UInt8.xor_assoc a k k', UInt8.xor_comm k k', ← UInt8.xor_assoc a k' k,
      UInt8.xor_comm (a ^^^ k') k, UInt8.xor_assoc k, UInt8.xor_self, UInt8.xor_zero]
  have e2 : a ^^^ (a ^^^ k') = k' := by
    rw [← UInt8.xor_assoc, UInt8.xor_self, UInt8.zero_xor]
  rw [e1, e2] at this
  exact this.symm

theorem getD_append_right {α} (l₁ l₂ : List α) (i : Nat) (d : α) (h : l₁.length ≤ i) :
    (l₁ ++ l₂).getD i d = l₂.getD (i - l₁.length) d := by
  rw [List.getD_eq_getElem?_getD, List.getD_eq_getElem?_getD, List.getElem?_append_right h]

end Discv5
