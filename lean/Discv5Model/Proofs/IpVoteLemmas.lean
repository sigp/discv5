/-
Lemmas for the IP-vote model (`Model/IpVote.lean`): the rounding-error bounds that give
`thrF64 n ≤ n` for the binary64 mirror; the loop invariant of `filter_stale_find_most_frequent`
(the single pass computes the exact tally, the leader and the best rival, for every visiting
order); and the service side: `pongStep` by its guards and by its outcomes, both address families
through one Boolean parameter, and the invariants along a history (one entry per voter, every entry
backed by a PONG of the history).
Core Lean only.
-/
import Discv5Model.Model.IpVote

namespace Discv5.IpVote

/-- `|x - p| ≤ d / 2` (doubled, to stay in `Nat`) for `x = p + r` with `r ≤ d / 2`. -/
theorem near_lo {p r d x : Nat} (h : p + r = x) (hr : 2 * r ≤ d) :
    2 * p ≤ 2 * x + d ∧ 2 * x ≤ 2 * p + d := by
  subst h
  rw [Nat.mul_add]
  exact ⟨Nat.le_trans (Nat.le_add_right _ _) (Nat.le_add_right _ _), Nat.add_le_add_left hr _⟩

/-- `|x - (p + d)| ≤ d / 2` for `x = p + r` with `d / 2 ≤ r ≤ d`. -/
theorem near_hi {p r d x : Nat} (h : p + r = x) (hr : d ≤ 2 * r) (hm : r ≤ d) :
    2 * (p + d) ≤ 2 * x + d ∧ 2 * x ≤ 2 * (p + d) + d := by
  subst h
  refine ⟨?_, Nat.le_trans (Nat.mul_le_mul_left 2 (Nat.add_le_add_left hm p)) (Nat.le_add_right _ _)⟩
  rw [Nat.mul_add, Nat.mul_add, Nat.two_mul d, Nat.add_assoc]
  exact Nat.add_le_add_left (Nat.add_le_add_right hr d) _

/-- Rounding `x / d` to an integer moves it by at most one half. -/
theorem rne_err (x d : Nat) (hd : 0 < d) :
    2 * (rne x d * d) ≤ 2 * x + d ∧ 2 * x ≤ 2 * (rne x d * d) + d := by
  have h := Nat.div_add_mod' x d
  have hm := Nat.le_of_lt (Nat.mod_lt x hd)
  unfold rne
  simp only []
  by_cases h1 : 2 * (x % d) < d
  · rw [if_pos h1]
    exact near_lo h (Nat.le_of_lt h1)
  · rw [if_neg h1]
    by_cases h2 : d < 2 * (x % d)
    · rw [if_pos h2, Nat.add_mul, Nat.one_mul]
      exact near_hi h (Nat.le_of_lt h2) hm
    · rw [if_neg h2]
      -- a tie: both neighbours are at distance `d / 2`
      by_cases h3 : x / d % 2 = 0
      · rw [if_pos h3]
        exact near_lo h (Nat.le_of_not_lt h2)
      · rw [if_neg h3, Nat.add_mul, Nat.one_mul]
        exact near_hi h (Nat.le_of_not_lt h1) hm

theorem rnd53_small (N : Nat) (h : N < 2 ^ 53) : rnd53 N = N := if_pos h

/-- Rounding to 53 bits has relative error at most `2^-53`. -/
theorem rnd53_err (N : Nat) :
    2 ^ 53 * rnd53 N ≤ (2 ^ 53 + 1) * N ∧ 2 ^ 53 * N ≤ 2 ^ 53 * rnd53 N + N := by
  unfold rnd53
  by_cases h : N < 2 ^ 53
  · rw [if_pos h]
    exact ⟨Nat.mul_le_mul_right N (Nat.le_succ _), Nat.le_add_right _ _⟩
  · rw [if_neg h]
    simp only []
    have hN : N ≠ 0 := fun h0 => h (h0 ▸ Nat.two_pow_pos 53)
    have h53 : 53 ≤ Nat.log2 N := (Nat.le_log2 hN).2 (Nat.le_of_not_lt h)
    -- the rounding unit `2^(log2 N - 52)` is at most `N / 2^52`
    have hlog := Nat.log2_self_le hN
    rw [← Nat.add_sub_cancel' (Nat.le_trans (by decide : 52 ≤ 53) h53), Nat.pow_add] at hlog
    have he := rne_err N _ (Nat.two_pow_pos (Nat.log2 N - 52))
    omega

/-- If `R` is `F * m` and `F` is `n`, each rounded up by at most the factor `B / A`, and
`m / D ≤ (A / B)^2`, then `R / D ≤ n`. -/
theorem le_of_rounded_twice {A B R F m n D : Nat} (hA : 0 < A) (h1 : A * R ≤ B * (F * m))
    (h2 : A * F ≤ B * n) (hc : B * (B * m) ≤ A * (A * D)) : R ≤ n * D := by
  apply Nat.le_of_mul_le_mul_left _ hA
  apply Nat.le_of_mul_le_mul_left _ hA
  calc A * (A * R) ≤ A * (B * (F * m)) := Nat.mul_le_mul_left _ h1
    _ = B * (A * F * m) := by rw [Nat.mul_left_comm, Nat.mul_assoc]
    _ ≤ B * (B * n * m) := Nat.mul_le_mul_left _ (Nat.mul_le_mul_right _ h2)
    _ = n * (B * (B * m)) := by rw [Nat.mul_assoc B n, Nat.mul_left_comm B n, Nat.mul_left_comm B n]
    _ ≤ n * (A * (A * D)) := Nat.mul_le_mul_left _ hc
    _ = A * (A * (n * D)) := by rw [Nat.mul_left_comm n A, Nat.mul_left_comm n A]

/-- `R / D` rounded half up is at most `n` when `R / D` is. -/
theorem half_up_le {R n D : Nat} (hD : 0 < D) (h : R ≤ n * D) : (2 * R + D) / (2 * D) ≤ n := by
  apply Nat.le_of_lt_succ
  rw [Nat.div_lt_iff_lt_mul (Nat.mul_pos (by decide) hD), Nat.succ_mul n, Nat.mul_left_comm n]
  exact Nat.add_lt_add_of_le_of_lt (Nat.mul_le_mul_left 2 h) ((Nat.lt_mul_iff_one_lt_left hD).2 (by decide))

/-- The threshold never exceeds its argument whenever `rnd53` rounds up by at most the factor
`B / A` and the binary64 factor `c` is at most `(A / B)^2` (for 53 bits `2^106 / (2^53+1)^2`, just
below one): two roundings cannot lift the product above `n`. -/
theorem thrWith_le {A B : Nat} (hA : 0 < A) (herr : ∀ N, A * rnd53 N ≤ B * N) (c : Nat × Nat)
    (hc : B * (B * c.1) ≤ A * (A * 2 ^ c.2)) (n : Nat) : thrWith c n ≤ n := by
  unfold thrWith
  rw [Nat.pow_succ, Nat.mul_comm _ 2]
  exact half_up_le (Nat.two_pow_pos _) (le_of_rounded_twice hA (herr _) (herr n) hc)

theorem thrF64_le (n : Nat) : thrF64 n ≤ n :=
  thrWith_le (Nat.two_pow_pos 53) (fun N => (rnd53_err N).1) marginC (by decide) n

/-- With the binary64 constant of `1.0 - 0.3` the threshold is 70 % of `n` rounded to an integer
at distance at most one half.  Below 2^49: the constant (`0.7 - 0.8 / 2^54`) and the rounding of the
product put the result off `0.7 · n` by about `n · 2.2 / 2^54` at most, which has to stay under the
tenth that an inequality between integers in tenths absorbs. -/
theorem thrWith_seventy (n : Nat) (h : n < 2 ^ 49) :
    7 * n ≤ 10 * thrWith (12610078956637388, 54) n + 5 ∧
    10 * thrWith (12610078956637388, 54) n ≤ 7 * n + 5 := by
  unfold thrWith
  simp only []
  rw [rnd53_small n (Nat.lt_of_lt_of_le h (by decide))]
  have he := rnd53_err (n * 12610078956637388)
  omega

variable {α : Type} [DecidableEq α]

theorem counterGet_set (c : List (α × Nat)) (a : α) (n : Nat) (b : α) :
    counterGet (counterSet c a n) b = if b = a then n else counterGet c b := by
  induction c with
  | nil => exact ite_congr (propext eq_comm) (fun _ => rfl) (fun _ => rfl)
  | cons x rest ih =>
    obtain ⟨x1, x2⟩ := x
    simp only [counterSet]
    by_cases hx : x1 = a
    · rw [if_pos hx]
      simp only [counterGet, hx]
      by_cases hb : b = a
      · rw [if_pos hb, if_pos hb.symm]
      · rw [if_neg hb, if_neg (Ne.symm hb), if_neg (Ne.symm hb)]
    · rw [if_neg hx]
      simp only [counterGet, ih]
      by_cases hb : x1 = b
      · rw [if_pos hb, if_pos hb, if_neg (fun h => hx (hb.trans h))]
      · rw [if_neg hb, if_neg hb]

/-- The tally `f` after one more vote for `v`. -/
def bump (f : α → Nat) (v : α) : α → Nat := fun b => if b = v then f v + 1 else f b

theorem bump_self (f : α → Nat) (v : α) : bump f v v = f v + 1 := if_pos rfl

theorem bump_ne (f : α → Nat) {v b : α} (h : b ≠ v) : bump f v b = f b := if_neg h

theorem le_bump (f : α → Nat) (v b : α) : f b ≤ bump f v b := by
  unfold bump
  by_cases h : b = v
  · rw [if_pos h, h]
    exact Nat.le_succ _
  · rw [if_neg h]
    exact Nat.le_refl _

theorem bump_le {f : α → Nat} {v b : α} {M : Nat} (hv : f v + 1 ≤ M) (hb : f b ≤ M) :
    bump f v b ≤ M := by
  unfold bump
  by_cases h : b = v
  · rw [if_pos h]
    exact hv
  · rw [if_neg h]
    exact hb

/-- Invariant of the loop of `filter_stale_find_most_frequent` against the exact tally `f`
(`f b` = number of unexpired entries seen so far that vote for `b`) and the list `u` of those
entries: `maxVote` leads with `maxCount` votes and `secondMax` is the best tally among the others
(`0` when there is none). -/
structure ScanOk (f : α → Nat) (u : List (Entry α)) (s : Scan α) : Prop where
  upd : s.updated = u
  cnt : ∀ b, counterGet s.counter b = f b
  le_max : ∀ b, f b ≤ s.maxCount
  max_eq : ∀ m, s.maxVote = some m → f m = s.maxCount
  max_none : s.maxVote = none → s.maxCount = 0
  le_second : ∀ b, s.maxVote ≠ some b → f b ≤ s.secondMax
  second_wit : s.secondMax = 0 ∨ ∃ m b, s.maxVote = some m ∧ b ≠ m ∧ f b = s.secondMax

theorem scanOk_init : ScanOk (fun _ : α => 0) [] ({} : Scan α) :=
  ⟨rfl, fun _ => rfl, fun _ => Nat.le_refl _, nofun, fun _ => rfl,
   fun _ _ => Nat.le_refl _, Or.inl rfl⟩

theorem ScanOk.congr {f g : α → Nat} {u w : List (Entry α)} {s : Scan α} (h : ∀ b, f b = g b)
    (hu : u = w) (hs : ScanOk f u s) : ScanOk g w s := by
  have : f = g := funext h
  subst this hu; exact hs

theorem scanStep_stale (now : Nat) (s : Scan α) (e : Entry α) (h : e.expiry ≤ now) :
    scanStep now s e = s := by
  unfold scanStep; rw [if_pos h]

theorem scanStep_ok (now : Nat) (f : α → Nat) (u : List (Entry α)) (s : Scan α) (e : Entry α)
    (hs : ScanOk f u s) (hlive : now < e.expiry) :
    ScanOk (bump f e.vote) (u ++ [e]) (scanStep now s e) := by
  obtain ⟨upd, ctr, mc, sm, mv⟩ := s
  obtain ⟨hupd, hcnt, hle, hmax, hnone, hsec, hwit⟩ := hs
  simp only at hupd hcnt hle hmax hnone hsec hwit
  unfold scanStep
  rw [if_neg (Nat.not_le_of_lt hlive)]
  simp only []
  rw [hcnt, hupd]
  generalize e.vote = v
  have hc' : ∀ b, counterGet (counterSet ctr v (f v + 1)) b = bump f v b := fun b => by
    rw [counterGet_set, hcnt]
    rfl
  by_cases hA : mc < f v + 1
  · -- `v` takes the lead; the leader so far, if there is one other than `v`, is now the best rival
    rw [if_pos hA]
    refine ⟨rfl, hc', fun b => bump_le (Nat.le_refl _) (Nat.le_trans (hle b) (Nat.le_of_lt hA)), ?_,
      nofun, ?_, ?_⟩
    · intro m hm
      cases hm
      exact bump_self f v
    · intro b hb
      have hbv : b ≠ v := fun h => hb (by rw [h])
      simp only []
      rw [bump_ne f hbv]
      by_cases hc : mv.isSome ∧ mv ≠ some v
      · rw [if_pos hc]
        exact hle b
      · rw [if_neg hc]
        refine hsec b (fun h => hc ?_)
        rw [h]
        exact ⟨rfl, fun h' => hb h'.symm⟩
    · simp only []
      by_cases hc : mv.isSome ∧ mv ≠ some v
      · rw [if_pos hc]
        obtain ⟨m, hm⟩ := Option.isSome_iff_exists.1 hc.1
        have hmv : m ≠ v := fun h => hc.2 (by rw [hm, h])
        right
        exact ⟨v, m, rfl, hmv, (bump_ne f hmv).trans (hmax m hm)⟩
      · rw [if_neg hc]
        rcases hwit with h0 | ⟨m, b, hm, hb, hfb⟩
        · exact Or.inl h0
        · have hmv : m = v := Decidable.byContradiction fun hne =>
            hc ⟨hm ▸ rfl, hm ▸ fun h => hne (Option.some.inj h)⟩
          subst hmv
          right
          exact ⟨m, b, rfl, hb, (bump_ne f hb).trans hfb⟩
  · -- the leader stays, it is some `m ≠ v`, and the best rival's tally becomes `max sm (f v + 1)`
    rw [if_neg hA]
    have hvm : f v + 1 ≤ mc := Nat.le_of_not_lt hA
    cases mv with
    | none => exact absurd (hnone rfl ▸ hvm) (Nat.not_succ_le_zero _)
    | some m =>
      have hmv : m ≠ v := fun h =>
        absurd hvm (by rw [← hmax m rfl, h]; exact Nat.not_succ_le_self _)
      have key : ∀ sm', sm ≤ sm' → f v + 1 ≤ sm' → sm' = sm ∨ sm' = f v + 1 →
          ScanOk (bump f v) (u ++ [e]) ⟨u ++ [e], counterSet ctr v (f v + 1), mc, sm', some m⟩ := by
        intro sm' h1 h2 h3
        have hsec' : ∀ b, some m ≠ some b → bump f v b ≤ sm' := fun b hb =>
          bump_le h2 (Nat.le_trans (hsec b hb) h1)
        refine ⟨rfl, hc', fun b => bump_le hvm (hle b), ?_, nofun, hsec', ?_⟩
        · intro m' hm'
          cases hm'
          rw [bump_ne f hmv]
          exact hmax m rfl
        · rcases h3 with h3 | h3
          · rcases hwit with h0 | ⟨m', b, hm', hb, hfb⟩
            · rw [h3, h0] at h2
              exact absurd h2 (Nat.not_succ_le_zero _)
            · cases hm'
              right
              refine ⟨m, b, rfl, hb, Nat.le_antisymm (hsec' b fun h => hb (Option.some.inj h).symm) ?_⟩
              rw [h3, ← hfb]
              exact le_bump f v b
          · right
            exact ⟨m, v, rfl, fun h => hmv h.symm, (bump_self f v).trans h3.symm⟩
      by_cases hB : sm < f v + 1 ∧ some v ≠ some m
      · rw [if_pos hB]
        exact key _ (Nat.le_of_lt hB.1) (Nat.le_refl _) (Or.inr rfl)
      · rw [if_neg hB]
        exact key _ (Nat.le_refl _)
          (Nat.le_of_not_lt fun h => hB ⟨h, fun h' => hmv (Option.some.inj h').symm⟩) (Or.inl rfl)

theorem countOf_nil (now : Nat) (a : α) : countOf now ([] : List (Entry α)) a = 0 := rfl

theorem countOf_cons_stale (now : Nat) (e : Entry α) (l : List (Entry α)) (a : α)
    (h : e.expiry ≤ now) : countOf now (e :: l) a = countOf now l a := by
  unfold countOf
  rw [List.filter_cons_of_neg]
  rw [decide_eq_false (Nat.not_lt_of_le h)]
  exact Bool.false_ne_true

theorem countOf_cons_live (now : Nat) (e : Entry α) (l : List (Entry α)) (a : α)
    (h : now < e.expiry) :
    countOf now (e :: l) a = (if a = e.vote then 1 else 0) + countOf now l a := by
  unfold countOf
  by_cases ha : a = e.vote
  · rw [if_pos ha, List.filter_cons_of_pos, List.length_cons, Nat.add_comm]
    rw [decide_eq_true h, decide_eq_true ha.symm]
    rfl
  · rw [if_neg ha, List.filter_cons_of_neg, Nat.zero_add]
    rw [decide_eq_true h, Bool.true_and]
    exact mt of_decide_eq_true fun h' => ha h'.symm

theorem scan_fold (now : Nat) (l : List (Entry α)) :
    ∀ (f : α → Nat) (u : List (Entry α)) (s : Scan α), ScanOk f u s →
      ScanOk (fun b => f b + countOf now l b) (u ++ l.filter (fun e => decide (now < e.expiry)))
        (l.foldl (scanStep now) s) := by
  induction l with
  | nil =>
    intro f u s hs
    exact hs.congr (fun b => rfl) (List.append_nil u).symm
  | cons e l ih =>
    intro f u s hs
    rw [List.foldl_cons]
    by_cases hst : e.expiry ≤ now
    · rw [scanStep_stale now s e hst, List.filter_cons_of_neg (by exact mt of_decide_eq_true (Nat.not_lt_of_le hst))]
      exact (ih f u s hs).congr (fun b => by rw [countOf_cons_stale now e l b hst]) rfl
    · have hlive : now < e.expiry := Nat.lt_of_not_le hst
      rw [List.filter_cons_of_pos (by exact decide_eq_true hlive)]
      refine (ih _ _ _ (scanStep_ok now f u s e hs hlive)).congr (fun b => ?_) (List.append_cons u e _).symm
      rw [countOf_cons_live now e l b hlive]
      unfold bump
      by_cases hb : b = e.vote
      · rw [if_pos hb, if_pos hb, hb, Nat.add_assoc]
      · rw [if_neg hb, if_neg hb, Nat.zero_add]

/-- The loop computes the exact tally and keeps exactly the unexpired entries. -/
theorem scan_final (now : Nat) (l : List (Entry α)) :
    ScanOk (countOf now l) (l.filter (fun e => decide (now < e.expiry))) (l.foldl (scanStep now) {}) :=
  (scan_fold now l _ _ _ scanOk_init).congr (fun _ => Nat.zero_add _) (List.nil_append _)

theorem mostFrequent_updated (thr : Nat → Nat) (minimum now : Nat) (l : List (Entry α)) :
    (mostFrequent thr minimum now l).1 = l.filter (fun e => decide (now < e.expiry)) :=
  (scan_final now l).upd

omit [DecidableEq α] in
theorem scanResult_eq_some (thr : Nat → Nat) (minimum : Nat) (s : Scan α) (a : α) :
    scanResult thr minimum s = some a ↔
      minimum ≤ s.maxCount ∧ s.secondMax < thr s.maxCount ∧ s.maxVote = some a := by
  unfold scanResult
  simp only []
  by_cases h1 : minimum ≤ s.maxCount
  · rw [if_pos h1]
    by_cases h2 : thr s.maxCount ≤ s.secondMax
    · rw [if_pos h2]
      exact ⟨nofun, fun h => absurd h2 (Nat.not_le_of_lt h.2.1)⟩
    · rw [if_neg h2]
      exact ⟨fun h => ⟨h1, Nat.lt_of_not_le h2, h⟩, fun h => h.2.2⟩
  · rw [if_neg h1]
    exact ⟨nofun, fun h => absurd h.1 h1⟩

/-- Soundness half of the decision (needs nothing about `thr`). -/
theorem scanResult_sound (thr : Nat → Nat) (minimum : Nat) (f : α → Nat) (u : List (Entry α))
    (s : Scan α) (hs : ScanOk f u s) (a : α) (h : scanResult thr minimum s = some a) :
    ClearMajority thr minimum f a := by
  obtain ⟨h1, h2, hm⟩ := (scanResult_eq_some thr minimum s a).1 h
  rw [← hs.max_eq a hm] at h1 h2
  refine ⟨h1, Nat.lt_of_le_of_lt (Nat.zero_le _) h2, fun b hb => Nat.lt_of_le_of_lt (hs.le_second b ?_) h2⟩
  rw [hm]
  exact fun h' => hb (Option.some.inj h').symm

theorem scanResult_spec (thr : Nat → Nat) (hthr : ∀ n, thr n ≤ n) (minimum : Nat) (f : α → Nat)
    (u : List (Entry α)) (s : Scan α) (hs : ScanOk f u s) (a : α) :
    scanResult thr minimum s = some a ↔ ClearMajority thr minimum f a := by
  refine ⟨scanResult_sound thr minimum f u s hs a, fun ⟨h1, h2, h3⟩ => ?_⟩
  have hbig : thr (f a) ≤ s.maxCount := Nat.le_trans (hthr (f a)) (hs.le_max a)
  -- `a` leads: another leader `m` would have `f m < thr (f a) ≤ f a ≤ f m`
  have hm : s.maxVote = some a := by
    cases hmv : s.maxVote with
    | none =>
      rw [hs.max_none hmv] at hbig
      exact absurd (Nat.lt_of_lt_of_le h2 hbig) (Nat.lt_irrefl 0)
    | some m =>
      by_cases hma : m = a
      · rw [hma]
      · rw [← hs.max_eq m hmv] at hbig
        exact absurd (Nat.lt_of_lt_of_le (h3 m hma) hbig) (Nat.lt_irrefl _)
  have e1 := hs.max_eq a hm
  refine (scanResult_eq_some thr minimum s a).2 ⟨e1 ▸ h1, ?_, hm⟩
  rw [← e1]
  rcases hs.second_wit with h0 | ⟨m', b, hm', hb, hfb⟩
  · rw [h0]
    exact h2
  · rw [hm] at hm'
    cases hm'
    rw [← hfb]
    exact h3 b hb

theorem countOf_perm (now : Nat) {l₁ l₂ : List (Entry α)} (h : l₁.Perm l₂) (a : α) :
    countOf now l₁ a = countOf now l₂ a := by
  unfold countOf
  exact (h.filter _).length_eq

theorem countOf_filter_live (now : Nat) (l : List (Entry α)) (a : α) :
    countOf now (l.filter (fun e => decide (now < e.expiry))) a = countOf now l a := by
  unfold countOf
  rw [List.filter_filter]
  congr 1
  apply List.filter_congr
  intro e _
  by_cases h : now < e.expiry <;> simp [h]

theorem mostFrequent_sound (thr : Nat → Nat) (minimum now : Nat) (l : List (Entry α)) (a : α)
    (h : (mostFrequent thr minimum now l).2 = some a) :
    ClearMajority thr minimum (countOf now l) a :=
  scanResult_sound thr minimum _ _ _ (scan_final now l) a h

theorem mostFrequent_spec (thr : Nat → Nat) (hthr : ∀ n, thr n ≤ n) (minimum now : Nat)
    (l : List (Entry α)) (a : α) :
    (mostFrequent thr minimum now l).2 = some a ↔ ClearMajority thr minimum (countOf now l) a :=
  scanResult_spec thr hthr minimum _ _ _ (scan_final now l) a

omit [DecidableEq α] in
theorem clearMajority_congr {thr : Nat → Nat} {minimum : Nat} {f g : α → Nat} (h : ∀ b, f b = g b)
    (a : α) : ClearMajority thr minimum f a ↔ ClearMajority thr minimum g a := by
  have : f = g := funext h
  subst this; exact Iff.rfl

theorem mostFrequent_sound_perm (thr : Nat → Nat) (minimum now : Nat) {l₁ l₂ : List (Entry α)}
    (h : l₁.Perm l₂) (a : α) (ha : (mostFrequent thr minimum now l₁).2 = some a) :
    ClearMajority thr minimum (countOf now l₂) a :=
  (clearMajority_congr (countOf_perm now h) a).1 (mostFrequent_sound thr minimum now l₁ a ha)

theorem mostFrequent_spec_perm (thr : Nat → Nat) (hthr : ∀ n, thr n ≤ n) (minimum now : Nat)
    {l₁ l₂ : List (Entry α)} (h : l₁.Perm l₂) (a : α) :
    (mostFrequent thr minimum now l₁).2 = some a ↔ ClearMajority thr minimum (countOf now l₂) a :=
  (mostFrequent_spec thr hthr minimum now l₁ a).trans (clearMajority_congr (countOf_perm now h) a)

theorem mostFrequent_updated_perm (thr : Nat → Nat) (minimum now : Nat) {l₁ l₂ : List (Entry α)}
    (h : l₁.Perm l₂) :
    ((mostFrequent thr minimum now l₁).1).Perm (l₂.filter (fun e => decide (now < e.expiry))) := by
  rw [mostFrequent_updated]
  exact h.filter _

theorem mostFrequent_perm (thr : Nat → Nat) (hthr : ∀ n, thr n ≤ n) (minimum now : Nat)
    {l₁ l₂ : List (Entry α)} (h : l₁.Perm l₂) :
    (mostFrequent thr minimum now l₁).2 = (mostFrequent thr minimum now l₂).2 ∧
    ((mostFrequent thr minimum now l₁).1).Perm (mostFrequent thr minimum now l₂).1 := by
  constructor
  · exact Option.ext fun a =>
      (mostFrequent_spec_perm thr hthr minimum now h a).trans (mostFrequent_spec thr hthr minimum now l₂ a).symm
  · rw [mostFrequent_updated thr minimum now l₂]
    exact mostFrequent_updated_perm thr minimum now h

section
omit [DecidableEq α]

theorem keysNodup_filter (p : Entry α → Bool) {l : List (Entry α)} (h : KeysNodup l) :
    KeysNodup (l.filter p) := by
  unfold KeysNodup at *
  exact (List.filter_sublist.map _).nodup h

theorem keysNodup_perm {l₁ l₂ : List (Entry α)} (hp : l₁.Perm l₂) (h : KeysNodup l₂) :
    KeysNodup l₁ := by
  unfold KeysNodup at *
  exact (hp.map _).symm.nodup h

theorem keysNodup_mapInsert (l : List (Entry α)) (k : Nat) (a : α) (exp : Nat) (h : KeysNodup l) :
    KeysNodup (mapInsert l k a exp) := by
  unfold mapInsert
  have h1 := keysNodup_filter (fun e => e.voter != k) h
  unfold KeysNodup at *
  rw [List.map_append, List.nodup_append]
  refine ⟨h1, by simp, ?_⟩
  intro x hx y hy
  simp only [List.map_cons, List.map_nil, List.mem_singleton] at hy
  subst hy
  simp only [List.mem_map, List.mem_filter] at hx
  obtain ⟨e, ⟨_, he⟩, rfl⟩ := hx
  simpa using he

end

/-! ## Service side

The two address families are handled together: `f : Bool` names a family (`true` = IPv6, as
`Sock.isV6` does), and `Sock.of`, `IpVote.fam`, `Rec.ip`, `Rec.move` project on it.  A statement
about family `false` (`true`) is, by unfolding, the statement about `v4`/`ip4` (`v6`/`ip6`). -/

def Sock.of (f : Bool) (a : α) : Sock α := bif f then .v6 a else .v4 a

def Sock.addr : Sock α → α
  | .v4 a => a
  | .v6 a => a

def IpVote.fam (v : IpVote α) (f : Bool) : List (Entry α) := bif f then v.v6 else v.v4

def Rec.ip (r : Rec α) (f : Bool) : Option α := bif f then r.ip6 else r.ip4

/-- `set_udp_socket`: the socket of the family is replaced, the sequence number goes up by one. -/
def Rec.move (r : Rec α) (f : Bool) (a : α) : Rec α :=
  bif f then { r with ip6 := some a, seq := r.seq + 1 } else { r with ip4 := some a, seq := r.seq + 1 }

section
omit [DecidableEq α]

theorem Sock.eq_of (s : Sock α) : s = Sock.of s.isV6 s.addr := by
  cases s <;> rfl

theorem Sock.isV6_of (f : Bool) (a : α) : (Sock.of f a).isV6 = f := by
  cases f <;> rfl

theorem Sock.of_inj {f : Bool} {a b : α} (h : Sock.of f a = Sock.of f b) : a = b := by
  cases f
  · exact Sock.v4.inj h
  · exact Sock.v6.inj h

theorem Rec.move_ip (r : Rec α) (f g : Bool) (a : α) :
    (r.move f a).ip g = if g = f then some a else r.ip g := by
  cases f <;> cases g <;> rfl

theorem Rec.move_seq (r : Rec α) (f : Bool) (a : α) : (r.move f a).seq = r.seq + 1 := by
  cases f <;> rfl

theorem insert_fam (v : IpVote α) (now k : Nat) (f : Bool) (a : α) (g : Bool) :
    (v.insert now k (Sock.of f a)).fam g =
      if g = f then mapInsert (v.fam f) k a (now + v.duration) else v.fam g := by
  cases f <;> cases g <;> rfl

theorem insert_minimum (v : IpVote α) (now k : Nat) (s : Sock α) :
    (v.insert now k s).minimum = v.minimum := by
  cases s <;> rfl

theorem clearOld_fam (v : IpVote α) (now : Nat) (f : Bool) :
    (v.clearOld now).fam f = (v.fam f).filter (fun e => now < e.expiry) := by
  cases f <;> rfl

theorem mem_mapInsert {l : List (Entry α)} {k : Nat} {a : α} {exp : Nat} {e : Entry α} :
    e ∈ mapInsert l k a exp ↔ (e ∈ l ∧ e.voter ≠ k) ∨ e = ⟨k, a, exp⟩ := by
  simp [mapInsert]

end

theorem majority_fam (thr : Nat → Nat) (v : IpVote α) (now : Nat)
    (sh4 sh6 : List (Entry α) → List (Entry α)) (f : Bool) :
    (v.majority thr now sh4 sh6).1.fam f =
      ((bif f then sh6 else sh4) (v.fam f)).filter (fun e => decide (now < e.expiry)) := by
  cases f <;> exact mostFrequent_updated thr v.minimum now _

theorem majority_unexpired (thr : Nat → Nat) (v : IpVote α) (now : Nat)
    (sh4 sh6 : List (Entry α) → List (Entry α)) (f : Bool) (e : Entry α)
    (he : e ∈ (v.majority thr now sh4 sh6).1.fam f) : now < e.expiry := by
  rw [majority_fam] at he
  simpa using (List.mem_filter.1 he).2

/-- Every entry of a vote map is backed by a PONG of the history from that voter for that
address (`mk` is the address family of the map). -/
def Backed (mk : α → Sock α) (hist : List (Pong α)) (l : List (Entry α)) : Prop :=
  ∀ e, e ∈ l → ∃ q, q ∈ hist ∧ q.voter = e.voter ∧ q.sock = mk e.vote

/-- Along a history: one entry per voter in each table (`k4`, `k6`; `VOk.k`), every entry backed by
a PONG of the history (`b4`, `b6`; `VOk.b`), the configured minimum unchanged. -/
structure VOk (minimum : Nat) (hist : List (Pong α)) (v : IpVote α) : Prop where
  k4 : KeysNodup v.v4
  k6 : KeysNodup v.v6
  b4 : Backed Sock.v4 hist v.v4
  b6 : Backed Sock.v6 hist v.v6
  hmin : v.minimum = minimum

/-- `VOk` of the vote table, when there is one (ENR updates on). -/
def SOk (minimum : Nat) (hist : List (Pong α)) (s : Svc α) : Prop :=
  ∀ v, s.votes = some v → VOk minimum hist v

section
omit [DecidableEq α]

theorem VOk.k {minimum : Nat} {hist : List (Pong α)} {v : IpVote α} (h : VOk minimum hist v)
    (f : Bool) : KeysNodup (v.fam f) := by
  cases f
  · exact h.k4
  · exact h.k6

theorem VOk.b {minimum : Nat} {hist : List (Pong α)} {v : IpVote α} (h : VOk minimum hist v)
    (f : Bool) : Backed (Sock.of f) hist (v.fam f) := by
  cases f
  · exact h.b4
  · exact h.b6

theorem VOk.of_fam {minimum : Nat} {hist : List (Pong α)} {v : IpVote α}
    (hk : ∀ f, KeysNodup (v.fam f)) (hb : ∀ f, Backed (Sock.of f) hist (v.fam f))
    (hm : v.minimum = minimum) : VOk minimum hist v :=
  ⟨hk false, hk true, hb false, hb true, hm⟩

theorem Backed.sub {mk : α → Sock α} {hist : List (Pong α)} {l l' : List (Entry α)}
    (hsub : ∀ e, e ∈ l' → e ∈ l) (h : Backed mk hist l) : Backed mk hist l' :=
  fun e he => h e (hsub e he)

theorem Backed.mono {mk : α → Sock α} {hist hist' : List (Pong α)} {l : List (Entry α)}
    (hsub : ∀ q, q ∈ hist → q ∈ hist') (h : Backed mk hist l) : Backed mk hist' l :=
  fun e he => let ⟨q, hq, h1, h2⟩ := h e he; ⟨q, hsub q hq, h1, h2⟩

theorem VOk.clearOld {minimum : Nat} {hist : List (Pong α)} {v : IpVote α} (h : VOk minimum hist v)
    (now : Nat) : VOk minimum hist (v.clearOld now) :=
  VOk.of_fam (fun f => by rw [clearOld_fam]; exact keysNodup_filter _ (h.k f))
    (fun f => by rw [clearOld_fam]; exact (h.b f).sub (fun _ he => (List.mem_filter.1 he).1)) h.hmin

theorem backed_mapInsert {mk : α → Sock α} {hist : List (Pong α)} {l : List (Entry α)}
    (h : Backed mk hist l) (p : Pong α) (a : α) (exp : Nat) (hp : p.sock = mk a) :
    Backed mk (hist ++ [p]) (mapInsert l p.voter a exp) := by
  intro e he
  rcases mem_mapInsert.1 he with ⟨he, _⟩ | rfl
  · obtain ⟨q, hq, h1, h2⟩ := h e he
    exact ⟨q, List.mem_append.2 (Or.inl hq), h1, h2⟩
  · exact ⟨p, List.mem_append.2 (Or.inr (List.mem_singleton.2 rfl)), rfl, hp⟩

end

set_option linter.unusedSectionVars false in
theorem VOk.insert {minimum : Nat} {hist : List (Pong α)} {v : IpVote α} (h : VOk minimum hist v)
    (p : Pong α) (now : Nat) : VOk minimum (hist ++ [p]) (v.insert now p.voter p.sock) := by
  have hm : ∀ q, q ∈ hist → q ∈ hist ++ [p] := fun q hq => List.mem_append.2 (Or.inl hq)
  have hs := p.sock.eq_of
  rw [hs]
  refine VOk.of_fam (fun g => ?_) (fun g => ?_) ((insert_minimum ..).trans h.hmin) <;>
    rw [insert_fam] <;> split
  · exact keysNodup_mapInsert _ _ _ _ (h.k _)
  · exact h.k g
  · rename_i hg
    rw [hg]
    exact backed_mapInsert (h.b _) p _ _ hs
  · exact (h.b g).mono hm

theorem VOk.majority {minimum : Nat} {hist : List (Pong α)} {v : IpVote α} (h : VOk minimum hist v)
    (thr : Nat → Nat) (now : Nat) {sh4 sh6 : List (Entry α) → List (Entry α)}
    (h4 : IsShuffle sh4) (h6 : IsShuffle sh6) :
    VOk minimum hist (v.majority thr now sh4 sh6).1 := by
  have hsh : ∀ f : Bool, IsShuffle (bif f then sh6 else sh4) := fun f => by cases f <;> assumption
  refine VOk.of_fam (fun f => ?_) (fun f => ?_) h.hmin <;> rw [majority_fam]
  · exact keysNodup_filter _ (keysNodup_perm (hsh f _) (h.k f))
  · exact (h.b f).sub fun e he => (hsh f _).mem_iff.1 (List.mem_filter.1 he).1

/-- What `majority` returned for a family is a clear majority of the votes it leaves in that map. -/
theorem majority_post (thr : Nat → Nat) (v : IpVote α) (now : Nat)
    (sh4 sh6 : List (Entry α) → List (Entry α)) (f : Bool) (a : α)
    (h : (bif f then (v.majority thr now sh4 sh6).2.2 else (v.majority thr now sh4 sh6).2.1) = some a) :
    ClearMajority thr (v.majority thr now sh4 sh6).1.minimum
      (countOf now ((v.majority thr now sh4 sh6).1.fam f)) a := by
  rw [majority_fam]
  refine (clearMajority_congr (fun b => countOf_filter_live now _ b) a).2 ?_
  cases f <;> exact mostFrequent_sound _ _ _ _ a h

/-- `updateRecord` for a vote of family `f`, in terms of the family's majority and socket. -/
theorem updateRecord_eq (s : Svc α) (f : Bool) (x : α) (m4 m6 : Option α) (setOk : Bool) :
    updateRecord s (Sock.of f x) m4 m6 setOk =
      match (bif f then m6 else m4).bind (fun m => if some m ≠ s.enr.ip f then some m else none) with
      | some a =>
        if setOk then ({ s with enr := s.enr.move f a }, [Ev.socketUpdated (Sock.of f a)]) else (s, [])
      | none => (s, []) := by
  cases f <;> rfl

/-- The two outcomes of the record update: nothing, or the family's socket moves to the
family's majority, which differs from the old socket. -/
theorem updateRecord_cases (s : Svc α) (f : Bool) (x : α) (m4 m6 : Option α) (setOk : Bool) :
    updateRecord s (Sock.of f x) m4 m6 setOk = (s, []) ∨
    ∃ a, (bif f then m6 else m4) = some a ∧ s.enr.ip f ≠ some a ∧
      updateRecord s (Sock.of f x) m4 m6 setOk =
        ({ s with enr := s.enr.move f a }, [Ev.socketUpdated (Sock.of f a)]) := by
  rw [updateRecord_eq]
  cases hm : (bif f then m6 else m4) with
  | none => exact Or.inl rfl
  | some a =>
    by_cases heq : some a = s.enr.ip f
    · left; rw [← heq]; simp
    · cases setOk with
      | false => left; simp [heq]
      | true => right; exact ⟨a, rfl, fun h => heq h.symm, by simp [heq]⟩

section
omit [DecidableEq α]

theorem requireMore_fst (s : Svc α) (now : Nat) (b : Bool) :
    (requireMore s now b).1 = s ∨
    ∃ v, s.votes = some v ∧ (requireMore s now b).1 = { s with votes := some (v.clearOld now) } := by
  unfold requireMore
  split
  · exact Or.inl rfl
  · split
    · exact Or.inl rfl
    · rename_i v hv
      exact Or.inr ⟨v, hv, rfl⟩

theorem requireMore_enr (s : Svc α) (now : Nat) (b : Bool) : (requireMore s now b).1.enr = s.enr := by
  rcases requireMore_fst s now b with h | ⟨_, _, h⟩ <;> rw [h]

theorem requireMore_keeps (s : Svc α) (now : Nat) (b : Bool) :
    (requireMore s now b).1.dual = s.dual ∧ (requireMore s now b).1.votes.isSome = s.votes.isSome := by
  rcases requireMore_fst s now b with h | ⟨_, hv, h⟩ <;> rw [h]
  · exact ⟨rfl, rfl⟩
  · rw [hv]
    exact ⟨rfl, rfl⟩

/-- A property of the vote table that survives pruning survives `require_more_ip_votes`. -/
theorem requireMore_votes {P : IpVote α → Prop} {s : Svc α} (now : Nat) (b : Bool)
    (h : ∀ v, s.votes = some v → P v) (hclear : ∀ v, P v → P (v.clearOld now)) :
    ∀ v, (requireMore s now b).1.votes = some v → P v := by
  rcases requireMore_fst s now b with h1 | ⟨v, hv, h1⟩ <;> rw [h1]
  · exact h
  · intro v' hv'
    cases hv'
    exact hclear v (h v hv)

theorem requireMore_ok {minimum : Nat} {hist : List (Pong α)} {s : Svc α} (h : SOk minimum hist s)
    (now : Nat) (b : Bool) : SOk minimum hist (requireMore s now b).1 :=
  requireMore_votes now b h (fun _ hv => hv.clearOld now)

theorem SOk.mono {minimum : Nat} {hist hist' : List (Pong α)} {s : Svc α}
    (hsub : ∀ q, q ∈ hist → q ∈ hist') (h : SOk minimum hist s) : SOk minimum hist' s :=
  fun v hv => let ⟨a, b, c, d, e⟩ := h v hv; ⟨a, b, c.mono hsub, d.mono hsub, e⟩

end

/-- `countVote` with everything it does: the table `v'` is the one `majority()` leaves after the
insertion; the record is kept, or the socket of the vote's family moves to that family's clear
majority. -/
theorem countVote_cases (thr : Nat → Nat) (s : Svc α) (v : IpVote α) (p : Pong α) :
    ∃ v', v' = ((v.insert p.tIns p.voter p.sock).majority thr p.tMaj p.sh4 p.sh6).1 ∧
      (countVote thr s v p).1.votes = some v' ∧ (countVote thr s v p).1.dual = s.dual ∧
      (((countVote thr s v p).1.enr = s.enr ∧ (countVote thr s v p).2 = []) ∨
       ∃ a, ClearMajority thr v'.minimum (countOf p.tMaj (v'.fam p.sock.isV6)) a ∧
          s.enr.ip p.sock.isV6 ≠ some a ∧
          (countVote thr s v p).1.enr = s.enr.move p.sock.isV6 a ∧
          (countVote thr s v p).2 = [Ev.socketUpdated (Sock.of p.sock.isV6 a)]) := by
  refine ⟨_, rfl, ?_⟩
  unfold countVote
  simp only []
  generalize v.insert p.tIns p.voter p.sock = v1
  rw [p.sock.eq_of, Sock.isV6_of]
  rcases updateRecord_cases { s with votes := some (v1.majority thr p.tMaj p.sh4 p.sh6).1 }
      p.sock.isV6 p.sock.addr (v1.majority thr p.tMaj p.sh4 p.sh6).2.1
      (v1.majority thr p.tMaj p.sh4 p.sh6).2.2 p.setOk with h | ⟨a, hm, hne, h⟩ <;> rw [h]
  · exact ⟨rfl, rfl, Or.inl ⟨rfl, rfl⟩⟩
  · exact ⟨rfl, rfl, Or.inr ⟨a, majority_post thr v1 p.tMaj p.sh4 p.sh6 _ a hm, hne, rfl, rfl⟩⟩

/-- `handle_ip_vote_from_pong` by its guards.  The vote is counted iff the connectivity state
admits it, there is a vote table, and the voter is a connected outgoing peer or more votes of its
family are needed; a refused vote leaves the state alone, except that the pruning done by
`require_more_ip_votes` is kept when that call was reached. -/
theorem pongStep_arms (thr : Nat → Nat) (s : Svc α) (p : Pong α) :
    if p.countable && s.votes.isSome && (p.connOut || (requireMore s p.tClear p.sock.isV6).2) then
      ∃ v, (requireMore s p.tClear p.sock.isV6).1.votes = some v ∧
        pongStep thr s p = countVote thr (requireMore s p.tClear p.sock.isV6).1 v p
    else
      pongStep thr s p = (s, []) ∨ pongStep thr s p = ((requireMore s p.tClear p.sock.isV6).1, []) := by
  unfold pongStep
  cases p.countable with
  | false => exact Or.inl rfl
  | true =>
    cases hv : s.votes with
    | none => exact Or.inl rfl
    | some v0 =>
      have hsome := (requireMore_keeps s p.tClear p.sock.isV6).2
      rw [hv] at hsome
      simp only [Bool.not_true, Bool.false_eq_true, if_false, Option.isNone_some, Option.isSome_some,
        Bool.true_and]
      cases (p.connOut || (requireMore s p.tClear p.sock.isV6).2) with
      | false => exact Or.inr rfl
      | true =>
        cases hr : (requireMore s p.tClear p.sock.isV6).1.votes with
        | none => rw [hr] at hsome; cases hsome
        | some v => exact ⟨v, rfl, rfl⟩

/-- The step of PONG `p` moved the record's socket of family `f` to `a`: the vote was counted and
was of that family; `a` is a clear majority (at the clock reading of `majority()`) of the family's
table the step leaves, all of whose entries are unexpired; the record had another socket of that
family before; `seq` grew by one; exactly `SocketUpdated(a)` was emitted. -/
structure Moves (thr : Nat → Nat) (s : Svc α) (p : Pong α) (f : Bool) (a : α) : Prop where
  counted : (p.countable && s.votes.isSome &&
    (p.connOut || (requireMore s p.tClear p.sock.isV6).2)) = true
  fam : p.sock.isV6 = f
  votes : ∃ v', (pongStep thr s p).1.votes = some v' ∧
    ClearMajority thr v'.minimum (countOf p.tMaj (v'.fam f)) a ∧ ∀ en, en ∈ v'.fam f → p.tMaj < en.expiry
  old : s.enr.ip f ≠ some a
  enr : (pongStep thr s p).1.enr = s.enr.move f a
  evs : (pongStep thr s p).2 = [Ev.socketUpdated (Sock.of f a)]

theorem pongStep_cases (thr : Nat → Nat) (s : Svc α) (p : Pong α) :
    ((pongStep thr s p).1.enr = s.enr ∧ (pongStep thr s p).2 = []) ∨
    ∃ f a, Moves thr s p f a := by
  have he := requireMore_enr s p.tClear p.sock.isV6
  have harms := pongStep_arms thr s p
  split at harms
  · rename_i hc
    obtain ⟨v, _, hstep⟩ := harms
    obtain ⟨v', rfl, hvotes, _, h | ⟨a, hcm, hne, henr, hev⟩⟩ :=
      countVote_cases thr (requireMore s p.tClear p.sock.isV6).1 v p
    · left; rw [hstep, ← he]; exact h
    · right
      rw [he] at hne henr
      exact ⟨_, a, hc, rfl, ⟨_, by rw [hstep]; exact hvotes, hcm, majority_unexpired _ _ _ _ _ _⟩, hne,
        by rw [hstep]; exact henr, by rw [hstep]; exact hev⟩
  · left
    rcases harms with h | h <;> rw [h]
    · exact ⟨rfl, rfl⟩
    · exact ⟨he, rfl⟩

/-- A PONG that changes the socket of family `f` moves it to a clear majority `a` (at the clock
reading of `majority()`) of the family's votes the step leaves; the sequence number grows by one
and exactly `SocketUpdated(a)` is emitted.  For any `thr`, any direction of the voter, any
visiting orders. -/
theorem pongStep_changed (thr : Nat → Nat) (s : Svc α) (p : Pong α) (f : Bool)
    (hne : (pongStep thr s p).1.enr.ip f ≠ s.enr.ip f) :
    ∃ a v', (pongStep thr s p).1.enr.ip f = some a ∧ (pongStep thr s p).1.votes = some v' ∧
      v'.minimum ≤ countOf p.tMaj (v'.fam f) a ∧
      (∀ b, b ≠ a → countOf p.tMaj (v'.fam f) b < thr (countOf p.tMaj (v'.fam f) a)) ∧
      (pongStep thr s p).1.enr.seq = s.enr.seq + 1 ∧
      (pongStep thr s p).2 = [Ev.socketUpdated (Sock.of f a)] := by
  rcases pongStep_cases thr s p with ⟨he, _⟩ | ⟨g, a, hm⟩
  · rw [he] at hne; exact absurd rfl hne
  · rw [hm.enr, Rec.move_ip] at hne
    split at hne
    · rename_i hfg
      subst hfg
      obtain ⟨v', hv', hcm, _⟩ := hm.votes
      exact ⟨a, v', by rw [hm.enr, Rec.move_ip, if_pos rfl], hv', hcm.1, hcm.2.2,
        by rw [hm.enr, Rec.move_seq], hm.evs⟩
    · exact absurd rfl hne

theorem pongStep_other (thr : Nat → Nat) (s : Svc α) (p : Pong α) (g : Bool) (h : p.sock.isV6 ≠ g) :
    (pongStep thr s p).1.enr.ip g = s.enr.ip g := by
  rcases pongStep_cases thr s p with ⟨he, _⟩ | ⟨f, a, hm⟩
  · rw [he]
  · rw [hm.enr, Rec.move_ip, if_neg]
    rw [← hm.fam]
    exact fun hg => h hg.symm

theorem pongStep_uncountable (thr : Nat → Nat) (s : Svc α) (p : Pong α) (h : p.countable = false) :
    pongStep thr s p = (s, []) := by
  unfold pongStep
  rw [h]
  rfl

theorem pongStep_keeps (thr : Nat → Nat) (s : Svc α) (p : Pong α) :
    (pongStep thr s p).1.dual = s.dual ∧ (pongStep thr s p).1.votes.isSome = s.votes.isSome := by
  obtain ⟨hd, hs⟩ := requireMore_keeps s p.tClear p.sock.isV6
  have harms := pongStep_arms thr s p
  split at harms
  · rename_i hc
    obtain ⟨v, _, hstep⟩ := harms
    obtain ⟨_, _, h1, h2, _⟩ := countVote_cases thr (requireMore s p.tClear p.sock.isV6).1 v p
    simp only [Bool.and_eq_true] at hc
    rw [hstep, h1, h2, hd, hc.1.2]
    exact ⟨rfl, rfl⟩
  · rcases harms with h | h <;> rw [h]
    · exact ⟨rfl, rfl⟩
    · exact ⟨hd, hs⟩

theorem pongStep_ok {minimum : Nat} {hist : List (Pong α)} {s : Svc α} (h : SOk minimum hist s)
    (thr : Nat → Nat) (p : Pong α) (hp : p.Valid) : SOk minimum (hist ++ [p]) (pongStep thr s p).1 := by
  have hm : ∀ q, q ∈ hist → q ∈ hist ++ [p] := fun _ => List.mem_append_left _
  have h1 := requireMore_ok h p.tClear p.sock.isV6
  have harms := pongStep_arms thr s p
  split at harms
  · obtain ⟨v, hv, hstep⟩ := harms
    obtain ⟨_, rfl, hvotes, _⟩ := countVote_cases thr (requireMore s p.tClear p.sock.isV6).1 v p
    rw [hstep]
    intro v' hv'
    rw [hvotes] at hv'
    cases hv'
    exact ((h1 v hv).insert p p.tIns).majority thr p.tMaj hp.1 hp.2
  · rcases harms with he | he <;> rw [he]
    · exact h.mono hm
    · exact h1.mono hm

/-- With one entry per voter, each backed by a PONG of the history, the tally of `a` is bounded
by any list of peers that contains everyone who ever voted for `a`. -/
theorem countOf_le_voters (mk : α → Sock α)
    (hist : List (Pong α)) (l : List (Entry α)) (hk : KeysNodup l)
    (hb : Backed mk hist l) (a : α) (voters : List Nat)
    (hv : ∀ q, q ∈ hist → q.sock = mk a → q.voter ∈ voters) (now : Nat) :
    countOf now l a ≤ voters.length := by
  unfold countOf
  rw [← List.length_map (f := fun e : Entry α => e.voter)]
  apply List.Nodup.length_le_of_subset
  · unfold KeysNodup at hk
    exact (List.filter_sublist.map _).nodup hk
  · intro x hx
    simp only [List.mem_map, List.mem_filter, Bool.and_eq_true, decide_eq_true_eq] at hx
    obtain ⟨e, ⟨he, _, hea⟩, rfl⟩ := hx
    obtain ⟨q, hq, h1, h2⟩ := hb e he
    rw [← h1]
    exact hv q hq (by rw [h2, hea])

omit [DecidableEq α] in
theorem fresh_ok {s : Svc α} {minimum : Nat} (h : s.Fresh minimum) : SOk minimum [] s := by
  intro v hv
  obtain ⟨h4, h6, hm⟩ := h v hv
  refine ⟨?_, ?_, ?_, ?_, hm⟩
  · rw [h4]; exact List.nodup_nil
  · rw [h6]; exact List.nodup_nil
  · rw [h4]; intro e he; cases he
  · rw [h6]; intro e he; cases he

theorem runPongs_nil (thr : Nat → Nat) (s : Svc α) : runPongs thr s [] = (s, []) := rfl

theorem runPongs_cons (thr : Nat → Nat) (s : Svc α) (p : Pong α) (ps : List (Pong α)) :
    runPongs thr s (p :: ps) =
      ((runPongs thr (pongStep thr s p).1 ps).1, (pongStep thr s p).2 ++ (runPongs thr (pongStep thr s p).1 ps).2) := rfl

/-- Induction along a history: a relation between the PONGs seen, the state and the events
emitted so far that every step (on a PONG satisfying `V`) extends holds at the end. -/
theorem runPongs_induct (thr : Nat → Nat) {V : Pong α → Prop}
    {I : List (Pong α) → Svc α → List (Ev α) → Prop}
    (step : ∀ hist s evs p, V p → I hist s evs →
      I (hist ++ [p]) (pongStep thr s p).1 (evs ++ (pongStep thr s p).2)) (ps : List (Pong α)) :
    ∀ hist s evs, (∀ q, q ∈ ps → V q) → I hist s evs →
      I (hist ++ ps) (runPongs thr s ps).1 (evs ++ (runPongs thr s ps).2) := by
  induction ps with
  | nil => intro hist s evs _ h; simpa [runPongs_nil] using h
  | cons p ps ih =>
    intro hist s evs hv h
    have := ih _ _ _ (fun q hq => hv q (List.mem_cons_of_mem _ hq))
      (step hist s evs p (hv p (List.mem_cons_self ..)) h)
    rw [runPongs_cons]
    simpa using this

theorem runPongs_ok (thr : Nat → Nat) (minimum : Nat) (ps : List (Pong α)) (hist : List (Pong α))
    (s : Svc α) (h : SOk minimum hist s) (hv : ∀ q, q ∈ ps → q.Valid) :
    SOk minimum (hist ++ ps) (runPongs thr s ps).1 :=
  runPongs_induct thr (I := fun hist s _ => SOk minimum hist s)
    (fun _ _ _ p hp h => pongStep_ok h thr p hp) ps hist s [] hv h

/-- One step cannot move the socket of family `f` to an address that fewer than `minimum` peers
voted for in the whole history (including this PONG). -/
theorem pongStep_few_liars (thr : Nat → Nat) (minimum : Nat) (hist : List (Pong α)) (s : Svc α)
    (h : SOk minimum hist s) (p : Pong α) (hp : p.Valid) (f : Bool) (a : α) (liars : List Nat)
    (hl : ∀ q, q ∈ hist ++ [p] → q.sock = Sock.of f a → q.voter ∈ liars)
    (hfew : liars.length < minimum) (hnew : (pongStep thr s p).1.enr.ip f = some a) :
    s.enr.ip f = some a := by
  by_cases hne : (pongStep thr s p).1.enr.ip f = s.enr.ip f
  · rw [← hne]; exact hnew
  · obtain ⟨b, v', hb, hv', hmin, _⟩ := pongStep_changed thr s p f hne
    rw [hnew] at hb
    cases hb
    have hv := pongStep_ok h thr p hp v' hv'
    have := countOf_le_voters (Sock.of f) _ _ (hv.k f) (hv.b f) a liars hl p.tMaj
    rw [hv.hmin] at hmin
    omega

theorem runPongs_few_liars (thr : Nat → Nat) (minimum : Nat) (f : Bool) (a : α) (liars : List Nat)
    (hfew : liars.length < minimum) (ps : List (Pong α)) (hist : List (Pong α)) (s : Svc α)
    (h : SOk minimum hist s) (hv : ∀ q, q ∈ ps → q.Valid)
    (hl : ∀ q, q ∈ hist ++ ps → q.sock = Sock.of f a → q.voter ∈ liars)
    (hnew : (runPongs thr s ps).1.enr.ip f = some a) : s.enr.ip f = some a := by
  have := runPongs_induct thr (V := Pong.Valid)
    (I := fun hist' s' _ => (∀ q, q ∈ hist' → q.sock = Sock.of f a → q.voter ∈ liars) →
      SOk minimum hist' s' ∧ (s'.enr.ip f = some a → s.enr.ip f = some a))
    (fun hist' s' _ p hp ih hl' => by
      obtain ⟨hok, hback⟩ := ih (fun q hq => hl' q (List.mem_append_left _ hq))
      exact ⟨pongStep_ok hok thr p hp, fun hn =>
        hback (pongStep_few_liars thr minimum hist' s' hok p hp f a liars hl' hfew hn)⟩)
    ps hist s [] hv (fun _ => ⟨h, id⟩)
  exact (this hl).2 hnew

theorem runPongs_seq (thr : Nat → Nat) (ps : List (Pong α)) (s : Svc α) :
    (runPongs thr s ps).1.enr.seq = s.enr.seq + (runPongs thr s ps).2.length := by
  have := runPongs_induct thr (V := fun _ => True)
    (I := fun _ s' evs => s'.enr.seq = s.enr.seq + evs.length)
    (fun _ s' evs p _ ih => by
      rcases pongStep_cases thr s' p with ⟨he, hev⟩ | ⟨f, a, hm⟩
      · rw [he, hev, List.append_nil]; exact ih
      · rw [hm.enr, hm.evs, Rec.move_seq, ih, List.length_append]; rfl)
    ps [] s [] (fun _ _ => trivial) rfl
  simpa using this

end Discv5.IpVote
