/-
The handler's session list (`HState.sessions` under `sessGetMut`, `sessPut`, `sessInsert`, `sessRemove`
and `removeExpiredSessions` of `Model/Handler.lean`) read as the `LruTimeCache` of `Model/Lru.lean`:
`toCache` keeps entries and order and takes ttl and capacity from the configuration, and each session
primitive commutes with the cache operation of the same name at the real-time clock.  No precondition
is needed: both models erase every entry of the key, attach at the back and pop one front entry when
over capacity, so they agree also on states the handler never reaches (duplicate keys, `sessInsert` of
a key that is held).  Hence the cache invariant `Lru.WF` holds along every handler function (walk W,
whose leaves are `Lru.step_wf` and, for `sessPut`, `putVal_wf`), and stamps are only ever set to the
current real-time clock (walk S).  Namespace `HL`: the handler's session list as an LRU cache.
-/
import Discv5Model.Proofs.LruLemmas
import Discv5Model.Proofs.HandlerWalk

namespace Discv5.H.HL
open Discv5 Discv5.H.RQ

abbrev SS := List (NA × Session × Nat)

theorem filter_ne_of_find_none {α} {l : List (NA × α)} {na : NA} (h : l.find? (·.1 == na) = none) :
    l.filter (·.1 != na) = l :=
  List.filter_eq_self.2 (fun x hx => by simpa using List.find?_eq_none.1 h x hx)

/-- Whatever `sessGetMut` returns, the entries of `na` are gone from their places, and a returned
session sits at the back, stamped with the real-time clock; nothing else changes. -/
theorem sessGetMut_state (c : Cfg) (na : NA) (st : St) : ((sessGetMut c na).run st).2 =
    ({ st.1 with sessions := st.1.sessions.filter (·.1 != na) ++
        (((sessGetMut c na).run st).1.map (na, ·, st.1.rt)).toList }, st.2) := by
  rw [sessGetMut_run]
  split
  · rename_i hf; simp only [Option.map_none, Option.toList_none, List.append_nil, filter_ne_of_find_none hf]
  · split <;> simp only [Option.map_none, Option.map_some, Option.toList_none, Option.toList_some,
      List.append_nil]

theorem sessGetMut_some_run {c : Cfg} {na : NA} {st : St} {sess : Session}
    (h : ((sessGetMut c na).run st).1 = some sess) : ((sessGetMut c na).run st).2 =
      ({ st.1 with sessions := st.1.sessions.filter (·.1 != na) ++ [(na, sess, st.1.rt)] }, st.2) := by
  rw [sessGetMut_state, h]; rfl

theorem sessGetMut_none_run {c : Cfg} {na : NA} {st : St} (h : ((sessGetMut c na).run st).1 = none) :
    ((sessGetMut c na).run st).2 = ({ st.1 with sessions := st.1.sessions.filter (·.1 != na) }, st.2) := by
  rw [sessGetMut_state, h]; exact congrArg (fun l => ({ st.1 with sessions := l }, st.2)) (List.append_nil _)

/-- One session-list entry `(address, session, stamp)` as a node of the linked hash map. -/
def toEntry (e : NA × Session × Nat) : Lru.Entry NA Session := ⟨e.1, e.2.1, e.2.2⟩

/-- The session list as the list of the linked hash map (same order: front = least recently used). -/
def toMap (l : SS) : List (Lru.Entry NA Session) := l.map toEntry

/-- The abstraction: the handler's session list *is* `LruTimeCache::new(session_timeout,
Some(session_cache_capacity))` holding the same entries in the same order. -/
def toCache (c : Cfg) (s : HState) : Lru.Cache NA Session :=
  { map := toMap s.sessions, ttl := c.sessionTtl, capacity := c.sessionCap }

/-- Writing through the `&mut V` that `get_mut` handed out: the value of the entry of `k` is
replaced, key, stamp and position stay. -/
def putVal {K V : Type} [DecidableEq K] (m : List (Lru.Entry K V)) (k : K) (v : V) :
    List (Lru.Entry K V) :=
  m.map (fun e => if e.key = k then { e with val := v } else e)

theorem toMap_filter_ne (l : SS) (na : NA) :
    toMap (l.filter (·.1 != na)) = Lru.lhmErase (toMap l) na := by
  unfold toMap Lru.lhmErase
  rw [List.filter_map]
  congr 1
  apply List.filter_congr
  intro e _
  by_cases h : e.1 = na <;> simp [toEntry, h]

theorem lhmGet_toMap (l : SS) (na : NA) :
    Lru.lhmGet (toMap l) na = (l.find? (·.1 == na)).map toEntry := by
  unfold toMap Lru.lhmGet
  rw [List.find?_map]
  congr 1

theorem toEntry_inj {a b : NA × Session × Nat} (h : toEntry a = toEntry b) : a = b :=
  congrArg (fun e : Lru.Entry NA Session => (e.key, e.val, e.stamp)) h

theorem toMap_inj {l l' : SS} (h : toMap l = toMap l') : l = l' :=
  (List.map_inj_right (fun _ _ => toEntry_inj)).1 h

theorem toMap_append (a b : SS) : toMap (a ++ b) = toMap a ++ toMap b := List.map_append

theorem toMap_length (l : SS) : (toMap l).length = l.length := List.length_map _

theorem toMap_put (l : SS) (na : NA) (sess : Session) :
    toMap (l.map (fun e => if e.1 == na then (na, sess, e.2.2) else e)) = putVal (toMap l) na sess := by
  unfold toMap putVal
  rw [List.map_map, List.map_map]
  apply List.map_congr_left
  intro e _
  by_cases h : e.1 = na <;> simp [toEntry, h]

theorem popExpired_eq (ttl rt : Nat) (l : SS) :
    (popExpired ttl rt l).1 = ((toMap l).takeWhile (Lru.expired ttl rt)).map (·.key) ∧
    toMap (popExpired ttl rt l).2 = (toMap l).dropWhile (Lru.expired ttl rt) := by
  induction l with
  | nil => exact ⟨rfl, rfl⟩
  | cons a rest ih =>
    obtain ⟨na, sess, stamp⟩ := a
    unfold popExpired
    by_cases h : stamp + ttl ≥ rt
    · have hx : Lru.expired ttl rt (toEntry (na, sess, stamp)) = false := decide_eq_false (Nat.not_lt.2 h)
      simp only [h, if_true, toMap, List.map_cons, List.takeWhile_cons, List.dropWhile_cons, hx]
      exact ⟨rfl, rfl⟩
    · have hx : Lru.expired ttl rt (toEntry (na, sess, stamp)) = true := decide_eq_true (Nat.lt_of_not_ge h)
      simp only [h, if_false, toMap, List.map_cons, List.takeWhile_cons, List.dropWhile_cons, hx, if_true]
      exact ⟨by rw [ih.1]; rfl, ih.2⟩

/-- Everything but the session list is left as it was. -/
def OnlySessions (s s' : HState) : Prop := s' = { s with sessions := s'.sessions }

theorem toCache_sessions (c : Cfg) (s : HState) (l : SS) :
    toCache c { s with sessions := l } = { toCache c s with map := toMap l } := rfl

/-- `sessGetMut` is `LruTimeCache::get_mut` at the real-time clock: same reply, same cache
afterwards (no precondition). -/
theorem sessGetMut_refines (c : Cfg) (na : NA) (s : HState) (os : List Out) :
    ((sessGetMut c na).run (s, os)).1 = (Lru.getMut (toCache c s) s.rt na).2 ∧
    toCache c ((sessGetMut c na).run (s, os)).2.1 = (Lru.getMut (toCache c s) s.rt na).1 ∧
    ((sessGetMut c na).run (s, os)).2.2 = os ∧
    OnlySessions s ((sessGetMut c na).run (s, os)).2.1 := by
  have hg : Lru.lhmGet (toCache c s).map na = (s.sessions.find? (·.1 == na)).map toEntry :=
    lhmGet_toMap s.sessions na
  rw [sessGetMut_run]
  unfold Lru.getMut
  dsimp only
  cases hf : s.sessions.find? (·.1 == na) with
  | none =>
    rw [hf] at hg
    rw [Lru.getMutWith_vacant hg]
    exact ⟨rfl, rfl, rfl, rfl⟩
  | some x =>
    obtain ⟨k, sess, stamp⟩ := x
    obtain rfl : k = na := by simpa using List.find?_some hf
    rw [hf] at hg
    by_cases hx : stamp + c.sessionTtl < s.rt
    · rw [Lru.getMutWith_expired hg hx]
      dsimp only
      rw [if_pos hx]
      exact ⟨rfl, by rw [toCache_sessions, toMap_filter_ne]; rfl, rfl, rfl⟩
    · rw [Lru.getMutWith_hit hg hx]
      dsimp only
      rw [if_neg hx]
      exact ⟨rfl, by rw [toCache_sessions, toMap_append, toMap_filter_ne]; rfl, rfl, rfl⟩

/-- `sessPut` is the write through the `&mut Session` (value replaced, stamp and place kept). -/
theorem sessPut_refines (c : Cfg) (na : NA) (sess : Session) (s : HState) (os : List Out) :
    toCache c ((sessPut na sess).run (s, os)).2.1 =
      { toCache c s with map := putVal (toCache c s).map na sess } ∧
    ((sessPut na sess).run (s, os)).2.2 = os ∧
    OnlySessions s ((sessPut na sess).run (s, os)).2.1 :=
  ⟨(toCache_sessions ..).trans (by rw [toMap_put]; rfl), rfl, rfl⟩

/-- `sessInsert` is `LruTimeCache::insert` — for every key, present or not. -/
theorem sessInsert_refines (c : Cfg) (na : NA) (sess : Session) (s : HState) (os : List Out) :
    toCache c ((sessInsert c na sess).run (s, os)).2.1 = Lru.insert (toCache c s) s.rt na sess ∧
    ((sessInsert c na sess).run (s, os)).2.2 = os ∧
    OnlySessions s ((sessInsert c na sess).run (s, os)).2.1 := by
  refine ⟨?_, rfl, rfl⟩
  have hl : Lru.lhmInsert (toCache c s).map ⟨na, sess, s.rt⟩ =
      toMap (s.sessions.filter (·.1 != na) ++ [(na, sess, s.rt)]) := by
    rw [toMap_append, toMap_filter_ne]; rfl
  unfold Lru.insert
  dsimp only
  rw [hl, toMap_length]
  show toCache c { s with sessions := if _ then _ else _ } = _
  by_cases h : (s.sessions.filter (·.1 != na) ++ [(na, sess, s.rt)]).length > c.sessionCap
  · rw [if_pos h, if_pos (show _ > (toCache c s).capacity from h), toCache_sessions, List.drop_one]
    unfold toMap
    rw [List.map_tail]
    rfl
  · rw [if_neg h, if_neg (show ¬ _ > (toCache c s).capacity from h)]
    rfl

/-- `sessRemove` is `LruTimeCache::remove` (the returned value is dropped by the handler). -/
theorem sessRemove_refines (c : Cfg) (na : NA) (s : HState) (os : List Out) :
    toCache c ((sessRemove na).run (s, os)).2.1 = (Lru.remove (toCache c s) na).1 ∧
    ((sessRemove na).run (s, os)).2.2 = os ∧
    OnlySessions s ((sessRemove na).run (s, os)).2.1 :=
  ⟨(toCache_sessions ..).trans (by rw [toMap_filter_ne]; rfl), rfl, rfl⟩

/-- `removeExpiredSessions` is `LruTimeCache::remove_expired_values`; the keys it returns are
the ones reported in the `expired` output (nothing is reported when there are none). -/
theorem removeExpiredSessions_refines (c : Cfg) (s : HState) (os : List Out) :
    toCache c ((removeExpiredSessions c).run (s, os)).2.1 = (Lru.removeExpired (toCache c s) s.rt).1 ∧
    ((removeExpiredSessions c).run (s, os)).2.2 =
      (if (Lru.removeExpired (toCache c s) s.rt).2 = [] then os
       else os ++ [.expired (Lru.removeExpired (toCache c s) s.rt).2]) ∧
    OnlySessions s ((removeExpiredSessions c).run (s, os)).2.1 := by
  have hp := popExpired_eq c.sessionTtl s.rt s.sessions
  rw [removeExpiredSessions_run]
  refine ⟨(toCache_sessions ..).trans (by rw [hp.2]; rfl), ?_, rfl⟩
  rw [show (Lru.removeExpired (toCache c s) s.rt).2 = (popExpired c.sessionTtl s.rt s.sessions).1 from
    hp.1.symm]
  cases (popExpired c.sessionTtl s.rt s.sessions).1 <;> rfl

section generic
variable {K V : Type} [DecidableEq K]

theorem putVal_of_absent {m : List (Lru.Entry K V)} {k : K} (v : V) (h : ∀ e ∈ m, e.key ≠ k) :
    putVal m k v = m := by
  unfold putVal
  rw [List.map_congr_left (g := id), List.map_id]
  intro e he
  rw [if_neg (h e he)]; rfl

/-- A hit of `get_mut` whose reference is then overwritten with `f v`. -/
theorem getMutWith_hit_eq_put (C : Lru.Cache K V) (now : Nat) (k : K) (f : V → V) (v : V)
    (h : (Lru.getMut C now k).2 = some v) :
    Lru.getMutWith C now k f =
      ({ (Lru.getMut C now k).1 with map := putVal (Lru.getMut C now k).1.map k (f v) }, some v) := by
  unfold Lru.getMut at h ⊢
  rcases Lru.getMutWith_cases C now k id with ⟨_, hr⟩ | ⟨e, _, _, hr⟩ | ⟨e, hg, hx, hr⟩
  · rw [hr] at h; cases h
  · rw [hr] at h; cases h
  · rw [hr] at h ⊢
    injection h with h
    subst h
    rw [Lru.getMutWith_hit hg hx]
    have hk := (Lru.lhmGet_some hg).2
    have h1 : putVal (Lru.lhmErase C.map k) k (f e.val) = Lru.lhmErase C.map k :=
      putVal_of_absent _ (fun a ha => (Lru.mem_lhmErase.1 ha).2)
    show _ = (({ map := putVal (Lru.lhmErase C.map k ++ [_]) k (f e.val), ttl := _, capacity := _ } : Lru.Cache K V), _)
    have h2 : putVal (Lru.lhmErase C.map k ++ [({ e with val := id e.val, stamp := now } : Lru.Entry K V)]) k (f e.val) =
        Lru.lhmErase C.map k ++ [{ e with val := f e.val, stamp := now }] := by
      unfold putVal at h1 ⊢
      rw [List.map_append, h1]
      simp [hk]
    rw [h2]

/-- A miss of `get_mut` hands out no reference: nothing to write. -/
theorem getMutWith_miss_eq (C : Lru.Cache K V) (now : Nat) (k : K) (f : V → V)
    (h : (Lru.getMut C now k).2 = none) : Lru.getMutWith C now k f = Lru.getMut C now k := by
  unfold Lru.getMut at h ⊢
  rcases Lru.getMutWith_cases C now k id with ⟨hg, hr⟩ | ⟨e, hg, hx, hr⟩ | ⟨e, hg, hx, hr⟩
  · rw [hr, Lru.getMutWith_vacant hg]
  · rw [hr, Lru.getMutWith_expired hg hx]
  · rw [hr] at h; cases h

theorem putVal_wf {C : Lru.Cache K V} {t : Nat} (h : Lru.WF C t) (k : K) (v : V) :
    Lru.WF { C with map := putVal C.map k v } t := by
  have hkey : ∀ e : Lru.Entry K V, (if e.key = k then { e with val := v } else e).key = e.key :=
    fun e => by split <;> rfl
  have hst : ∀ e : Lru.Entry K V, (if e.key = k then { e with val := v } else e).stamp = e.stamp :=
    fun e => by split <;> rfl
  exact ⟨List.pairwise_map.2 (h.distinct.imp (fun hab => by rwa [hkey, hkey])),
    ⟨List.pairwise_map.2 (h.sorted.1.imp (fun hab => by rwa [hst, hst])), fun e he => by
      obtain ⟨a, ha, rfl⟩ := List.mem_map.1 he
      rw [hst]; exact h.sorted.2 a ha⟩,
    Nat.le_trans (Nat.le_of_eq (List.length_map _)) h.bounded⟩

end generic

/-! ## Walk W: along every handler function the session list stays a well-formed cache

`W c st`: the abstraction of the session list satisfies the invariant of `Proofs/LruLemmas.lean`
(keys distinct, stamps sorted and not in the future of the real-time clock, `len ≤ capacity`).
The session primitives keep it because the corresponding `Lru` operation does; everything else does
not touch the list. -/

def W (c : Cfg) (st : St) : Prop := Lru.WF (toCache c st.1) st.1.rt

theorem OnlySessions.rt {s s' : HState} (h : OnlySessions s s') : s'.rt = s.rt := by
  unfold OnlySessions at h; rw [h]

theorem W_op {c : Cfg} {α} {m : M α} (op : Lru.Op NA Session)
    (h : ∀ s os, toCache c (m.run (s, os)).2.1 = (Lru.step (toCache c s) s.rt op).1 ∧
      OnlySessions s (m.run (s, os)).2.1) : Ho (W c) m (fun _ => W c) :=
  ⟨fun st hp => by
    unfold W
    rw [(h st.1 st.2).1, (h st.1 st.2).2.rt]
    exact Lru.step_wf st.1.rt op hp (Nat.le_refl _)⟩

theorem W_sessPut {c : Cfg} (na sess) : Ho (W c) (sessPut na sess) (fun _ => W c) :=
  ⟨fun st hp => by
    unfold W
    rw [(sessPut_refines c na sess st.1 st.2).1, (sessPut_refines c na sess st.1 st.2).2.2.rt]
    exact putVal_wf hp na sess⟩

theorem W.leaves (c : Cfg) : Leaves c (fun _ => True) (W c) (fun _ => True) where
  sessGetMut na := W_op (.get na) (fun s os => ⟨(sessGetMut_refines c na s os).2.1,
    (sessGetMut_refines c na s os).2.2.2⟩)
  sessPut := W_sessPut

theorem W.leavesSess (c : Cfg) : LeavesSess c (W c) where
  sessInsert na sess := W_op (.insert na sess) (fun s os => ⟨(sessInsert_refines c na sess s os).1,
    (sessInsert_refines c na sess s os).2.2⟩)
  sessRemove na := W_op (.remove na) (fun s os => ⟨(sessRemove_refines c na s os).1,
    (sessRemove_refines c na s os).2.2⟩)
  sweep st h := by
    show Lru.WF { toCache c st.1 with map := toMap _ } st.1.rt
    rw [(popExpired_eq ..).2]
    exact Lru.step_wf st.1.rt .sweep h (Nat.le_refl _)

/-- Every step keeps the invariant; the real-time clock only moves forward. -/
theorem W_stepM {c : Cfg} (e : Ev) : Ho (W c) (stepM c e) (fun _ => W c) :=
  (W.leaves c).ho_stepM (W.leavesSess c) (fun _ _ => trivial) e (fun _ _ _ => trivial) (fun _ _ _ _ _ _ _ => trivial)
    (fun _ _ _ _ h => h) (fun _ _ _ hp => ⟨hp.distinct,
    ⟨hp.sorted.1, fun e he => Nat.le_trans (hp.sorted.2 e he) (Nat.le_add_right _ _)⟩, hp.bounded⟩)

/-- The session list of every reachable state is a well-formed `LruTimeCache`. -/
theorem run_wf (c : Cfg) (evs : List Ev) : Lru.WF (toCache c (run c evs)) (run c evs).rt :=
  run_inv_state (J := fun s => Lru.WF (toCache c s) s.rt)
    ⟨List.Pairwise.nil, ⟨List.Pairwise.nil, fun _ h => nomatch h⟩, Nat.zero_le _⟩ W_stepM evs

/-- In particular it never holds two entries for one node address. -/
theorem run_keys_nodup (c : Cfg) (evs : List Ev) : ((run c evs).sessions.map (·.1)).Nodup := by
  have h : ((run c evs).sessions.map toEntry).Pairwise (fun a b => a.key ≠ b.key) := (run_wf c evs).distinct
  have h2 := List.pairwise_map.1 h
  exact List.pairwise_map.2 h2

/-! ## Walk S: a stamp is the time of the last use

`SR t L0`: during one step (the real-time clock stands still at `t`) every entry of the session list
either is an entry of the list `L0` from before the step with its stamp unchanged (its value may have
been written), or carries the stamp `t`.  Only `get_mut` hits and `insert` stamp, and they stamp with
the clock. -/

def SR (t : Nat) (L0 : SS) (st : St) : Prop :=
  st.1.rt = t ∧ ∀ e' ∈ st.1.sessions, e'.2.2 = t ∨ ∃ e ∈ L0, e.1 = e'.1 ∧ e.2.2 = e'.2.2

theorem SR.sub {t : Nat} {L0 : SS} {st : St} (h : SR t L0 st) (l : SS) (hl : ∀ x ∈ l, x ∈ st.1.sessions) :
    SR t L0 ({ st.1 with sessions := l }, st.2) := ⟨h.1, fun e' he' => h.2 e' (hl e' he')⟩

theorem SR.touch {t : Nat} {L0 : SS} {st : St} (h : SR t L0 st) (na : NA) (sess : Session) :
    SR t L0 ({ st.1 with sessions := st.1.sessions.filter (·.1 != na) ++ [(na, sess, st.1.rt)] }, st.2) :=
  ⟨h.1, fun e' he' => by
    rcases List.mem_append.1 he' with hm | hm
    · exact h.2 e' (List.mem_filter.1 hm).1
    · rw [List.mem_singleton.1 hm]; exact Or.inl h.1⟩

theorem S_sessPut {t : Nat} {L0 : SS} (na sess) : Ho (SR t L0) (sessPut na sess) (fun _ => SR t L0) :=
  Ho.modS _ (fun st hp => ⟨hp.1, fun e' he' => by
    obtain ⟨y, hy, rfl⟩ := List.mem_map.1 he'
    by_cases hk : y.1 == na
    · simp only [hk, if_true]
      rcases hp.2 y hy with h | ⟨e, he, h1, h2⟩
      · exact Or.inl h
      · exact Or.inr ⟨e, he, by rw [h1]; exact beq_iff_eq.1 hk, h2⟩
    · simp only [hk]; exact hp.2 y hy⟩)

theorem SR.leaves {t : Nat} {L0 : SS} (c : Cfg) : Leaves c (fun _ => True) (SR t L0) (fun _ => True) where
  sessGetMut na := sessGetMut_elim (fun st hp => ⟨fun _ => hp, fun _ sess _ _ =>
    ⟨fun _ => hp.sub _ (fun _ hx => (List.mem_filter.1 hx).1), fun _ => hp.touch na sess⟩⟩)
  sessPut := S_sessPut

theorem SR.leavesSess {t : Nat} {L0 : SS} (c : Cfg) : LeavesSess c (SR t L0) where
  sessInsert na sess := Ho.modS _ (fun st hp => by
    have ht := hp.touch na sess
    dsimp only
    split
    · exact ht.sub _ (fun _ hx => List.mem_of_mem_drop hx)
    · exact ht)
  sessRemove na := Ho.modS _ (fun _ hp => hp.sub _ (fun _ hx => (List.mem_filter.1 hx).1))
  sweep st h := h.sub _ (popExpired_sub _ _ _)

theorem S_stepM {t : Nat} {L0 : SS} (c : Cfg) (e : Ev) (hne : ∀ dt, e ≠ .rtAdv dt) :
    Ho (SR t L0) (stepM c e) (fun _ => SR t L0) :=
  (SR.leaves c).ho_stepM (SR.leavesSess c) (fun _ _ => trivial) e (fun _ _ _ => trivial) (fun _ _ _ _ _ _ _ => trivial)
    (fun _ _ _ _ h => h) (fun dt h => absurd h (hne dt))

theorem SR.init (s : HState) : SR s.rt s.sessions (s, []) := ⟨rfl, fun e' he' => Or.inr ⟨e', he', rfl, rfl⟩⟩

/-- Every entry after a step is an entry from before the step with the same stamp, or is stamped
with the real-time clock of the step. -/
theorem step_stamps (c : Cfg) (s : HState) (e : Ev) :
    ∀ e' ∈ (step c s e).1.sessions, e'.2.2 = s.rt ∨ ∃ e0 ∈ s.sessions, e0.1 = e'.1 ∧ e0.2.2 = e'.2.2 := by
  by_cases hne : ∃ dt, e = .rtAdv dt
  · obtain ⟨dt, rfl⟩ := hne
    exact (SR.init s).2
  · exact ((S_stepM c e (fun dt h => hne ⟨dt, h⟩)).out _ (SR.init s)).2

theorem step_rt (c : Cfg) (s : HState) (e : Ev) (hne : ∀ dt, e ≠ .rtAdv dt) :
    (step c s e).1.rt = s.rt :=
  ((S_stepM c e hne).out _ (SR.init s)).1

end Discv5.H.HL
