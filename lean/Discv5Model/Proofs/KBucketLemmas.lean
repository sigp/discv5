/-
The routing-table model (`Model/KBucket.lean`) and its invariants (C07).
Bucket level: each bucket operation gets a case analysis of what it does to the node list, the pending
slot and `first_connected_pos` (`update_status` one per outcome of its key lookup); `BInv` and every
predicate on the stored (key, value) pairs (`BVals`) are carried through these.
Table level: every operation bumps the clock and rewrites at most the bucket it addresses, by a
sequence of bucket operations (`BStep`); `Table.step_preserves` makes that one preservation theorem.
-/
import Discv5Model.Model.KBucketSpec

namespace Discv5.KB
variable {V : Type} [DecidableEq V]
-- only `update_value` compares values; the other statements carry `[DecidableEq V]` unused
set_option linter.unusedSectionVars false

theorem removeAt_eq_eraseIdx {α} (l : List α) (i : Nat) : removeAt l i = l.eraseIdx i := by
  simp [removeAt, List.eraseIdx_eq_take_drop_succ]

theorem removeAt_sublist {α} (l : List α) (i : Nat) : (removeAt l i).Sublist l := by
  rw [removeAt_eq_eraseIdx]; exact List.eraseIdx_sublist l i

theorem removeAt_length {α} (l : List α) (i : Nat) (h : i < l.length) :
    (removeAt l i).length = l.length - 1 := by
  rw [removeAt_eq_eraseIdx, List.length_eraseIdx]; simp [h]

theorem insertAt_perm {α} (l : List α) (i : Nat) (x : α) : (insertAt l i x).Perm (x :: l) := by
  unfold insertAt
  have := @List.perm_middle _ x (l.take i) (l.drop i)
  rwa [List.take_append_drop] at this

theorem removeAt_perm {α} {l : List α} {pos : Nat} {x : α} (h : l[pos]? = some x) :
    l.Perm (x :: removeAt l pos) := by
  obtain ⟨hlt, hx⟩ := List.getElem?_eq_some_iff.1 h
  have h1 : l = l.take pos ++ x :: l.drop (pos + 1) := by
    rw [← hx, ← List.drop_eq_getElem_cons hlt, List.take_append_drop]
  unfold removeAt
  have h2 : (l.take pos ++ x :: l.drop (pos + 1)).Perm (x :: (l.take pos ++ l.drop (pos + 1))) :=
    List.perm_middle
  rwa [← h1] at h2

theorem insertAt_removeAt {α} {l : List α} {pos : Nat} (x : α) (h : pos < l.length) :
    insertAt (removeAt l pos) pos x = l.set pos x := by
  have h1 : (l.take pos).length = pos := by rw [List.length_take]; omega
  unfold insertAt removeAt
  rw [List.take_left' h1, List.drop_left' h1, List.set_eq_take_append_cons_drop, if_pos h]

theorem checkedSub1_pos {n : Nat} (h : 0 < n) : checkedSub1 n = some (n - 1) := by
  cases n with
  | zero => omega
  | succ n => rfl

theorem ite_ne {α} {c : Prop} [Decidable c] {a b x : α} (ha : a ≠ x) (hb : b ≠ x) :
    (if c then a else b) ≠ x := by
  split <;> assumption

/-- `BInv.split`, of a bare node list. -/
def Split (nodes : List (Node V)) (fcp : Option Nat) : Prop :=
  ∃ dis con, nodes = dis ++ con ∧ (∀ n ∈ dis, n.st.conn = false) ∧
      (∀ n ∈ con, n.st.conn = true) ∧ fcp = (if con = [] then none else some dis.length) ∧
      dis.Pairwise (fun a b => a.stamp ≤ b.stamp) ∧ con.Pairwise (fun a b => a.stamp ≤ b.stamp)

theorem split_append_conn {nodes : List (Node V)} {fcp : Option Nat} {node : Node V}
    (h : Split nodes fcp) (hc : node.st.conn = true) (hs : ∀ n ∈ nodes, n.stamp ≤ node.stamp) :
    Split (nodes ++ [node]) (some (fcp.getD nodes.length)) := by
  obtain ⟨dis, con, rfl, hd, hcn, hf, pd, pc⟩ := h
  refine ⟨dis, con ++ [node], by simp, hd, ?_, ?_, pd, ?_⟩
  · intro n hn
    rcases List.mem_append.1 hn with hn | hn
    · exact hcn n hn
    · simp at hn; subst hn; exact hc
  · by_cases hcon : con = []
    · subst hcon; simp at hf; subst hf; simp
    · rw [if_neg hcon] at hf; subst hf; simp
  · rw [List.pairwise_append]
    refine ⟨pc, by simp, ?_⟩
    intro a ha b hb
    simp at hb; subst hb
    exact hs a (List.mem_append.2 (Or.inr ha))

theorem split_insert_dis {nodes : List (Node V)} {p : Nat} {node : Node V}
    (h : Split nodes (some p)) (hc : node.st.conn = false) (hs : ∀ n ∈ nodes, n.stamp ≤ node.stamp) :
    Split (insertAt nodes p node) (some (p + 1)) := by
  obtain ⟨dis, con, rfl, hd, hcn, hf, pd, pc⟩ := h
  by_cases hcon : con = []
  · rw [if_pos hcon] at hf; cases hf
  · rw [if_neg hcon] at hf
    cases hf
    refine ⟨dis ++ [node], con, by simp [insertAt], ?_, hcn, by simp [hcon], ?_, pc⟩
    · intro n hn
      rcases List.mem_append.1 hn with hn | hn
      · exact hd n hn
      · simp at hn; subst hn; exact hc
    · rw [List.pairwise_append]
      refine ⟨pd, by simp, ?_⟩
      intro a ha b hb
      simp at hb; subst hb
      exact hs a (List.mem_append.2 (Or.inl ha))

theorem split_append_dis {nodes : List (Node V)} {node : Node V}
    (h : Split nodes none) (hc : node.st.conn = false) (hs : ∀ n ∈ nodes, n.stamp ≤ node.stamp) :
    Split (nodes ++ [node]) none := by
  obtain ⟨dis, con, rfl, hd, hcn, hf, pd, pc⟩ := h
  by_cases hcon : con = []
  · subst hcon
    refine ⟨dis ++ [node], [], by simp, ?_, by simp, by simp, ?_, List.Pairwise.nil⟩
    · intro n hn
      rcases List.mem_append.1 hn with hn | hn
      · exact hd n hn
      · simp at hn; subst hn; exact hc
    · rw [List.pairwise_append]
      refine ⟨pd, by simp, ?_⟩
      intro a ha b hb
      simp at hb; subst hb
      exact hs a (by simpa using ha)
  · rw [if_neg hcon] at hf; cases hf

/-- `first_connected_pos` after removing position `pos`, as `update_status` computes it. -/
def fcpU (nodes : List (Node V)) (fcp : Option Nat) (pos : Nat) (old : Node V) : Option Nat :=
  if old.st.conn then
    if fcp == some pos && pos == (removeAt nodes pos).length then none else fcp
  else
    match fcp with
    | none => none
    | some p => checkedSub1 p

/-- `first_connected_pos` after removing position `pos`, as
`update_first_connected_pos_for_removal` computes it. -/
def fcpR (nodes : List (Node V)) (fcp : Option Nat) (pos : Nat) : Option Nat :=
  match fcp with
  | none => none
  | some f => if pos < f then some (f - 1)
              else if f < (removeAt nodes pos).length then some f else none

theorem split_remove {nodes : List (Node V)} {fcp : Option Nat} {pos : Nat} {old : Node V}
    (h : Split nodes fcp) (hp : nodes[pos]? = some old) :
    Split (removeAt nodes pos) (fcpU nodes fcp pos old) ∧
      fcpR nodes fcp pos = fcpU nodes fcp pos old := by
  obtain ⟨dis, con, rfl, hd, hcn, rfl, pd, pc⟩ := h
  have hlt : pos < dis.length + con.length := by
    rw [← List.length_append]; exact (List.getElem?_eq_some_iff.1 hp).1
  unfold fcpU fcpR
  rw [removeAt_length _ _ (by rwa [List.length_append]), removeAt_eq_eraseIdx, List.length_append]
  by_cases hpd : pos < dis.length
  · have hoc : old.st.conn = false :=
      hd old (List.mem_of_getElem? (by rwa [List.getElem?_append_left hpd] at hp))
    have hsub := List.eraseIdx_sublist dis pos
    have hl : (dis.eraseIdx pos).length = dis.length - 1 := by rw [List.length_eraseIdx, if_pos hpd]
    have hs : checkedSub1 dis.length = some (dis.length - 1) := checkedSub1_pos (by omega)
    rw [List.eraseIdx_append_of_lt_length hpd, hoc]
    refine ⟨⟨_, con, rfl, fun n hn => hd n (hsub.subset hn), hcn, ?_, pd.sublist hsub, pc⟩, ?_⟩
    all_goals
      by_cases hcon : con = [] <;> simp only [hcon, ↓reduceIte, Bool.false_eq_true, hpd, hl, hs]
  · have hpd' : dis.length ≤ pos := Nat.le_of_not_lt hpd
    have hp' : con[pos - dis.length]? = some old := by
      rwa [List.getElem?_append_right hpd'] at hp
    have hoc : old.st.conn = true := hcn old (List.mem_of_getElem? hp')
    have hk : pos - dis.length < con.length := (List.getElem?_eq_some_iff.1 hp').1
    have hcon : con ≠ [] := fun h => by rw [h] at hk; exact Nat.not_lt_zero _ hk
    have hsub := List.eraseIdx_sublist con (pos - dis.length)
    -- both recomputations give `none` exactly if the only connected node went
    have hnil : con.eraseIdx (pos - dis.length) = [] ↔ con.length = 1 := by
      rw [← List.length_eq_zero_iff, List.length_eraseIdx, if_pos hk]; omega
    have hlast : (some dis.length == some pos && pos == dis.length + con.length - 1) = true ↔
        con.length = 1 := by
      simp only [Bool.and_eq_true, beq_iff_eq, Option.some.injEq]; omega
    rw [List.eraseIdx_append_of_length_le hpd', hoc, if_neg hcon]
    refine ⟨⟨dis, _, rfl, hd, fun n hn => hcn n (hsub.subset hn), ?_, pd, pc.sublist hsub⟩, ?_⟩
    · simp only [↓reduceIte, hnil, hlast]
    · simp only [↓reduceIte, hpd, hlast]
      by_cases h1 : con.length = 1
      · rw [if_pos h1, if_neg (by omega)]
      · rw [if_neg h1, if_pos (by omega)]

/-- The three ways `insert` places `node`: connected; disconnected, before the first connected node;
disconnected, no node connected. -/
def InsertedShape (b : Bucket V) (node : Node V) (nodes' : List (Node V)) (fcp' : Option Nat) : Prop :=
  (node.st.conn = true ∧ nodes' = b.nodes ++ [node] ∧
      fcp' = some (b.fcp.getD b.nodes.length)) ∨
  (node.st.conn = false ∧ ∃ p, b.fcp = some p ∧ nodes' = insertAt b.nodes p node ∧ fcp' = some (p+1)) ∨
  (node.st.conn = false ∧ b.fcp = none ∧ nodes' = b.nodes ++ [node] ∧ fcp' = none)

/-- The bucket filter and the incoming limit let `node` into `b`. -/
def Admits (c : Cfg V) (b : Bucket V) (node : Node V) : Prop :=
  c.bucketFilter node.value b.values = true ∧
    (node.st.conn = true → node.st.incoming = true → b.isMaxIncoming c = false)

/-- The outcomes of `insert`: refused; parked as pending; inserted. -/
def InsertSpec (c : Cfg V) (now : Nat) (b : Bucket V) (node : Node V) (r : Bucket V × InsertRes) : Prop :=
    (r.1 = b ∧ r.2 ≠ .inserted ∧ (∀ k, r.2 ≠ .pending k) ∧
      (r.2 = .nodeExists → (b.position node.key).isSome) ∧ (r.2 = .full → b.isFull = true)) ∨
    (∃ n0, r = ({ b with pending := some ⟨node, now + c.pendingTimeout⟩ }, .pending n0) ∧
      b.position node.key = none ∧ b.isFull = true ∧ b.pending = none) ∨
    (r.2 = .inserted ∧ b.position node.key = none ∧ b.isFull = false ∧ Admits c b node ∧
      (∀ p', r.1.pending = some p' → b.pending = some p' ∧ p'.node.key ≠ node.key) ∧
      InsertedShape b node r.1.nodes r.1.fcp)

theorem insert_cases (c : Cfg V) (now : Nat) (b : Bucket V) (node : Node V) :
    InsertSpec c now b node (Bucket.insert c now b node) := by
  generalize hr : Bucket.insert c now b node = r
  unfold Bucket.insert at hr
  have refuse : ∀ res : InsertRes, res ≠ .inserted → (∀ k, res ≠ .pending k) →
      (res = .nodeExists → (b.position node.key).isSome) → (res = .full → b.isFull = true) →
      InsertSpec c now b node (b, res) := fun _ h1 h2 h3 h4 => Or.inl ⟨rfl, h1, h2, h3, h4⟩
  by_cases h1 : (b.position node.key).isSome = true
  · rw [if_pos h1] at hr; subst hr; exact refuse _ nofun nofun (fun _ => h1) nofun
  rw [if_neg h1] at hr
  by_cases h2 : (!c.bucketFilter node.value b.values) = true
  · rw [if_pos h2] at hr; subst hr; exact refuse _ nofun nofun nofun nofun
  rw [if_neg h2] at hr
  have h1' : b.position node.key = none := by simpa using h1
  have h2' : c.bucketFilter node.value b.values = true := by simpa using h2
  -- the last step of `insert`: a pending slot holding the inserted key is cleared
  have inserted : ∀ (nodes' : List (Node V)) (fcp' : Option Nat) (r : Bucket V × InsertRes),
      (if (InsertRes.inserted == .inserted &&
          (match b.pending with | some p => p.node.key == node.key | none => false)) = true
        then (({ nodes := nodes', fcp := fcp', pending := none } : Bucket V), InsertRes.inserted)
        else ({ nodes := nodes', fcp := fcp', pending := b.pending }, .inserted)) = r →
      ¬ b.isFull = true → Admits c b node → InsertedShape b node nodes' fcp' →
      InsertSpec c now b node r := by
    intro nodes' fcp' r hr h4 hadm hs
    refine Or.inr (Or.inr ?_)
    cases hp : b.pending with
    | none =>
      rw [hp] at hr
      subst hr
      exact ⟨rfl, h1', by simpa using h4, hadm, nofun, hs⟩
    | some p =>
      rw [hp] at hr
      by_cases hk : p.node.key = node.key
      · rw [if_pos (by simp [hk])] at hr
        subst hr
        exact ⟨rfl, h1', by simpa using h4, hadm, nofun, hs⟩
      · rw [if_neg (by simp [hk])] at hr
        subst hr
        exact ⟨rfl, h1', by simpa using h4, hadm, fun p' h => by cases h; exact ⟨rfl, hk⟩, hs⟩
  by_cases hc : node.st.conn = true
  · rw [if_pos hc] at hr
    by_cases h3 : (node.st.incoming && b.isMaxIncoming c) = true
    · rw [if_pos h3] at hr
      subst hr
      exact refuse _ nofun nofun nofun nofun
    rw [if_neg h3] at hr
    by_cases h4 : b.isFull = true
    · rw [if_pos h4] at hr
      by_cases h5 : (b.fcp == some 0 || b.pending.isSome) = true
      · rw [if_pos h5] at hr
        subst hr
        exact refuse _ nofun nofun nofun (fun _ => h4)
      · rw [if_neg h5] at hr
        have h5' : ¬ b.fcp = some 0 ∧ b.pending = none := by simpa using h5
        cases hn : b.nodes with
        | nil =>
          simp only [hn] at hr
          subst hr
          exact refuse _ nofun nofun nofun (fun _ => h4)
        | cons n0 rest =>
          simp only [hn] at hr
          exact Or.inr (Or.inl ⟨n0.key, by rw [← hr, hn]; rfl, h1', h4, h5'.2⟩)
    · rw [if_neg h4] at hr
      exact inserted _ _ r hr h4 ⟨h2', fun _ hi => by simpa [hi] using h3⟩
        (Or.inl ⟨hc, rfl, by cases b.fcp <;> rfl⟩)
  · rw [if_neg hc] at hr
    have hc' : node.st.conn = false := by simpa using hc
    by_cases h4 : b.isFull = true
    · rw [if_pos h4] at hr
      subst hr
      exact refuse _ nofun nofun nofun (fun _ => h4)
    · rw [if_neg h4] at hr
      have hadm : Admits c b node := ⟨h2', fun h => absurd h hc⟩
      cases hf : b.fcp with
      | none =>
        rw [hf] at hr
        exact inserted _ _ r hr h4 hadm (Or.inr (Or.inr ⟨hc', hf, rfl, rfl⟩))
      | some q =>
        rw [hf] at hr
        exact inserted _ _ r hr h4 hadm (Or.inr (Or.inl ⟨hc', q, hf, rfl, rfl⟩))

/-- The fields of `BInv` that read the node list alone. -/
structure NInv (c : Cfg V) (tick : Nat) (nodes : List (Node V)) (fcp : Option Nat) : Prop where
  len : nodes.length ≤ 16
  split : Split nodes fcp
  keysNodup : (nodes.map (·.key)).Nodup
  incoming : (nodes.filter (fun n => n.st.conn && n.st.incoming)).length ≤ c.maxIncoming
  stampsLe : ∀ n ∈ nodes, n.stamp ≤ tick

/-- `BInv.pendingFresh`, the one field that reads the pending slot. -/
def PFresh (pending : Option (Pending V)) (nodes : List (Node V)) : Prop :=
  ∀ p, pending = some p → p.node.key ∉ nodes.map (·.key)

theorem binv_iff {c : Cfg V} {tick : Nat} {b : Bucket V} :
    BInv c tick b ↔ NInv c tick b.nodes b.fcp ∧ PFresh b.pending b.nodes :=
  ⟨fun h => ⟨⟨h.len, h.split, h.keysNodup, h.incoming, h.stampsLe⟩, h.pendingFresh⟩,
   fun ⟨h, hp⟩ => ⟨h.len, h.split, h.keysNodup, hp, h.incoming, h.stampsLe⟩⟩

theorem binv_mk {c : Cfg V} {tick : Nat} {nodes : List (Node V)} {fcp : Option Nat}
    {pd : Option (Pending V)} (h : NInv c tick nodes fcp) (hp : PFresh pd nodes) :
    BInv c tick { nodes := nodes, fcp := fcp, pending := pd } :=
  binv_iff.2 ⟨h, hp⟩

theorem pfresh_none (nodes : List (Node V)) : PFresh none nodes := by
  intro p hp; cases hp

theorem binv_empty (c : Cfg V) (tick : Nat) : BInv c tick ({} : Bucket V) :=
  ⟨by simp, ⟨[], [], rfl, by simp, by simp, rfl, .nil, .nil⟩, by simp, nofun, by simp, by simp⟩

theorem NInv.mono {c : Cfg V} {tick tick' : Nat} {nodes : List (Node V)} {fcp : Option Nat}
    (h : NInv c tick nodes fcp) (ht : tick ≤ tick') : NInv c tick' nodes fcp :=
  ⟨h.len, h.split, h.keysNodup, h.incoming, fun n hn => Nat.le_trans (h.stampsLe n hn) ht⟩

theorem BInv.mono {c : Cfg V} {tick tick' : Nat} {b : Bucket V}
    (h : BInv c tick b) (ht : tick ≤ tick') : BInv c tick' b :=
  binv_iff.2 ⟨(binv_iff.1 h).1.mono ht, (binv_iff.1 h).2⟩

theorem BInv.clearPending {c : Cfg V} {tick : Nat} {b : Bucket V} (h : BInv c tick b) :
    BInv c tick { b with pending := none } :=
  binv_mk (binv_iff.1 h).1 (pfresh_none _)

theorem removed_ninv {c : Cfg V} {tick : Nat} {nodes : List (Node V)} {fcp : Option Nat}
    {pos : Nat} {old : Node V} (hn : NInv c tick nodes fcp) (h : nodes[pos]? = some old) :
    NInv c tick (removeAt nodes pos) (fcpU nodes fcp pos old) ∧
    NInv c tick (removeAt nodes pos) (fcpR nodes fcp pos) := by
  obtain ⟨h1, h2⟩ := split_remove hn.split h
  have hs := removeAt_sublist nodes pos
  have : NInv c tick (removeAt nodes pos) (fcpU nodes fcp pos old) :=
    ⟨Nat.le_trans hs.length_le hn.len, h1, hn.keysNodup.sublist (hs.map _),
      Nat.le_trans (hs.filter _).length_le hn.incoming, fun n hm => hn.stampsLe n (hs.subset hm)⟩
  exact ⟨this, h2 ▸ this⟩

theorem PFresh.of_sublist {pd : Option (Pending V)} {nodes nodes' : List (Node V)}
    (h : PFresh pd nodes) (hs : nodes'.Sublist nodes) : PFresh pd nodes' :=
  fun p hp hm => h p hp ((hs.map _).subset hm)

theorem position_none_iff {b : Bucket V} {key : Nat} :
    b.position key = none ↔ key ∉ b.nodes.map (·.key) := by
  unfold Bucket.position
  rw [List.findIdx?_eq_none_iff]
  simp only [List.mem_map, not_exists, not_and, beq_eq_false_iff_ne, ne_eq]

theorem isFull_false_iff {b : Bucket V} : b.isFull = false ↔ b.nodes.length < 16 := by
  simp [Bucket.isFull, maxNodes, Consts.MAX_NODES_PER_BUCKET]

theorem isFull_true_iff {b : Bucket V} : b.isFull = true ↔ 16 ≤ b.nodes.length := by
  simp [Bucket.isFull, maxNodes, Consts.MAX_NODES_PER_BUCKET]

theorem isMaxIncoming_false_iff {c : Cfg V} {b : Bucket V} : b.isMaxIncoming c = false ↔
    (b.nodes.filter (fun n => n.st.conn && n.st.incoming)).length < c.maxIncoming := by
  simp [Bucket.isMaxIncoming]

theorem InsertedShape.perm {b : Bucket V} {node : Node V} {nodes' : List (Node V)}
    {fcp' : Option Nat} (hs : InsertedShape b node nodes' fcp') : nodes'.Perm (node :: b.nodes) := by
  rcases hs with ⟨_, rfl, _⟩ | ⟨_, p, _, rfl, _⟩ | ⟨_, _, rfl, _⟩
  · exact List.perm_append_singleton _ _
  · exact insertAt_perm _ _ _
  · exact List.perm_append_singleton _ _

theorem inserted_ninv {c : Cfg V} {tick : Nat} {b : Bucket V} {node : Node V}
    {nodes' : List (Node V)} {fcp' : Option Nat} (hn : NInv c tick b.nodes b.fcp)
    (hshape : InsertedShape b node nodes' fcp') (hfresh : node.key ∉ b.nodes.map (·.key))
    (hlen : b.nodes.length < 16)
    (hin : node.st.conn = true → node.st.incoming = true →
      (b.nodes.filter (fun n => n.st.conn && n.st.incoming)).length < c.maxIncoming)
    (hs : node.stamp = tick) : NInv c tick nodes' fcp' := by
  have hst : ∀ n ∈ b.nodes, n.stamp ≤ node.stamp := by rw [hs]; exact hn.stampsLe
  have hsp := hn.split
  have hp := hshape.perm
  refine ⟨?_, ?_, ?_, ?_, ?_⟩
  · rw [hp.length_eq]; simp; omega
  · rcases hshape with ⟨hc, rfl, rfl⟩ | ⟨hc, p, hf, rfl, rfl⟩ | ⟨hc, hf, rfl, rfl⟩
    · exact split_append_conn hsp hc hst
    · rw [hf] at hsp
      exact split_insert_dis hsp hc hst
    · rw [hf] at hsp
      exact split_append_dis hsp hc hst
  · rw [(hp.map _).nodup_iff]; simp only [List.map_cons, List.nodup_cons]; exact ⟨hfresh, hn.keysNodup⟩
  · rw [(hp.filter _).length_eq, List.filter_cons]
    by_cases hc : (node.st.conn && node.st.incoming) = true
    · rw [if_pos hc]
      simp only [Bool.and_eq_true] at hc
      have := hin hc.1 hc.2
      simp only [List.length_cons]; omega
    · rw [if_neg hc]; exact hn.incoming
  · intro n hm
    rcases List.mem_cons.1 (hp.mem_iff.1 hm) with rfl | hm
    · exact Nat.le_of_eq hs
    · exact hn.stampsLe n hm

/-- every stored node and the pending node of the bucket satisfies `P key value` -/
def BVals (P : Nat → V → Prop) (b : Bucket V) : Prop :=
  (∀ n ∈ b.nodes, P n.key n.value) ∧ ∀ p, b.pending = some p → P p.node.key p.node.value

def BKeys (P : Nat → Prop) (b : Bucket V) : Prop := BVals (fun k _ => P k) b

theorem bvals_empty (P : Nat → V → Prop) : BVals P ({} : Bucket V) :=
  ⟨nofun, nofun⟩

theorem BVals.clearPending {P : Nat → V → Prop} {b : Bucket V} (h : BVals P b) :
    BVals P { b with pending := none } := ⟨h.1, nofun⟩

theorem insert_inv {c : Cfg V} {now tick : Nat} {b : Bucket V} {node : Node V}
    (h : BInv c tick b) (hs : node.stamp = tick) : BInv c tick (Bucket.insert c now b node).1 := by
  rcases insert_cases c now b node with ⟨h1, _⟩ | ⟨n0, hr, hpos, _, hp⟩ |
    ⟨_, hpos, hfull, hin, hpend, hshape⟩
  · rw [h1]; exact h
  · rw [hr]
    refine binv_mk (binv_iff.1 h).1 ?_
    intro p hp; cases hp
    exact position_none_iff.1 hpos
  · refine binv_iff.2 ⟨inserted_ninv (binv_iff.1 h).1 hshape (position_none_iff.1 hpos)
      (isFull_false_iff.1 hfull) (fun h1 h2 => isMaxIncoming_false_iff.1 (hin.2 h1 h2)) hs, ?_⟩
    intro p' hp'
    obtain ⟨hb, hne⟩ := hpend p' hp'
    rw [(hshape.perm.map _).mem_iff]
    simp only [List.map_cons, List.mem_cons, not_or]
    exact ⟨hne, h.pendingFresh p' hb⟩

theorem insert_vals {c : Cfg V} {now : Nat} {b : Bucket V} {node : Node V} {P : Nat → V → Prop}
    (h : BVals P b) (hn : P node.key node.value) : BVals P (Bucket.insert c now b node).1 := by
  rcases insert_cases c now b node with ⟨h1, _⟩ | ⟨n0, hr, _⟩ | ⟨_, _, _, _, hpend, hshape⟩
  · rw [h1]; exact h
  · rw [hr]
    refine ⟨h.1, ?_⟩
    intro p hp; cases hp; exact hn
  · refine ⟨?_, fun p' hp' => h.2 p' (hpend p' hp').1⟩
    intro n hn'
    rcases List.mem_cons.1 (hshape.perm.mem_iff.1 hn') with rfl | hn'
    · exact hn
    · exact h.1 n hn'

/-- The outcomes of `apply_pending`: not due; dropped; the head evicted; inserted where there is room.
On eviction the model's `checkedSub1` arithmetic yields `InsertedShape` only for `fcp ≠ some 0`, which
the invariant supplies (`NInv.tail`); `Perm` serves users without the invariant. -/
def ApplySpec (c : Cfg V) (now tick : Nat) (b : Bucket V) (r : Bucket V × Option Applied) : Prop :=
  (r = (b, none) ∧ ∀ p, b.pending = some p → ¬ p.replace ≤ now) ∨
  (∃ p, b.pending = some p ∧ p.replace ≤ now ∧ r = ({ b with pending := none }, none)) ∨
  (∃ p n0 rest, b.pending = some p ∧ p.replace ≤ now ∧ b.isFull = true ∧ b.nodes = n0 :: rest ∧
      n0.st.conn = false ∧ Admits c b p.node ∧
      r.2 = some ⟨p.node.key, some n0.key⟩ ∧ r.1.pending = none ∧
      r.1.nodes.Perm ({ p.node with stamp := tick } :: rest) ∧
      (b.fcp ≠ some 0 → InsertedShape { nodes := rest, fcp := b.fcp.bind checkedSub1 }
        { p.node with stamp := tick } r.1.nodes r.1.fcp)) ∨
  (∃ p, b.pending = some p ∧ p.replace ≤ now ∧ b.isFull = false ∧
      r.1 = (Bucket.insert c now { b with pending := none } { p.node with stamp := tick }).1 ∧
      (r.2 = none ∨ r.2 = some ⟨p.node.key, none⟩))

theorem applyPending_cases (c : Cfg V) (now tick : Nat) (b : Bucket V) :
    ApplySpec c now tick b (b.applyPending c now tick) := by
  generalize hr : b.applyPending c now tick = r
  unfold Bucket.applyPending at hr
  obtain ⟨nodes, fcp, pending⟩ := b
  cases pending with
  | none => subst hr; exact Or.inl ⟨rfl, nofun⟩
  | some p =>
    simp only at hr
    by_cases h1 : p.replace ≤ now
    case neg =>
      rw [if_neg h1] at hr; subst hr
      exact Or.inl ⟨rfl, fun q hq => by cases hq; exact h1⟩
    rw [if_pos h1] at hr
    have drop : (({ nodes := nodes, fcp := fcp, pending := none } : Bucket V), (none : Option Applied)) = r →
        ApplySpec c now tick ⟨nodes, fcp, some p⟩ r := fun h => Or.inr (Or.inl ⟨p, rfl, h1, h.symm⟩)
    by_cases h2 : Bucket.isFull { nodes := nodes, fcp := fcp, pending := none } = true
    · rw [if_pos h2] at hr
      cases nodes with
      | nil => exact drop hr
      | cons n0 rest =>
        simp only at hr
        by_cases h3 : n0.st.conn = true
        · rw [if_pos h3] at hr; exact drop hr
        rw [if_neg h3] at hr
        by_cases h4 : (!c.bucketFilter p.node.value
            (Bucket.values { nodes := n0 :: rest, fcp := fcp, pending := none })) = true
        · rw [if_pos h4] at hr; exact drop hr
        rw [if_neg h4] at hr
        by_cases h5 : (p.node.st.conn && p.node.st.incoming &&
            Bucket.isMaxIncoming c { nodes := n0 :: rest, fcp := fcp, pending := none }) = true
        · rw [if_pos h5] at hr; exact drop hr
        rw [if_neg h5] at hr
        have hadm : Admits c ⟨n0 :: rest, fcp, none⟩ p.node :=
          ⟨by simpa using h4, fun h6 h7 => by simpa [h6, h7] using h5⟩
        have h3' : n0.st.conn = false := by simpa using h3
        -- the head is evicted: what remains is an insertion into the tail
        have full : ∀ nodes' fcp', nodes'.Perm ({ p.node with stamp := tick } :: rest) →
            (fcp ≠ some 0 → InsertedShape { nodes := rest, fcp := fcp.bind checkedSub1 }
              { p.node with stamp := tick } nodes' fcp') →
            (({ nodes := nodes', fcp := fcp', pending := none } : Bucket V),
              some (⟨p.node.key, some n0.key⟩ : Applied)) = r →
            ApplySpec c now tick ⟨n0 :: rest, fcp, some p⟩ r := fun nodes' fcp' hp hs h =>
          h ▸ Or.inr (Or.inr (Or.inl ⟨p, n0, rest, rfl, h1, h2, rfl, h3', hadm, rfl, rfl, hp, hs⟩))
        by_cases h6 : p.node.st.conn = true
        · rw [if_pos h6] at hr
          refine full _ _ (List.perm_append_singleton _ _) (fun hne => Or.inl ⟨h6, rfl, ?_⟩) hr
          cases fcp with
          | none => rfl
          | some q =>
            cases q with
            | zero => exact absurd rfl hne
            | succ q => rfl
        · rw [if_neg h6] at hr
          have h6' : p.node.st.conn = false := by simpa using h6
          cases fcp with
          | none =>
            exact full _ _ (List.perm_append_singleton _ _)
              (fun _ => Or.inr (Or.inr ⟨h6', rfl, rfl, rfl⟩)) hr
          | some q =>
            cases q with
            | zero => exact drop hr
            | succ ip =>
              exact full _ _ (insertAt_perm _ _ _)
                (fun _ => Or.inr (Or.inl ⟨h6', ip, rfl, rfl, rfl⟩)) hr
    · rw [if_neg h2] at hr
      have h2' : Bucket.isFull { nodes := nodes, fcp := fcp, pending := none } = false := by
        simpa using h2
      refine Or.inr (Or.inr (Or.inr ⟨p, rfl, h1, h2', ?_⟩))
      subst hr
      generalize Bucket.insert c now { nodes := nodes, fcp := fcp, pending := none }
        { p.node with stamp := tick } = x
      obtain ⟨x1, x2⟩ := x
      cases x2 <;> exact ⟨rfl, by first | exact Or.inl rfl | exact Or.inr rfl⟩

/-- Dropping a disconnected head keeps the node-list invariant; `first_connected_pos`, which cannot
have pointed at it, moves down by one. -/
theorem NInv.tail {c : Cfg V} {tick : Nat} {n0 : Node V} {rest : List (Node V)} {fcp : Option Nat}
    (hn : NInv c tick (n0 :: rest) fcp) (h0 : n0.st.conn = false) :
    NInv c tick rest (fcp.bind checkedSub1) ∧ fcp ≠ some 0 := by
  have h := (removed_ninv (pos := 0) (old := n0) hn rfl).1
  have hf : fcpU (n0 :: rest) fcp 0 n0 = fcp.bind checkedSub1 := by
    unfold fcpU; rw [h0]; cases fcp <;> rfl
  rw [hf] at h
  refine ⟨h, ?_⟩
  rintro rfl
  obtain ⟨dis, con, hnodes, _, hcn, hf, _, _⟩ := hn.split
  by_cases hcon : con = []
  · rw [if_pos hcon] at hf; cases hf
  · rw [if_neg hcon] at hf
    cases dis with
    | nil =>
      have : n0 ∈ con := by rw [← List.nil_append con, ← hnodes]; simp
      rw [hcn n0 this] at h0; cases h0
    | cons d ds => cases hf

theorem applyPending_inv (c : Cfg V) (now tick : Nat) (b : Bucket V) (h : BInv c tick b) :
    BInv c tick (b.applyPending c now tick).1 := by
  rcases applyPending_cases c now tick b with ⟨hr, _⟩ | ⟨p, _, _, hr⟩ |
    ⟨p, n0, rest, hp, _, _, hnodes, h0, hin, _, hpend, _, hshape⟩ | ⟨p, hp, _, _, hr, _⟩
  · rw [hr]; exact h
  · rw [hr]; exact h.clearPending
  · have hn := (binv_iff.1 h).1
    rw [hnodes] at hn
    obtain ⟨hn1, hne⟩ := hn.tail h0
    have hsub : rest.Sublist b.nodes := hnodes ▸ List.sublist_cons_self _ _
    refine binv_iff.2 ⟨inserted_ninv (b := ⟨rest, _, none⟩) hn1 (hshape hne) ?_ ?_ ?_ rfl, ?_⟩
    · exact fun hm => h.pendingFresh p hp ((hsub.map _).subset hm)
    · have := hn.len
      show rest.length < 16
      simp only [List.length_cons] at this
      omega
    · exact fun h1 h2 => Nat.lt_of_le_of_lt (hsub.filter _).length_le
        (isMaxIncoming_false_iff.1 (hin.2 h1 h2))
    · rw [hpend]; exact pfresh_none _
  · rw [hr]; exact insert_inv h.clearPending rfl

theorem applyPending_vals {c : Cfg V} {now tick : Nat} {b : Bucket V} {P : Nat → V → Prop}
    (h : BVals P b) : BVals P (b.applyPending c now tick).1 := by
  rcases applyPending_cases c now tick b with ⟨hr, _⟩ | ⟨p, _, _, hr⟩ |
    ⟨p, n0, rest, hp, _, _, hnodes, _, _, _, hpend, hperm, _⟩ | ⟨p, hp, _, _, hr, _⟩
  · rw [hr]; exact h
  · rw [hr]; exact h.clearPending
  · refine ⟨?_, fun p' hp' => by rw [hpend] at hp'; cases hp'⟩
    intro n hn
    rcases List.mem_cons.1 (hperm.mem_iff.1 hn) with rfl | hn
    · exact h.2 p hp
    · exact h.1 n (by rw [hnodes]; exact List.mem_cons_of_mem _ hn)
  · rw [hr]; exact insert_vals h.clearPending (h.2 p hp)

theorem applyPending_keys_subset {c : Cfg V} {now tick : Nat} {b : Bucket V} {k : Nat}
    (hk : k ∈ (b.applyPending c now tick).1.nodes.map (·.key)) :
    k ∈ b.nodes.map (·.key) ∨ ∃ p, b.pending = some p ∧ p.node.key = k := by
  have h : BKeys (fun k => k ∈ b.nodes.map (·.key) ∨ ∃ p, b.pending = some p ∧ p.node.key = k) b :=
    ⟨fun n hn => Or.inl (List.mem_map_of_mem hn), fun p hp => Or.inr ⟨p, hp, rfl⟩⟩
  obtain ⟨n, hn, rfl⟩ := List.mem_map.1 hk
  exact (applyPending_vals (c := c) (now := now) (tick := tick) h).1 n hn

theorem Table.bucket_setBucket_eq (t : Table V) (i : Nat) (b : Bucket V) (h : i < t.buckets.length) :
    (t.setBucket i b).bucket i = b := by
  simp [Table.setBucket, Table.bucket, List.getD_eq_getElem?_getD, h]

theorem Table.bucket_setBucket_ne (t : Table V) (i j : Nat) (b : Bucket V) (h : i ≠ j) :
    (t.setBucket i b).bucket j = t.bucket j := by
  simp [Table.setBucket, Table.bucket, List.getD_eq_getElem?_getD, h]

theorem Table.setBucket_of_length_le (t : Table V) (i : Nat) (b : Bucket V) (h : t.buckets.length ≤ i) :
    t.setBucket i b = t := by
  simp [Table.setBucket, List.set_eq_of_length_le h]

theorem Table.setBucket_bucket (t : Table V) (i : Nat) : t.setBucket i (t.bucket i) = t := by
  cases t with
  | mk lk bs ap tk =>
    simp only [Table.setBucket, Table.bucket, Table.mk.injEq, true_and, and_true]
    by_cases h : i < bs.length
    · rw [List.getD_eq_getElem?_getD, List.getElem?_eq_getElem h]
      simp
    · rw [List.set_eq_of_length_le (by omega)]

@[simp] theorem setBucket_localKey (t : Table V) (i : Nat) (b : Bucket V) :
    (t.setBucket i b).localKey = t.localKey := rfl
@[simp] theorem setBucket_tick (t : Table V) (i : Nat) (b : Bucket V) :
    (t.setBucket i b).tick = t.tick := rfl
@[simp] theorem setBucket_applied (t : Table V) (i : Nat) (b : Bucket V) :
    (t.setBucket i b).applied = t.applied := rfl
@[simp] theorem setBucket_length (t : Table V) (i : Nat) (b : Bucket V) :
    (t.setBucket i b).buckets.length = t.buckets.length := by simp [Table.setBucket]

theorem Table.bucket_mem_or_empty (t : Table V) (i : Nat) :
    t.bucket i ∈ t.buckets ∨ t.bucket i = {} := by
  unfold Table.bucket
  by_cases hi : i < t.buckets.length
  · left; simp [hi]
  · right; simp [Nat.le_of_not_lt hi]

theorem Table.bucket_of_length_le (t : Table V) (i : Nat) (h : t.buckets.length ≤ i) :
    t.bucket i = {} := by
  simp [Table.bucket, List.getD_eq_getElem?_getD, List.getElem?_eq_none h]

theorem Table.bucket_congr {t t' : Table V} (h : t'.buckets = t.buckets) (i : Nat) :
    t'.bucket i = t.bucket i := by simp [Table.bucket, h]

def InBucket (localKey i : Nat) (k : Nat) : Prop := bucketIndex localKey k = some i

theorem tinv_iff {c : Cfg V} {t : Table V} : TInv c t ↔ t.buckets.length = 256 ∧
    ∀ i, i < 256 → BInv c t.tick (t.bucket i) ∧ BKeys (InBucket t.localKey i) (t.bucket i) :=
  ⟨fun h => ⟨h.nBuckets, fun i hi => ⟨h.buckets i hi, h.placed i hi, h.placedPending i hi⟩⟩,
   fun ⟨h1, h2⟩ => ⟨h1, fun i hi => (h2 i hi).1, fun i hi => (h2 i hi).2.1,
     fun i hi => (h2 i hi).2.2⟩⟩

theorem TInv.bucket {c : Cfg V} {t : Table V} (h : TInv c t) (i : Nat) :
    BInv c t.tick (t.bucket i) ∧ BKeys (InBucket t.localKey i) (t.bucket i) := by
  by_cases hi : i < 256
  · exact (tinv_iff.1 h).2 i hi
  · rw [Table.bucket_of_length_le t i (by rw [h.nBuckets]; omega)]
    exact ⟨binv_empty c _, bvals_empty _⟩

theorem TInv.binv {c : Cfg V} {t : Table V} (h : TInv c t) (i : Nat) :
    BInv c t.tick (t.bucket i) := (h.bucket i).1

theorem TInv.bkeys {c : Cfg V} {t : Table V} (h : TInv c t) (i : Nat) :
    BKeys (InBucket t.localKey i) (t.bucket i) := (h.bucket i).2

theorem TInv.congr {c : Cfg V} {t t' : Table V} (h : TInv c t) (h1 : t'.localKey = t.localKey)
    (h2 : t'.buckets = t.buckets) (h3 : t.tick ≤ t'.tick) : TInv c t' := by
  rw [tinv_iff] at h ⊢
  refine ⟨by rw [h2]; exact h.1, fun i hi => ?_⟩
  rw [Table.bucket_congr h2, h1]
  exact ⟨(h.2 i hi).1.mono h3, (h.2 i hi).2⟩

theorem TInv.bump {c : Cfg V} {t : Table V} (h : TInv c t) : TInv c t.bump :=
  h.congr rfl rfl (Nat.le_succ _)

theorem TInv.setBucket {c : Cfg V} {t : Table V} {i : Nat} {b : Bucket V} (h : TInv c t)
    (hb : BInv c t.tick b) (hk : BKeys (InBucket t.localKey i) b) : TInv c (t.setBucket i b) := by
  by_cases hi : i < t.buckets.length
  · rw [tinv_iff] at h ⊢
    refine ⟨by simpa using h.1, fun j hj => ?_⟩
    by_cases hij : i = j
    · subst hij
      rw [Table.bucket_setBucket_eq t i b hi]
      exact ⟨hb, hk⟩
    · rw [Table.bucket_setBucket_ne t i j b hij]
      exact h.2 j hj
  · rw [Table.setBucket_of_length_le t i b (by omega)]; exact h

theorem applyAt_eq (c : Cfg V) (now : Nat) (t : Table V) (i : Nat) :
    ∃ ap, Table.applyAt c now t i =
      { localKey := t.localKey,
        buckets := t.buckets.set i ((t.bucket i).applyPending c now t.tick).1,
        applied := ap, tick := t.tick } := by
  unfold Table.applyAt
  cases h : ((t.bucket i).applyPending c now t.tick).2 with
  | none => exact ⟨t.applied, by simp [h, Table.setBucket]⟩
  | some a => exact ⟨t.applied ++ [a], by simp [h, Table.setBucket]⟩

@[simp] theorem Table.applyAt_localKey (c : Cfg V) (now : Nat) (t : Table V) (i : Nat) :
    (Table.applyAt c now t i).localKey = t.localKey := by
  obtain ⟨ap, h⟩ := applyAt_eq c now t i; rw [h]

@[simp] theorem Table.applyAt_tick (c : Cfg V) (now : Nat) (t : Table V) (i : Nat) :
    (Table.applyAt c now t i).tick = t.tick := by
  obtain ⟨ap, h⟩ := applyAt_eq c now t i; rw [h]

theorem Table.applyAt_buckets (c : Cfg V) (now : Nat) (t : Table V) (i : Nat) :
    (Table.applyAt c now t i).buckets =
      (t.setBucket i ((t.bucket i).applyPending c now t.tick).1).buckets := by
  obtain ⟨ap, h⟩ := applyAt_eq c now t i; rw [h]; rfl

theorem Table.applyAt_bucket_ne (c : Cfg V) (now : Nat) (t : Table V) (i j : Nat) (h : i ≠ j) :
    (Table.applyAt c now t i).bucket j = t.bucket j := by
  rw [Table.bucket_congr (Table.applyAt_buckets c now t i), Table.bucket_setBucket_ne _ _ _ _ h]

theorem Table.applyAt_bucket_eq (c : Cfg V) (now : Nat) (t : Table V) (i : Nat)
    (h : i < t.buckets.length) :
    (Table.applyAt c now t i).bucket i = ((t.bucket i).applyPending c now t.tick).1 := by
  rw [Table.bucket_congr (Table.applyAt_buckets c now t i), Table.bucket_setBucket_eq _ _ _ h]

theorem Table.applyAt_buckets_length (c : Cfg V) (now : Nat) (t : Table V) (i : Nat) :
    (Table.applyAt c now t i).buckets.length = t.buckets.length := by
  rw [Table.applyAt_buckets]; simp

/-- Also for an index beyond the table: the empty bucket has nothing pending. -/
theorem Table.applyAt_bucket_self (c : Cfg V) (now : Nat) (t : Table V) (i : Nat) :
    (Table.applyAt c now t i).bucket i = ((t.bucket i).applyPending c now t.tick).1 := by
  by_cases hi : i < t.buckets.length
  · exact Table.applyAt_bucket_eq c now t i hi
  · rw [Table.bucket_of_length_le _ i (by rw [Table.applyAt_buckets_length]; omega),
      Table.bucket_of_length_le t i (by omega)]
    rfl

theorem applyAt_inv (c : Cfg V) (now : Nat) (t : Table V) (i : Nat) (h : TInv c t) :
    TInv c (Table.applyAt c now t i) := by
  have h' : TInv c (t.setBucket i ((t.bucket i).applyPending c now t.tick).1) :=
    h.setBucket (applyPending_inv c now t.tick _ (h.binv i)) (applyPending_vals (h.bkeys i))
  exact h'.congr (by simp) (Table.applyAt_buckets c now t i) (by simp)

theorem Table.bucket_init (localKey i : Nat) : (Table.init localKey : Table V).bucket i = {} := by
  simp only [Table.init, Table.bucket, List.getD_eq_getElem?_getD, List.getElem?_replicate]
  split <;> rfl

theorem init_tinv (c : Cfg V) (localKey : Nat) : TInv c (Table.init localKey : Table V) := by
  rw [tinv_iff]
  refine ⟨by show (List.replicate numBuckets _).length = 256; rw [List.length_replicate]; rfl, fun i _ => ?_⟩
  rw [Table.bucket_init]
  exact ⟨binv_empty c _, bvals_empty _⟩

theorem Bucket.position_some {b : Bucket V} {key pos : Nat} (h : b.position key = some pos) :
    ∃ old, b.nodes[pos]? = some old ∧ old.key = key := by
  unfold Bucket.position at h
  rw [List.findIdx?_eq_some_iff_getElem] at h
  obtain ⟨hlt, hk, _⟩ := h
  exact ⟨b.nodes[pos], List.getElem?_eq_getElem hlt, by simpa using hk⟩

theorem key_not_mem_removeAt {nodes : List (Node V)} {pos : Nat} {old : Node V}
    (hnd : (nodes.map (·.key)).Nodup) (h : nodes[pos]? = some old) :
    old.key ∉ (removeAt nodes pos).map (·.key) := by
  have hp := (removeAt_perm h).map (·.key)
  rw [hp.nodup_iff] at hnd
  simp only [List.map_cons, List.nodup_cons] at hnd
  exact hnd.1

/-- The bucket left by `remove` / a failed `update_value`, before the pending node is applied. -/
theorem removed_inv {c : Cfg V} {tick : Nat} {b : Bucket V} {pos : Nat} {old : Node V}
    (hb : BInv c tick b) (h : b.nodes[pos]? = some old) :
    BInv c tick (Bucket.fcpForRemoval { b with nodes := removeAt b.nodes pos } pos) := by
  have : Bucket.fcpForRemoval { b with nodes := removeAt b.nodes pos } pos =
      { nodes := removeAt b.nodes pos, fcp := fcpR b.nodes b.fcp pos, pending := b.pending } := by
    unfold Bucket.fcpForRemoval fcpR; cases b.fcp <;> rfl
  rw [this]
  exact binv_mk (removed_ninv (binv_iff.1 hb).1 h).2
    ((binv_iff.1 hb).2.of_sublist (removeAt_sublist _ _))

theorem removed_vals {P : Nat → V → Prop} {b : Bucket V} {pos : Nat} (hb : BVals P b) :
    BVals P (Bucket.fcpForRemoval { b with nodes := removeAt b.nodes pos } pos) :=
  ⟨fun n hn => hb.1 n ((removeAt_sublist _ _).subset hn), hb.2⟩

theorem remove_cases (c : Cfg V) (now tick : Nat) (b : Bucket V) (key : Nat) :
    (b.remove c now tick key).1 = b ∨ ∃ pos old, b.nodes[pos]? = some old ∧ old.key = key ∧
      (b.remove c now tick key).1 =
        ((Bucket.fcpForRemoval { b with nodes := removeAt b.nodes pos } pos).applyPending c now tick).1 := by
  unfold Bucket.remove
  cases hpos : b.position key with
  | none => exact Or.inl rfl
  | some pos =>
    obtain ⟨old, hold, hkey⟩ := Bucket.position_some hpos
    exact Or.inr ⟨pos, old, hold, hkey, rfl⟩

theorem remove_inv {c : Cfg V} {now tick : Nat} {b : Bucket V} {key : Nat} (hb : BInv c tick b) :
    BInv c tick (b.remove c now tick key).1 := by
  rcases remove_cases c now tick b key with h | ⟨pos, old, hold, _, h⟩
  · rw [h]; exact hb
  · rw [h]; exact applyPending_inv c now tick _ (removed_inv hb hold)

theorem remove_vals {c : Cfg V} {now tick : Nat} {b : Bucket V} {key : Nat} {P : Nat → V → Prop}
    (hb : BVals P b) : BVals P (b.remove c now tick key).1 := by
  rcases remove_cases c now tick b key with h | ⟨pos, old, _, _, h⟩
  · rw [h]; exact hb
  · rw [h]; exact applyPending_vals (removed_vals hb)

/-- The bucket into which `update_status` re-inserts the node. -/
def usBucket (b : Bucket V) (pos : Nat) (old : Node V) (conn : Bool) : Bucket V :=
  { nodes := removeAt b.nodes pos, fcp := fcpU b.nodes b.fcp pos old,
    pending := if pos == 0 && conn then none else b.pending }

/-- The node `update_status` re-inserts. -/
def usNode (tick : Nat) (old : Node V) (conn : Bool) (dir : Option Bool) : Node V :=
  { old with st := { conn := conn, incoming := dir.getD old.st.incoming }, stamp := tick }

/-- The results of `insert` for which `update_status` has an arm. -/
def InsertRes.okForUpdate (r : InsertRes) : Prop :=
  r ≠ .full ∧ r ≠ .nodeExists ∧ ∀ k, r ≠ .pending k

theorem updateStatus_some {c : Cfg V} {now tick : Nat} {b : Bucket V} {key pos : Nat}
    {old : Node V} {conn : Bool} {dir : Option Bool}
    (hpos : b.position key = some pos) (hold : b.nodes[pos]? = some old) :
    (b.updateStatus c now tick key conn dir).1 =
      (Bucket.insert c now (usBucket b pos old conn) (usNode tick old conn dir)).1 ∧
    ((Bucket.insert c now (usBucket b pos old conn) (usNode tick old conn dir)).2.okForUpdate →
      (b.updateStatus c now tick key conn dir).2 ≠ .panic) := by
  unfold Bucket.updateStatus
  simp only [hpos, hold]
  generalize hx : Bucket.insert c now _ _ = x
  have hx' : Bucket.insert c now (usBucket b pos old conn) (usNode tick old conn dir) = x := by
    -- the model matches on `dir` where `usNode` takes `getD`
    rw [← hx]; cases dir <;> rfl
  rw [hx']
  obtain ⟨x1, x2⟩ := x
  cases x2 with
  | inserted =>
    simp only [apply_ite Prod.fst, apply_ite Prod.snd, ite_self, true_and]
    exact fun _ => ite_ne nofun (ite_ne nofun nofun)
  | tooManyIncoming => exact ⟨rfl, fun _ => nofun⟩
  | failedFilter => exact ⟨rfl, fun _ => nofun⟩
  | pending k => exact ⟨rfl, fun h => absurd rfl (h.2.2 k)⟩
  | full => exact ⟨rfl, fun h => absurd rfl h.1⟩
  | nodeExists => exact ⟨rfl, fun h => absurd rfl h.2.1⟩

theorem updateStatus_none (c : Cfg V) (now tick : Nat) {b : Bucket V} {key : Nat}
    (conn : Bool) (dir : Option Bool) (hpos : b.position key = none) :
    ((b.updateStatus c now tick key conn dir).1 = b ∨
      ∃ p st', b.pending = some p ∧ (b.updateStatus c now tick key conn dir).1 =
        { b with pending := some { p with node := { p.node with st := st' } } }) ∧
    (b.updateStatus c now tick key conn dir).2 ≠ .panic := by
  unfold Bucket.updateStatus
  simp only [hpos]
  cases hp : b.pending with
  | none => exact ⟨Or.inl rfl, nofun⟩
  | some p =>
    simp only
    by_cases hk : (p.node.key == key) = true
    · rw [if_pos hk]
      exact ⟨Or.inr ⟨p, _, rfl, rfl⟩, nofun⟩
    · rw [if_neg hk]; exact ⟨Or.inl rfl, nofun⟩

theorem updateStatus_inv {c : Cfg V} {now tick : Nat} {b : Bucket V} {key : Nat}
    {conn : Bool} {dir : Option Bool} (hb : BInv c tick b) :
    BInv c tick (b.updateStatus c now tick key conn dir).1 := by
  cases hpos : b.position key with
  | none =>
    rcases (updateStatus_none c now tick conn dir hpos).1 with h | ⟨p, st', hp, h⟩
    · rw [h]; exact hb
    · rw [h]
      refine binv_mk (binv_iff.1 hb).1 ?_
      intro p' hp'
      cases hp'
      exact hb.pendingFresh p hp
  | some pos =>
    obtain ⟨old, hold, _⟩ := Bucket.position_some hpos
    rw [(updateStatus_some hpos hold).1]
    refine insert_inv (b := usBucket b pos old conn)
      (binv_mk (removed_ninv (binv_iff.1 hb).1 hold).1 ?_) rfl
    by_cases h : (pos == 0 && conn) = true
    · rw [if_pos h]; exact pfresh_none _
    · rw [if_neg h]; exact (binv_iff.1 hb).2.of_sublist (removeAt_sublist b.nodes pos)

theorem updateStatus_vals {c : Cfg V} {now tick : Nat} {b : Bucket V} {key : Nat}
    {conn : Bool} {dir : Option Bool} {P : Nat → V → Prop} (hb : BVals P b) :
    BVals P (b.updateStatus c now tick key conn dir).1 := by
  cases hpos : b.position key with
  | none =>
    rcases (updateStatus_none c now tick conn dir hpos).1 with h | ⟨p, st', hp, h⟩
    · rw [h]; exact hb
    · rw [h]
      refine ⟨hb.1, ?_⟩
      intro p' hp'
      cases hp'
      exact hb.2 p hp
  | some pos =>
    obtain ⟨old, hold, _⟩ := Bucket.position_some hpos
    rw [(updateStatus_some hpos hold).1]
    refine insert_vals ⟨fun n hn => hb.1 n ((removeAt_sublist _ _).subset hn), fun p hp => ?_⟩
      (hb.1 old (List.mem_of_getElem? hold))
    unfold usBucket at hp
    by_cases h : (pos == 0 && conn) = true
    · simp [h] at hp
    · simp only [h] at hp; exact hb.2 p hp

theorem usBucket_isFull {c : Cfg V} {tick : Nat} {b : Bucket V} {pos : Nat} {old : Node V}
    (conn : Bool) (hb : BInv c tick b) (hold : b.nodes[pos]? = some old) :
    (usBucket b pos old conn).isFull = false := by
  apply isFull_false_iff.2
  show (removeAt b.nodes pos).length < 16
  rw [removeAt_length _ _ (List.getElem?_eq_some_iff.1 hold).1]
  have := hb.len
  omega

theorem usInsert_ok {c : Cfg V} {now tick : Nat} {b : Bucket V} {pos : Nat} {old : Node V}
    {conn : Bool} {dir : Option Bool} (hb : BInv c tick b) (hold : b.nodes[pos]? = some old) :
    (Bucket.insert c now (usBucket b pos old conn) (usNode tick old conn dir)).2.okForUpdate := by
  have hnf := usBucket_isFull conn hb hold
  have hposn : (usBucket b pos old conn).position (usNode tick old conn dir).key = none :=
    position_none_iff.2 (key_not_mem_removeAt (old := old) hb.keysNodup hold)
  rcases insert_cases c now (usBucket b pos old conn) (usNode tick old conn dir) with
    ⟨_, _, h2, h3, h4⟩ | ⟨n0, _, _, hfull, _⟩ | ⟨h, _⟩
  · refine ⟨fun e => ?_, fun e => ?_, h2⟩
    · have := h4 e; rw [hnf] at this; cases this
    · have := h3 e; rw [hposn] at this; cases this
  · rw [hnf] at hfull; cases hfull
  · rw [h]; exact ⟨nofun, nofun, nofun⟩

theorem updateStatus_ne_panic {c : Cfg V} {now tick : Nat} {b : Bucket V} {key : Nat}
    {conn : Bool} {dir : Option Bool} (hb : BInv c tick b) :
    (b.updateStatus c now tick key conn dir).2 ≠ .panic := by
  cases hpos : b.position key with
  | none => exact (updateStatus_none _ _ _ _ _ hpos).2
  | some pos =>
    obtain ⟨old, hold, _⟩ := Bucket.position_some hpos
    exact (updateStatus_some hpos hold).2 (usInsert_ok hb hold)

theorem updateStatus_head_pending {c : Cfg V} {now tick : Nat} {b : Bucket V} {n0 : Node V}
    {rest : List (Node V)} {dir : Option Bool} (hn : b.nodes = n0 :: rest) (hinv : BInv c tick b) :
    (b.updateStatus c now tick n0.key true dir).1.pending = none := by
  have hold : b.nodes[0]? = some n0 := by rw [hn]; rfl
  have hpos : b.position n0.key = some 0 := by simp [Bucket.position, hn, List.findIdx?_cons]
  rw [(updateStatus_some hpos hold).1]
  have hpn : (usBucket b 0 n0 true).pending = none := rfl
  have hnf := usBucket_isFull true hinv hold
  rcases insert_cases c now (usBucket b 0 n0 true) (usNode tick n0 true dir) with
    ⟨h1, _⟩ | ⟨k, _, _, hfull, _⟩ | ⟨_, _, _, _, hpend, _⟩
  · rw [h1]; rfl
  · rw [hnf] at hfull; cases hfull
  · cases hp : (Bucket.insert c now (usBucket b 0 n0 true) (usNode tick n0 true dir)).1.pending with
    | none => rfl
    | some p' =>
      have := (hpend p' hp).1
      rw [hpn] at this; cases this

/-- Everything the invariant looks at in a node. -/
def sig (n : Node V) : Nat × Status × Nat := (n.key, n.st, n.stamp)

theorem forall_of_sig {a b : List (Node V)} (h : a.map sig = b.map sig)
    {P : Nat × Status × Nat → Prop} (hb : ∀ m ∈ b, P (sig m)) : ∀ n ∈ a, P (sig n) := by
  have : ∀ x ∈ b.map sig, P x := List.forall_mem_map.2 hb
  rw [← h] at this
  exact List.forall_mem_map.1 this

theorem pairwise_of_sig {a b : List (Node V)} (h : a.map sig = b.map sig)
    (hb : b.Pairwise (fun x y => x.stamp ≤ y.stamp)) : a.Pairwise (fun x y => x.stamp ≤ y.stamp) := by
  have h1 : (b.map sig).Pairwise (fun x y => x.2.2 ≤ y.2.2) :=
    (List.pairwise_map (f := sig) (R := fun x y => x.2.2 ≤ y.2.2)).2 hb
  rw [← h] at h1
  exact (List.pairwise_map (f := sig) (R := fun x y => x.2.2 ≤ y.2.2)).1 h1

theorem keys_of_sig {a b : List (Node V)} (h : a.map sig = b.map sig) :
    a.map (·.key) = b.map (·.key) := by
  have := congrArg (List.map Prod.fst) h
  rw [List.map_map, List.map_map] at this
  exact this

theorem Split.of_sig {nodes nodes' : List (Node V)} {fcp : Option Nat} (h : Split nodes fcp)
    (hm : nodes'.map sig = nodes.map sig) : Split nodes' fcp := by
  obtain ⟨dis, con, rfl, hd, hc, hf, pd, pc⟩ := h
  rw [List.map_append, List.map_eq_append_iff] at hm
  obtain ⟨dis', con', rfl, hd', hc'⟩ := hm
  have hl : dis'.length = dis.length := by simpa using congrArg List.length hd'
  have hn : con' = [] ↔ con = [] := by
    rw [← List.map_eq_nil_iff (f := sig), hc', List.map_eq_nil_iff]
  refine ⟨dis', con', rfl, forall_of_sig hd' (P := fun x => x.2.1.conn = false) hd,
    forall_of_sig hc' (P := fun x => x.2.1.conn = true) hc, ?_,
    pairwise_of_sig hd' pd, pairwise_of_sig hc' pc⟩
  rw [hf, hl]
  by_cases hcon : con = []
  · rw [if_pos hcon, if_pos (hn.2 hcon)]
  · rw [if_neg hcon, if_neg (fun h => hcon (hn.1 h))]

theorem NInv.of_sig {c : Cfg V} {tick : Nat} {nodes nodes' : List (Node V)} {fcp : Option Nat}
    (h : NInv c tick nodes fcp) (hm : nodes'.map sig = nodes.map sig) : NInv c tick nodes' fcp := by
  have hkeys : nodes'.map (·.key) = nodes.map (·.key) := keys_of_sig hm
  refine ⟨?_, h.split.of_sig hm, hkeys ▸ h.keysNodup, ?_,
    forall_of_sig hm (P := fun x => x.2.2 ≤ tick) h.stampsLe⟩
  · have := congrArg List.length hm
    simp only [List.length_map] at this
    rw [this]; exact h.len
  · have e : ∀ l : List (Node V), (l.filter (fun n => n.st.conn && n.st.incoming)).length =
        ((l.map sig).filter (fun x => x.2.1.conn && x.2.1.incoming)).length := by
      intro l; rw [List.filter_map, List.length_map]; rfl
    rw [e, hm, ← e]; exact h.incoming

theorem map_sig_set {nodes : List (Node V)} {pos : Nat} {node x : Node V}
    (h : nodes[pos]? = some node) (hx : sig x = sig node) :
    (nodes.set pos x).map sig = nodes.map sig := by
  obtain ⟨hlt, rfl⟩ := List.getElem?_eq_some_iff.1 h
  rw [List.map_set, hx, ← List.getElem_map sig (h := by simpa using hlt), List.set_getElem_self]

/-- The outcomes of `update_value`: nothing changed; the node removed by the bucket filter; its value
replaced; the pending node's value replaced. -/
def UpdateValueSpec (c : Cfg V) (b : Bucket V) (key : Nat) (value : V)
    (r : Bucket V × UpdateRes) : Prop :=
  (r.1 = b ∧ (r.2 = .notModified ∨ r.2 = .failed .keyNonExistent)) ∨
  (∃ pos node, b.nodes[pos]? = some node ∧
      r = (Bucket.fcpForRemoval { b with nodes := removeAt b.nodes pos } pos, .failed .bucketFilter)) ∨
  (∃ pos node, b.nodes[pos]? = some node ∧ node.key = key ∧
      c.bucketFilter value ((removeAt b.nodes pos).map (·.value)) = true ∧
      r = ({ b with nodes := b.nodes.set pos { node with value := value } }, .updated)) ∨
  (∃ p, b.pending = some p ∧ p.node.key = key ∧
      r = ({ b with pending := some { p with node := { p.node with value := value } } }, .updatedPending))

theorem updateValue_cases (c : Cfg V) (b : Bucket V) (key : Nat) (value : V) :
    UpdateValueSpec c b key value (b.updateValue c key value) := by
  unfold UpdateValueSpec Bucket.updateValue
  cases hpos : b.position key with
  | some pos =>
    obtain ⟨node, hnode, hkey⟩ := Bucket.position_some hpos
    simp only [hnode]
    by_cases hv : node.value = value
    · rw [if_pos hv]; exact Or.inl ⟨rfl, Or.inl rfl⟩
    · rw [if_neg hv]
      by_cases hf : (!c.bucketFilter value ((removeAt b.nodes pos).map (·.value))) = true
      · rw [if_pos hf]
        exact Or.inr (Or.inl ⟨pos, node, hnode, rfl⟩)
      · rw [if_neg hf, insertAt_removeAt _ (List.getElem?_eq_some_iff.1 hnode).1]
        exact Or.inr (Or.inr (Or.inl ⟨pos, node, hnode, hkey, by simpa using hf, rfl⟩))
  | none =>
    cases hp : b.pending with
    | none => exact Or.inl ⟨rfl, Or.inr rfl⟩
    | some p =>
      simp only
      by_cases hk : (p.node.key == key) = true
      · rw [if_pos hk]
        exact Or.inr (Or.inr (Or.inr ⟨p, rfl, beq_iff_eq.1 hk, rfl⟩))
      · rw [if_neg hk]; exact Or.inl ⟨rfl, Or.inr rfl⟩

theorem updateValue_inv {c : Cfg V} {tick : Nat} {b : Bucket V} {key : Nat} {value : V}
    (hb : BInv c tick b) : BInv c tick (b.updateValue c key value).1 := by
  rcases updateValue_cases c b key value with ⟨h, _⟩ | ⟨pos, node, hn, h⟩ | ⟨pos, node, hn, _, _, h⟩ |
    ⟨p, hp, _, h⟩
  · rw [h]; exact hb
  · rw [h]; exact removed_inv hb hn
  · rw [h]
    have hm := map_sig_set (x := { node with value := value }) hn rfl
    refine binv_mk ((binv_iff.1 hb).1.of_sig hm) (fun p hp => ?_)
    rw [keys_of_sig hm]
    exact hb.pendingFresh p hp
  · rw [h]
    refine binv_mk (binv_iff.1 hb).1 ?_
    intro p' hp'
    cases hp'
    exact hb.pendingFresh p hp

theorem updateValue_vals {c : Cfg V} {b : Bucket V} {key : Nat} {value : V} {P : Nat → V → Prop}
    (hb : BVals P b) (hv : P key value) : BVals P (b.updateValue c key value).1 := by
  rcases updateValue_cases c b key value with ⟨h, _⟩ | ⟨pos, node, hn, h⟩ |
    ⟨pos, node, hn, hk, _, h⟩ | ⟨p, hp, hk, h⟩
  · rw [h]; exact hb
  · rw [h]; exact removed_vals hb
  · rw [h]
    refine ⟨fun n hn' => ?_, hb.2⟩
    rcases List.mem_or_eq_of_mem_set hn' with h1 | rfl
    · exact hb.1 n h1
    · exact hk ▸ hv
  · rw [h]
    refine ⟨hb.1, fun p' hp' => ?_⟩
    cases hp'
    exact hk ▸ hv

theorem updateValue_ne_panic {c : Cfg V} {b : Bucket V} {key : Nat} {value : V} :
    (b.updateValue c key value).2 ≠ .panic ∧ (b.updateValue c key value).2 ≠ .updatedAndPromoted := by
  rcases updateValue_cases c b key value with ⟨_, h | h⟩ | ⟨pos, node, hn, h⟩ |
    ⟨pos, node, hn, _, _, h⟩ | ⟨p, hp, _, h⟩ <;> rw [h] <;> simp

/-- What a keyed table operation does to the bucket it addresses.  The index tells what the steps
may file under `key`; it is `none` for steps that only move, drop or re-flag nodes. -/
inductive BStep (c : Cfg V) (now tick key : Nat) : Option V → Bucket V → Bucket V → Prop
  | apply (b) : BStep c now tick key none b (b.applyPending c now tick).1
  | remove (b) : BStep c now tick key none b (b.remove c now tick key).1
  | status (b conn dir) : BStep c now tick key none b (b.updateStatus c now tick key conn dir).1
  | insert (b v st) : b.position key = none → BStep c now tick key (some v) b
      (b.insert c now { key := key, value := v, st := st, stamp := tick }).1
  | value (b v) : BStep c now tick key (some v) b (b.updateValue c key v).1
  | weaken {b b'} (v) : BStep c now tick key none b b' → BStep c now tick key (some v) b b'
  | comp {f b b' b''} : BStep c now tick key f b b' → BStep c now tick key f b' b'' →
      BStep c now tick key f b b''

theorem BStep.lift {c : Cfg V} {now tick key : Nat} {b b' : Bucket V}
    (h : BStep c now tick key none b b') : ∀ f, BStep c now tick key f b b'
  | none => h
  | some v => h.weaken v

theorem BStep.binv {c : Cfg V} {now tick key : Nat} {f : Option V} {b b' : Bucket V}
    (h : BStep c now tick key f b b') (hb : BInv c tick b) : BInv c tick b' := by
  induction h with
  | apply b => exact applyPending_inv c now tick b hb
  | remove b => exact remove_inv hb
  | status b conn dir => exact updateStatus_inv hb
  | insert b v st _ => exact insert_inv hb rfl
  | value b v => exact updateValue_inv hb
  | weaken v _ ih => exact ih hb
  | comp _ _ ih1 ih2 => exact ih2 (ih1 hb)

theorem BStep.bvals {c : Cfg V} {now tick key : Nat} {f : Option V} {b b' : Bucket V}
    {P : Nat → V → Prop} (h : BStep c now tick key f b b') (hf : ∀ v, f = some v → P key v)
    (hb : BVals P b) : BVals P b' := by
  induction h with
  | apply b => exact applyPending_vals hb
  | remove b => exact remove_vals hb
  | status b conn dir => exact updateStatus_vals hb
  | insert b v st _ => exact insert_vals hb (hf v rfl)
  | value b v => exact updateValue_vals hb (hf v rfl)
  | weaken v _ ih => exact ih nofun hb
  | comp _ _ ih1 ih2 => exact ih2 hf (ih1 hf hb)

/-- `t'` is `t` with bucket `i` rewritten by `BStep`s for `key`; besides, only `applied` may differ. -/
structure Touch (c : Cfg V) (now key : Nat) (f : Option V) (i : Nat) (t t' : Table V) : Prop where
  localKey : t'.localKey = t.localKey
  tick : t'.tick = t.tick
  step : ∃ b', t'.buckets = t.buckets.set i b' ∧ BStep c now t.tick key f (t.bucket i) b'

theorem touch_applyAt (c : Cfg V) (now key : Nat) (t : Table V) (i : Nat) :
    Touch c now key none i t (Table.applyAt c now t i) :=
  ⟨Table.applyAt_localKey .., Table.applyAt_tick .., _, Table.applyAt_buckets .., .apply _⟩

theorem touch_applyAt_set {c : Cfg V} {now key : Nat} {f : Option V} {t : Table V} {i : Nat}
    {b' : Bucket V} (h : BStep c now t.tick key f ((Table.applyAt c now t i).bucket i) b') :
    Touch c now key f i t ((Table.applyAt c now t i).setBucket i b') := by
  refine ⟨Table.applyAt_localKey .., Table.applyAt_tick .., b', ?_, ?_⟩
  · show (Table.applyAt c now t i).buckets.set i b' = _
    rw [Table.applyAt_buckets]
    exact List.set_set ..
  · rw [Table.applyAt_bucket_self] at h
    exact ((BStep.apply _).lift f).comp h

/-- A keyed operation bumps the clock and, unless `key` is the local one, rewrites its bucket. -/
def Keyed (c : Cfg V) (now key : Nat) (f : Option V) (t t' : Table V) : Prop :=
  t' = t.bump ∨ ∃ i, bucketIndex t.localKey key = some i ∧ Touch c now key f i t.bump t'

theorem updateNodeStatus_keyed (c : Cfg V) (now : Nat) (t : Table V) (key : Nat) (conn : Bool)
    (dir : Option Bool) : Keyed c now key none t (t.updateNodeStatus c now key conn dir).1 := by
  unfold Table.updateNodeStatus
  simp only
  cases hbi : bucketIndex t.bump.localKey key with
  | none => exact Or.inl rfl
  | some i => exact Or.inr ⟨i, hbi, touch_applyAt_set (.status _ conn dir)⟩

theorem remove_keyed (c : Cfg V) (now : Nat) (t : Table V) (key : Nat) :
    Keyed c now key none t (t.remove c now key).1 := by
  unfold Table.remove
  simp only
  cases hbi : bucketIndex t.bump.localKey key with
  | none => exact Or.inl rfl
  | some i => exact Or.inr ⟨i, hbi, touch_applyAt_set (.remove _)⟩

theorem entryTouch_keyed (c : Cfg V) (now : Nat) (t : Table V) (key : Nat) :
    Keyed c now key none t (t.entryTouch c now key) := by
  unfold Table.entryTouch
  simp only
  cases hbi : bucketIndex t.bump.localKey key with
  | none => exact Or.inl rfl
  | some i => exact Or.inr ⟨i, hbi, touch_applyAt c now key t.bump i⟩

theorem Table.passesTableFilter_bump (c : Cfg V) (t : Table V) (key : Nat) (v : V) :
    Table.passesTableFilter c t.bump key v = Table.passesTableFilter c t key v := rfl

theorem updateNode_keyed (c : Cfg V) (now : Nat) (t : Table V) (key : Nat) (v : V)
    (state : Option Bool) :
    ∃ f, (∀ w, f = some w → w = v ∧ Table.passesTableFilter c t key v = true) ∧
      Keyed c now key f t (t.updateNode c now key v state).1 := by
  unfold Table.updateNode
  simp only
  cases hbi : bucketIndex t.bump.localKey key with
  | none => exact ⟨none, nofun, Or.inl rfl⟩
  | some i =>
    simp only
    by_cases hp : (!Table.passesTableFilter c t.bump key v) = true
    · rw [if_pos hp]
      exact ⟨none, nofun, Or.inr ⟨i, hbi, touch_applyAt_set (.remove _)⟩⟩
    · rw [if_neg hp]
      have hp' : Table.passesTableFilter c t key v = true := by
        simpa [Table.passesTableFilter_bump] using hp
      refine ⟨some v, fun w h => ⟨(Option.some.inj h).symm, hp'⟩, Or.inr ⟨i, hbi, ?_⟩⟩
      by_cases hf : (Bucket.updateValue c ((Table.applyAt c now t.bump i).bucket i) key v).snd.isFailed = true
      · rw [if_pos hf]
        exact touch_applyAt_set (.value _ v)
      · rw [if_neg hf]
        cases state with
        | none => exact touch_applyAt_set (.value _ v)
        | some s => exact touch_applyAt_set ((BStep.value _ v).comp ((BStep.status _ s none).weaken v))

theorem insertOrUpdate_keyed (c : Cfg V) (now : Nat) (t : Table V) (key : Nat) (v : V)
    (st : Status) :
    ∃ f, (∀ w, f = some w → w = v ∧ Table.passesTableFilter c t key v = true) ∧
      Keyed c now key f t (t.insertOrUpdate c now key v st).1 := by
  unfold Table.insertOrUpdate
  simp only
  cases hbi : bucketIndex t.bump.localKey key with
  | none => exact ⟨none, nofun, Or.inl rfl⟩
  | some i =>
    simp only
    by_cases hp : (!Table.passesTableFilter c t.bump key v) = true
    · rw [if_pos hp]
      exact ⟨none, nofun, Or.inr ⟨i, hbi, touch_applyAt_set (.remove _)⟩⟩
    · rw [if_neg hp]
      have hp' : Table.passesTableFilter c t key v = true := by
        simpa [Table.passesTableFilter_bump] using hp
      refine ⟨some v, fun w h => ⟨(Option.some.inj h).symm, hp'⟩, Or.inr ⟨i, hbi, ?_⟩⟩
      by_cases hpos : (((Table.applyAt c now t.bump i).bucket i).position key).isNone = true
      · rw [if_pos hpos]
        exact touch_applyAt_set (.insert _ v st (by simpa using hpos))
      · rw [if_neg hpos]
        by_cases hf : (Bucket.updateStatus c now t.bump.tick ((Table.applyAt c now t.bump i).bucket i)
            key st.conn (some st.incoming)).snd.isFailed = true
        · rw [if_pos hf]
          exact touch_applyAt_set ((BStep.status _ st.conn (some st.incoming)).weaken v)
        · rw [if_neg hf]
          exact touch_applyAt_set
            (((BStep.status _ st.conn (some st.incoming)).weaken v).comp (.value _ v))

/-- One round of the fold that `Table.closest` is. -/
def cStep (c : Cfg V) (now target : Nat) (acc : Table V × List (Node V)) (i : Nat) :
    Table V × List (Node V) :=
  let t1 := Table.applyAt c now acc.1 i
  (t1, acc.2 ++ sortByDist target (t1.bucket i).nodes)

omit [DecidableEq V] in
theorem closest_eq_fold (c : Cfg V) (now : Nat) (t : Table V) (target : Nat) :
    t.closest c now target =
      (bucketOrder (t.localKey ^^^ target)).foldl (cStep c now target) (t.bump, []) := rfl

omit [DecidableEq V] in
theorem foldl_cStep_fst (c : Cfg V) (now target : Nat) (l : List Nat) (x : Table V × List (Node V)) :
    (l.foldl (cStep c now target) x).1 = l.foldl (fun t i => Table.applyAt c now t i) x.1 := by
  induction l generalizing x with
  | nil => rfl
  | cons i l ih => exact ih _

theorem Table.applyAt_of_none {c : Cfg V} {now : Nat} {t : Table V} {i : Nat}
    (h : ((t.bucket i).applyPending c now t.tick).2 = none) :
    Table.applyAt c now t i = t.setBucket i ((t.bucket i).applyPending c now t.tick).1 := by
  simp only [Table.applyAt, h]

theorem Table.applyAt_of_some {c : Cfg V} {now : Nat} {t : Table V} {i : Nat} {a : Applied}
    (h : ((t.bucket i).applyPending c now t.tick).2 = some a) :
    Table.applyAt c now t i =
      { t.setBucket i ((t.bucket i).applyPending c now t.tick).1 with applied := t.applied ++ [a] } := by
  simp only [Table.applyAt, h]
  rfl

theorem applyForDistances_foldl (c : Cfg V) (now m : Nat) (ds : List Nat) (t : Table V) (count : Nat) :
    ∃ l : List Nat,
      applyForDistances c now m ds t count = l.foldl (fun t i => Table.applyAt c now t i) t := by
  induction ds generalizing t count with
  | nil => exact ⟨[], rfl⟩
  | cons d ds ih =>
    unfold applyForDistances
    simp only
    cases ha : ((t.bucket (d - 1)).applyPending c now t.tick).2 with
    | none =>
      simp only
      rw [← Table.applyAt_of_none ha]
      obtain ⟨l, hl⟩ := ih (Table.applyAt c now t (d - 1)) count
      exact ⟨(d - 1) :: l, hl⟩
    | some a =>
      simp only
      rw [← Table.applyAt_of_some ha]
      split
      · exact ⟨[d - 1], rfl⟩
      · obtain ⟨l, hl⟩ := ih (Table.applyAt c now t (d - 1))
          (count + ((t.bucket (d - 1)).applyPending c now t.tick).1.nodes.length)
        exact ⟨(d - 1) :: l, hl⟩

/-- The (key, value) an operation asks the table to file. -/
def Op.Files : Op V → Nat → V → Prop
  | .insertOrUpdate _ k v _, key, value => k = key ∧ v = value
  | .updateNode _ k v _, key, value => k = key ∧ v = value
  | _, _, _ => False

/-- A property of tables that survives a change of clock and of the list of applied entries, and
the rewriting of one bucket by `BStep`s, survives every table operation. -/
theorem Table.step_preserves {c : Cfg V} {op : Op V} {R : Table V → Prop}
    (frame : ∀ t t', R t → t'.localKey = t.localKey → t'.buckets = t.buckets → t.tick ≤ t'.tick → R t')
    (touch : ∀ t t' now key f i, R t → Touch c now key f i t t' →
      (∀ v, f = some v → op.Files key v ∧ bucketIndex t.localKey key = some i ∧
        Table.passesTableFilter c t key v = true) → R t')
    {t : Table V} (h : R t) : R (t.step c op) := by
  have hbump : R t.bump := frame _ _ h rfl rfl (Nat.le_succ _)
  have hfold : ∀ now (l : List Nat) t, R t → R (l.foldl (fun t i => Table.applyAt c now t i) t) := by
    intro now l
    induction l with
    | nil => exact fun _ h => h
    | cons i l ih =>
      -- an `apply` step files nothing, so any key will do
      exact fun t h => ih _ (touch _ _ now 0 none i h (touch_applyAt ..) (nofun))
  have hkeyed : ∀ {now key f t'}, Keyed c now key f t t' →
      (∀ v, f = some v → op.Files key v ∧ Table.passesTableFilter c t key v = true) → R t' := by
    rintro now key f t' (rfl | ⟨i, hbi, ht⟩) hf
    · exact hbump
    · exact touch _ _ now key f i hbump ht (fun v hv => ⟨(hf v hv).1, hbi, (hf v hv).2⟩)
  cases op with
  | insertOrUpdate now key v st =>
    obtain ⟨f, hf, hk⟩ := insertOrUpdate_keyed c now t key v st
    exact hkeyed hk (fun w hw => ⟨⟨rfl, (hf w hw).1.symm⟩, (hf w hw).1 ▸ (hf w hw).2⟩)
  | updateNode now key v s =>
    obtain ⟨f, hf, hk⟩ := updateNode_keyed c now t key v s
    exact hkeyed hk (fun w hw => ⟨⟨rfl, (hf w hw).1.symm⟩, (hf w hw).1 ▸ (hf w hw).2⟩)
  | updateNodeStatus now key conn dir =>
    exact hkeyed (updateNodeStatus_keyed c now t key conn dir) (nofun)
  | remove now key => exact hkeyed (remove_keyed c now t key) (nofun)
  | entry now key => exact hkeyed (entryTouch_keyed c now t key) (nofun)
  | iter now => exact hfold now _ _ hbump
  | closest now target =>
    show R (t.closest c now target).1
    rw [closest_eq_fold, foldl_cStep_fst]
    exact hfold now _ _ hbump
  | nodesByDistances now ds m =>
    obtain ⟨l, hl⟩ := applyForDistances_foldl c now m (validDistances ds) t.bump 0
    show R (applyForDistances c now m (validDistances ds) t.bump 0)
    rw [hl]
    exact hfold now _ _ hbump
  | takeApplied =>
    show R t.takeApplied.1
    unfold Table.takeApplied
    split <;> exact frame _ _ h rfl rfl (Nat.le_refl _)

theorem Touch.tinv {c : Cfg V} {now key : Nat} {f : Option V} {i : Nat} {t t' : Table V}
    (ht : Touch c now key f i t t') (h : TInv c t)
    (hf : ∀ v, f = some v → bucketIndex t.localKey key = some i) : TInv c t' := by
  obtain ⟨b', hb, hs⟩ := ht.step
  exact (h.setBucket (hs.binv (h.binv i))
    (hs.bvals (P := fun k _ => InBucket t.localKey i k) hf (h.bkeys i))).congr
    ht.localKey hb (Nat.le_of_eq ht.tick.symm)

theorem step_tinv (c : Cfg V) (t : Table V) (op : Op V) (h : TInv c t) : TInv c (t.step c op) :=
  Table.step_preserves (fun _ _ h => h.congr)
    (fun _ _ _ _ _ _ h ht hf => ht.tinv h (fun v hv => (hf v hv).2.1)) h

theorem step_localKey (c : Cfg V) (t : Table V) (op : Op V) : (t.step c op).localKey = t.localKey :=
  Table.step_preserves (R := fun t' => t'.localKey = t.localKey) (fun _ _ h h1 _ _ => h1.trans h)
    (fun _ _ _ _ _ _ h ht _ => ht.localKey.trans h) rfl

/-- A bucket's keys, the pending one last: `Table.allKeys` concatenates these. -/
def Bucket.keysP (b : Bucket V) : List Nat :=
  b.nodes.map (·.key) ++ (match b.pending with | some p => [p.node.key] | none => [])

theorem allKeys_eq (t : Table V) : t.allKeys = t.buckets.flatMap Bucket.keysP := rfl

theorem BKeys.of_mem_keysP {P : Nat → Prop} {b : Bucket V} (h : BKeys P b) {k : Nat}
    (hk : k ∈ b.keysP) : P k := by
  unfold Bucket.keysP at hk
  rcases List.mem_append.1 hk with hk | hk
  · obtain ⟨n, hn, rfl⟩ := List.mem_map.1 hk
    exact h.1 n hn
  · cases hp : b.pending with
    | none => rw [hp] at hk; cases hk
    | some p =>
      rw [hp] at hk
      simp only [List.mem_singleton] at hk
      rw [hk]; exact h.2 p hp

theorem BInv.keysP_nodup {c : Cfg V} {tick : Nat} {b : Bucket V} (h : BInv c tick b) :
    b.keysP.Nodup := by
  unfold Bucket.keysP
  cases hp : b.pending with
  | none => simpa using h.keysNodup
  | some p =>
    simp only
    rw [List.nodup_append]
    refine ⟨h.keysNodup, by simp, ?_⟩
    intro a ha b' hb' e
    simp only [List.mem_singleton] at hb'
    subst e; subst hb'
    exact h.pendingFresh p hp ha

theorem bucket_eq_getElem (t : Table V) (i : Nat) (h : i < t.buckets.length) :
    t.bucket i = t.buckets[i] := by
  simp [Table.bucket, List.getD_eq_getElem?_getD, List.getElem?_eq_getElem h]

theorem bucketIndex_self (k : Nat) : bucketIndex k k = none := by
  simp [bucketIndex]

theorem tinv_global_unique {c : Cfg V} {t : Table V} (h : TInv c t) :
    t.allKeys.Nodup ∧ t.localKey ∉ t.allKeys := by
  rw [allKeys_eq]
  constructor
  · rw [List.nodup_iff_pairwise_ne, List.pairwise_flatMap]
    constructor
    · intro b hb
      obtain ⟨i, hi, rfl⟩ := List.mem_iff_getElem.1 hb
      rw [← bucket_eq_getElem t i hi, ← List.nodup_iff_pairwise_ne]
      exact (h.binv i).keysP_nodup
    · rw [List.pairwise_iff_getElem]
      intro i j hi hj hij k hk1 k' hk2 e
      rw [← bucket_eq_getElem t i hi] at hk1
      rw [← bucket_eq_getElem t j hj, ← e] at hk2
      have e1 : bucketIndex t.localKey k = some i := (h.bkeys i).of_mem_keysP hk1
      have e2 : bucketIndex t.localKey k = some j := (h.bkeys j).of_mem_keysP hk2
      rw [e1] at e2
      cases e2
      omega
  · intro hm
    obtain ⟨b, hb, hk⟩ := List.mem_flatMap.1 hm
    obtain ⟨i, hi, rfl⟩ := List.mem_iff_getElem.1 hb
    rw [← bucket_eq_getElem t i hi] at hk
    have e1 : bucketIndex t.localKey t.localKey = some i := (h.bkeys i).of_mem_keysP hk
    rw [bucketIndex_self] at e1
    cases e1

theorem foldl_step_tinv (c : Cfg V) (ops : List (Op V)) (t : Table V) (h : TInv c t) :
    TInv c (ops.foldl (Table.step c) t) := by
  induction ops generalizing t with
  | nil => exact h
  | cons op ops ih => exact ih _ (step_tinv c t op h)

theorem insert_ne_nodeExists {c : Cfg V} {now : Nat} {b : Bucket V} {node : Node V}
    (hpos : b.position node.key = none) : (Bucket.insert c now b node).2 ≠ .nodeExists := by
  intro he
  rcases insert_cases c now b node with ⟨_, _, _, h3, _⟩ | ⟨n0, hr, _⟩ | ⟨h, _⟩
  · have := h3 he; rw [hpos] at this; cases this
  · rw [hr] at he; cases he
  · rw [h] at he; cases he

theorem applyAt_binv {c : Cfg V} {now : Nat} {t : Table V} (h : TInv c t) (i : Nat) :
    BInv c t.tick ((Table.applyAt c now t i).bucket i) := by
  have := (applyAt_inv c now t i h).binv i
  rwa [Table.applyAt_tick] at this

theorem updateNodeStatus_ne_panic {c : Cfg V} {now : Nat} {t : Table V} {key : Nat} {conn : Bool}
    {dir : Option Bool} (h : TInv c t) : (t.updateNodeStatus c now key conn dir).2 ≠ .panic := by
  unfold Table.updateNodeStatus
  simp only
  cases hbi : bucketIndex t.bump.localKey key with
  | none => simp
  | some i =>
    simp only
    exact updateStatus_ne_panic (applyAt_binv h.bump i)

/-- The result `update_node` combines from the results of `update_value` and `update_status` is
`panic` only if one of them is. -/
theorem updateNode_result_ne_panic {ur sr : UpdateRes} (hu : ur ≠ .panic) (hs : sr ≠ .panic) :
    (if sr.isFailed then sr
      else if sr == .panic || ur == .panic then .panic
      else if sr == .updatedAndPromoted then .updatedAndPromoted
      else if ur == .updatedPending then .updatedPending
      else if sr == .updatedPending then .updatedPending
      else if ur == .notModified && sr == .notModified then .notModified
      else .updated : UpdateRes) ≠ .panic := by
  refine ite_ne hs ?_
  rw [if_neg (by simp [hu, hs])]
  exact ite_ne nofun (ite_ne nofun (ite_ne nofun (ite_ne nofun nofun)))

theorem updateNode_ne_panic {c : Cfg V} {now : Nat} {t : Table V} {key : Nat} {value : V}
    {state : Option Bool} (h : TInv c t) : (t.updateNode c now key value state).2 ≠ .panic := by
  unfold Table.updateNode
  simp only
  cases hbi : bucketIndex t.bump.localKey key with
  | none => simp
  | some i =>
    simp only
    have hb := applyAt_binv (now := now) h.bump i
    generalize (Table.applyAt c now t.bump i).bucket i = b0 at hb ⊢
    by_cases hp : (!Table.passesTableFilter c t.bump key value) = true
    · rw [if_pos hp]; simp
    · rw [if_neg hp]
      have hu := (updateValue_ne_panic (c := c) (b := b0) (key := key) (value := value)).1
      have hb1 := updateValue_inv (key := key) (value := value) hb
      generalize Bucket.updateValue c b0 key value = x at hu hb1 ⊢
      obtain ⟨b1, ur⟩ := x
      by_cases hf : ur.isFailed = true
      · rw [if_pos hf]
        exact hu
      · rw [if_neg hf]
        cases state with
        | none => exact updateNode_result_ne_panic (sr := .notModified) hu nofun
        | some s =>
          simp only
          exact updateNode_result_ne_panic hu
            (updateStatus_ne_panic (now := now) (key := key) (conn := s) (dir := none) hb1)

theorem insertOrUpdate_ne_panic {c : Cfg V} {now : Nat} {t : Table V} {key : Nat} {value : V}
    {st : Status} (h : TInv c t) : (t.insertOrUpdate c now key value st).2 ≠ .panic := by
  unfold Table.insertOrUpdate
  simp only
  cases hbi : bucketIndex t.bump.localKey key with
  | none => simp
  | some i =>
    simp only
    have hb := applyAt_binv (now := now) h.bump i
    generalize (Table.applyAt c now t.bump i).bucket i = b0 at hb ⊢
    by_cases hp : (!Table.passesTableFilter c t.bump key value) = true
    · rw [if_pos hp]; simp
    · rw [if_neg hp]
      by_cases hpos : (b0.position key).isNone = true
      · rw [if_pos hpos]
        have hne := insert_ne_nodeExists (c := c) (now := now) (b := b0)
          (node := { key := key, value := value, st := st, stamp := t.bump.tick }) (by simpa using hpos)
        generalize Bucket.insert c now b0 _ = x at hne ⊢
        obtain ⟨b1, r⟩ := x
        cases r <;> first | exact absurd rfl hne | exact TInsertRes.noConfusion
      · rw [if_neg hpos]
        have hs := updateStatus_ne_panic (now := now) (key := key) (conn := st.conn)
          (dir := some st.incoming) hb
        generalize Bucket.updateStatus c now t.bump.tick b0 key st.conn (some st.incoming) = x at hs ⊢
        obtain ⟨b1, sr⟩ := x
        by_cases hf : sr.isFailed = true
        · rw [if_pos hf]; exact TInsertRes.noConfusion
        · rw [if_neg hf]
          have hu := updateValue_ne_panic (c := c) (b := b1) (key := key) (value := value)
          generalize Bucket.updateValue c b1 key value = x at hu ⊢
          obtain ⟨b2, ur⟩ := x
          cases ur <;> cases sr <;>
            first | exact TInsertRes.noConfusion | exact absurd rfl hs | exact absurd rfl hu.1 |
              exact absurd rfl hu.2 | exact absurd rfl hf

end Discv5.KB
