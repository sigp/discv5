/-
Filter exemptions track outstanding exchanges exactly (C13).  Between registering an exemption and
inserting the request or challenge it belongs to the accounting is off by one at one address:
`Bal a k` says it holds except for a surplus of `k` exemptions at `a`, and `Bal a 0` is the invariant
`Good`.  Functions that touch neither requests, challenges nor exemptions are dealt with by `Frame`.
-/
import Discv5Model.Proofs.HandlerBasics
namespace Discv5.H

theorem Tr.skip {α} {P : HState → Prop} (x : α) : Tr P (pure x : M α) (fun _ => P) :=
  Tr.ret x fun _ h => h

def cnt (l : List (Addr × Nat)) (a : Addr) : Nat :=
  match l.find? (·.1 == a) with
  | some e => e.2
  | none => 0

theorem exemptCount_eq (s : HState) (a : Addr) : exemptCount s a = cnt s.exempt a := rfl

@[simp] theorem cnt_nil (a : Addr) : cnt [] a = 0 := rfl
theorem cnt_cons (k : Addr) (v : Nat) (t : List (Addr × Nat)) (a : Addr) :
    cnt ((k, v) :: t) a = if k = a then v else cnt t a := by
  by_cases h : k = a <;> simp [cnt, h]

theorem cnt_eq_zero_of_not_mem (l : List (Addr × Nat)) (a : Addr) (h : a ∉ l.map (·.1)) :
    cnt l a = 0 := by
  induction l with
  | nil => rfl
  | cons x t ih =>
    obtain ⟨k, v⟩ := x
    simp only [List.map_cons, List.mem_cons, not_or] at h
    rw [cnt_cons, if_neg (fun e => h.1 e.symm)]
    exact ih h.2

/-- Mapping the entries and keeping their keys acts on the count of every key present. -/
theorem cnt_map_val {f : Addr × Nat → Addr × Nat} (hf : ∀ p, (f p).1 = p.1) (l : List (Addr × Nat))
    (b : Addr) : cnt (l.map f) b = if b ∈ l.map (·.1) then (f (b, cnt l b)).2 else 0 := by
  induction l with
  | nil => rfl
  | cons x t ih =>
    obtain ⟨k, v⟩ := x
    rw [List.map_cons, show f (k, v) = (k, (f (k, v)).2) from Prod.ext (hf _) rfl]
    simp only [List.map_cons, cnt_cons, ih, List.mem_cons]
    by_cases hk : k = b
    · subst hk; simp
    · have hk' : ¬ b = k := fun e => hk e.symm
      simp only [hk, hk', if_false, false_or]

theorem keys_map_val {f : Addr × Nat → Addr × Nat} (hf : ∀ p, (f p).1 = p.1) (l : List (Addr × Nat)) :
    (l.map f).map (·.1) = l.map (·.1) := by
  rw [List.map_map]
  exact List.map_congr_left fun p _ => hf p

/-- Entries with value zero do not count, provided the keys are distinct. -/
theorem cnt_filter_ne_zero (l : List (Addr × Nat)) (b : Addr) (hn : (l.map (·.1)).Nodup) :
    cnt (l.filter fun p => p.2 != 0) b = cnt l b := by
  induction l with
  | nil => rfl
  | cons x t ih =>
    obtain ⟨k, v⟩ := x
    rw [List.map_cons, List.nodup_cons] at hn
    rw [List.filter_cons, cnt_cons]
    by_cases hv : v = 0
    · subst hv
      rw [if_neg (by simp), ih hn.2]
      split
      · rename_i hk
        exact cnt_eq_zero_of_not_mem t b (hk ▸ hn.1)
      · rfl
    · rw [if_pos (by simpa using hv), cnt_cons, ih hn.2]

theorem cnt_append_single (l : List (Addr × Nat)) (a b : Addr) (v : Nat) (h : a ∉ l.map (·.1)) :
    cnt (l ++ [(a, v)]) b = cnt l b + (if b = a then v else 0) := by
  induction l with
  | nil =>
    by_cases hb : b = a
    · simp [cnt_cons, hb]
    · have hb' : ¬ a = b := fun e => hb e.symm
      simp [cnt_cons, hb, hb']
  | cons x t ih =>
    obtain ⟨k, w⟩ := x
    simp only [List.map_cons, List.mem_cons, not_or] at h
    rw [List.cons_append, cnt_cons, cnt_cons]
    by_cases hk : k = b
    · rw [if_pos hk, if_pos hk, if_neg (fun e : b = a => h.1 (e.symm.trans hk.symm))]; rfl
    · rw [if_neg hk, if_neg hk]; exact ih h.2

def incr (a : Addr) (p : Addr × Nat) : Addr × Nat := if p.1 == a then (p.1, p.2 + 1) else p
def decr (a : Addr) (p : Addr × Nat) : Addr × Nat := if p.1 == a then (p.1, p.2 - 1) else p

def addE (l : List (Addr × Nat)) (a : Addr) : List (Addr × Nat) :=
  if l.any (·.1 == a) then l.map (incr a) else l ++ [(a, 1)]
def remE (l : List (Addr × Nat)) (a : Addr) : List (Addr × Nat) :=
  (l.map (decr a)).filter (fun p => p.2 != 0)

theorem incr_fst (a : Addr) (p : Addr × Nat) : (incr a p).1 = p.1 := by
  unfold incr; split <;> rfl
theorem decr_fst (a : Addr) (p : Addr × Nat) : (decr a p).1 = p.1 := by
  unfold decr; split <;> rfl

theorem any_key_iff {κ α} [BEq κ] [LawfulBEq κ] (l : List (κ × α)) (a : κ) :
    l.any (·.1 == a) = true ↔ a ∈ l.map (·.1) := by
  simp only [List.any_eq_true, List.mem_map, beq_iff_eq]

theorem nodup_keys_snoc {κ α} {l : List (κ × α)} {x : κ × α} (hn : (l.map (·.1)).Nodup)
    (hx : x.1 ∉ l.map (·.1)) : ((l ++ [x]).map (·.1)).Nodup := by
  rw [List.map_append, List.nodup_append]
  refine ⟨hn, by simp, fun y hy z hz e => hx ?_⟩
  rw [← (List.mem_singleton.1 hz : z = x.1), ← e]; exact hy

theorem cnt_addE (l : List (Addr × Nat)) (a b : Addr) :
    cnt (addE l a) b = cnt l b + (if b = a then 1 else 0) := by
  unfold addE
  by_cases h : l.any (·.1 == a) = true
  · rw [if_pos h, cnt_map_val (incr_fst a)]
    by_cases hb : b ∈ l.map (·.1)
    · rw [if_pos hb]; unfold incr; by_cases hba : b = a <;> simp [hba]
    · rw [if_neg hb, cnt_eq_zero_of_not_mem l b hb,
        if_neg (fun e : b = a => hb (e ▸ (any_key_iff l a).1 h))]
  · rw [if_neg h]; exact cnt_append_single l a b 1 (fun hm => h ((any_key_iff l a).2 hm))

theorem keys_addE (l : List (Addr × Nat)) (a : Addr) (h : (l.map (·.1)).Nodup) :
    ((addE l a).map (·.1)).Nodup := by
  unfold addE
  by_cases ha : l.any (·.1 == a) = true
  · rw [if_pos ha, keys_map_val (incr_fst a)]; exact h
  · rw [if_neg ha]; exact nodup_keys_snoc h fun hm => ha ((any_key_iff l a).2 hm)

theorem noZero_addE (l : List (Addr × Nat)) (a : Addr) (h : ∀ e ∈ l, e.2 ≠ 0) :
    ∀ e ∈ addE l a, e.2 ≠ 0 := by
  unfold addE
  intro e he
  split at he
  · obtain ⟨p, hp, rfl⟩ := List.mem_map.1 he
    unfold incr
    split
    · exact Nat.succ_ne_zero _
    · exact h p hp
  · rcases List.mem_append.1 he with he | he
    · exact h e he
    · rw [List.mem_singleton.1 he]; exact Nat.one_ne_zero

theorem keys_remE (l : List (Addr × Nat)) (a : Addr) (h : (l.map (·.1)).Nodup) :
    ((remE l a).map (·.1)).Nodup := by
  unfold remE
  refine List.Pairwise.sublist (List.Sublist.map _ List.filter_sublist) ?_
  rw [keys_map_val (decr_fst a)]; exact h

theorem noZero_remE (l : List (Addr × Nat)) (a : Addr) : ∀ e ∈ remE l a, e.2 ≠ 0 := by
  intro e he
  simpa using (List.mem_filter.1 he).2

theorem cnt_remE (l : List (Addr × Nat)) (a b : Addr) (hn : (l.map (·.1)).Nodup) :
    cnt (remE l a) b = cnt l b - (if b = a then 1 else 0) := by
  unfold remE
  rw [cnt_filter_ne_zero _ _ (by rw [keys_map_val (decr_fst a)]; exact hn), cnt_map_val (decr_fst a)]
  by_cases hb : b ∈ l.map (·.1)
  · rw [if_pos hb]; unfold decr; by_cases hba : b = a <;> simp [hba]
  · rw [if_neg hb, cnt_eq_zero_of_not_mem l b hb, Nat.zero_sub]

def actCnt (l : List Call) (a : Addr) : Nat :=
  (l.filter (fun call => call.contact.na.addr == a)).length
def chCnt (l : List (NA × Challenge × Nat × Nat)) (a : Addr) : Nat :=
  (l.filter (fun e => e.1.addr == a)).length

theorem outstanding_eq (s : HState) (a : Addr) :
    outstanding s a = actCnt s.active a + chCnt s.challenges a := rfl

@[simp] theorem actCnt_nil (a : Addr) : actCnt [] a = 0 := rfl
theorem actCnt_cons (x : Call) (l : List Call) (a : Addr) :
    actCnt (x :: l) a = (if x.contact.na.addr = a then 1 else 0) + actCnt l a := by
  unfold actCnt
  by_cases h : x.contact.na.addr = a
  · simp [h]; omega
  · simp [h]

theorem actCnt_append (l1 l2 : List Call) (a : Addr) :
    actCnt (l1 ++ l2) a = actCnt l1 a + actCnt l2 a := by
  unfold actCnt; rw [List.filter_append, List.length_append]

theorem actCnt_append_single (l : List Call) (x : Call) (a : Addr) :
    actCnt (l ++ [x]) a = actCnt l a + (if x.contact.na.addr = a then 1 else 0) := by
  rw [actCnt_append, actCnt_cons, actCnt_nil, Nat.add_zero]

theorem actCnt_erase (l : List Call) (x : Call) (a : Addr) (h : x ∈ l) :
    actCnt (l.erase x) a + (if x.contact.na.addr = a then 1 else 0) = actCnt l a := by
  rw [show actCnt l a = actCnt (x :: l.erase x) a from
    ((List.perm_cons_erase h).filter _).length_eq, actCnt_cons]
  omega

theorem actCnt_filter_ne (l : List Call) (na : NA) (a : Addr) :
    actCnt l a = actCnt (l.filter (fun call => callNA call != na)) a +
      (if a = na.addr then (l.filter (fun call => callNA call == na)).length else 0) := by
  induction l with
  | nil => simp
  | cons x t ih =>
    rw [actCnt_cons, List.filter_cons, List.filter_cons, ih]
    by_cases hx : callNA x = na
    · have hx' : x.contact.na = na := hx
      simp only [hx, bne_self_eq_false, beq_self_eq_true, Bool.false_eq_true, if_false, if_true,
        List.length_cons, hx']
      by_cases ha : a = na.addr
      · rw [if_pos ha, if_pos ha, if_pos ha.symm]; omega
      · rw [if_neg ha, if_neg ha, if_neg (fun e => ha e.symm)]; omega
    · simp only [hx, bne_iff_ne, ne_eq, not_false_eq_true, beq_iff_eq, if_true, if_false, actCnt_cons]
      omega

theorem actCnt_map (l : List Call) (f : Call → Call) (a : Addr)
    (hf : ∀ x, (f x).contact = x.contact) : actCnt (l.map f) a = actCnt l a := by
  induction l with
  | nil => rfl
  | cons x t ih => rw [List.map_cons, actCnt_cons, actCnt_cons, ih, hf]

@[simp] theorem chCnt_nil (a : Addr) : chCnt [] a = 0 := rfl
theorem chCnt_cons (x : NA × Challenge × Nat × Nat) (l : List (NA × Challenge × Nat × Nat))
    (a : Addr) : chCnt (x :: l) a = (if x.1.addr = a then 1 else 0) + chCnt l a := by
  unfold chCnt
  by_cases h : x.1.addr = a
  · simp [h]; omega
  · simp [h]

theorem chCnt_append_single (l : List (NA × Challenge × Nat × Nat)) (x : NA × Challenge × Nat × Nat)
    (a : Addr) : chCnt (l ++ [x]) a = chCnt l a + (if x.1.addr = a then 1 else 0) := by
  unfold chCnt
  rw [List.filter_append, List.length_append]
  by_cases h : x.1.addr = a <;> simp [h]

theorem chCnt_filter_ne (l : List (NA × Challenge × Nat × Nat)) (na : NA) (a : Addr)
    (hn : (l.map (·.1)).Nodup) (hm : na ∈ l.map (·.1)) :
    chCnt l a = chCnt (l.filter (fun e => e.1 != na)) a + (if na.addr = a then 1 else 0) := by
  induction l with
  | nil => cases hm
  | cons x t ih =>
    rw [List.map_cons, List.nodup_cons] at hn
    rw [List.filter_cons]
    by_cases hx : x.1 = na
    · have h1 : (x.1 != na) = false := by simp [hx]
      rw [h1]; simp only [Bool.false_eq_true, if_false]
      rw [filter_ne_self (hx ▸ hn.1), chCnt_cons, hx]; omega
    · have h1 : (x.1 != na) = true := by simp [hx]
      rw [h1]; simp only [if_true]
      have hm' : na ∈ t.map (·.1) := by
        rcases List.mem_cons.1 hm with e | e
        · exact absurd e.symm hx
        · exact e
      rw [chCnt_cons, chCnt_cons, ih hn.2 hm']; omega

theorem chKeys_filter_ne (l : List (NA × Challenge × Nat × Nat)) (na : NA)
    (hn : (l.map (·.1)).Nodup) :
    ((l.filter (fun e => e.1 != na)).map (·.1)).Nodup ∧
      na ∉ (l.filter (fun e => e.1 != na)).map (·.1) := by
  constructor
  · exact List.Pairwise.sublist (List.Sublist.map _ List.filter_sublist) hn
  · intro h
    rw [List.mem_map] at h
    obtain ⟨e, he, rfl⟩ := h
    rw [List.mem_filter] at he
    simp at he

/-- The accounting holds except for a surplus of `k` exemptions at address `a`; the exemption map
is well formed and at most one challenge per node address exists. -/
structure Bal (a : Addr) (k : Nat) (s : HState) : Prop where
  count : ∀ b, cnt s.exempt b = actCnt s.active b + chCnt s.challenges b + (if b = a then k else 0)
  noZero : ∀ e ∈ s.exempt, e.2 ≠ 0
  keysNodup : (s.exempt.map (·.1)).Nodup
  chNodup : (s.challenges.map (·.1)).Nodup

/-- The strengthened invariant: `ExemptAcc` plus "at most one challenge per node address". -/
def Good (s : HState) : Prop := ExemptAcc s ∧ (s.challenges.map (·.1)).Nodup

theorem good_iff_bal (a : Addr) (s : HState) : Good s ↔ Bal a 0 s := by
  constructor
  · intro ⟨h, hc⟩
    refine ⟨fun b => ?_, h.noZero, h.keysNodup, hc⟩
    simpa [exemptCount_eq, outstanding_eq] using h.count b
  · intro h
    refine ⟨⟨fun b => ?_, h.noZero, h.keysNodup⟩, h.chNodup⟩
    simpa [exemptCount_eq, outstanding_eq] using h.count b

theorem Good.bal {s : HState} (h : Good s) (a : Addr) : Bal a 0 s := (good_iff_bal a s).1 h
theorem Bal.good {a : Addr} {s : HState} (h : Bal a 0 s) : Good s := (good_iff_bal a s).2 h

theorem good_init : Good {} :=
  ⟨⟨fun _ => rfl, (fun _ h => nomatch h), List.nodup_nil⟩, List.nodup_nil⟩

/-- The part of the state the accounting talks about is unchanged. -/
def Same (s s' : HState) : Prop :=
  s'.active = s.active ∧ s'.challenges = s.challenges ∧ s'.exempt = s.exempt

theorem Same.refl (s : HState) : Same s s := ⟨rfl, rfl, rfl⟩
theorem Same.trans {s1 s2 s3 : HState} (h1 : Same s1 s2) (h2 : Same s2 s3) : Same s1 s3 :=
  ⟨h2.1.trans h1.1, h2.2.1.trans h1.2.1, h2.2.2.trans h1.2.2⟩

theorem Bal.same {a : Addr} {k : Nat} {s s' : HState} (h : Bal a k s) (hs : Same s s') :
    Bal a k s' := by
  obtain ⟨h1, h2, h3⟩ := hs
  exact ⟨h1 ▸ h2 ▸ h3 ▸ h.count, h3 ▸ h.noZero, h3 ▸ h.keysNodup, h2 ▸ h.chNodup⟩

theorem Good.same {s s' : HState} (h : Good s) (hs : Same s s') : Good s' :=
  ((h.bal default).same hs).good

/-- A computation that does not touch requests, challenges or exemptions. -/
structure Frame {α} (m : M α) : Prop where
  out : ∀ s os, Same s (m.run (s, os)).2.1

theorem Frame.ret {α} (x : α) : Frame (pure x : M α) := ⟨fun s _ => Same.refl s⟩
theorem Frame.bind {α β} {m : M α} {f : α → M β} (h1 : Frame m) (h2 : ∀ x, Frame (f x)) :
    Frame (m >>= f) := ⟨fun s os => (h1.out s os).trans ((h2 _).out _ _)⟩
theorem Frame.ite {α} {b : Prop} [Decidable b] {m1 m2 : M α} (h1 : Frame m1) (h2 : Frame m2) :
    Frame (if b then m1 else m2) := by
  by_cases h : b
  · rw [if_pos h]; exact h1
  · rw [if_neg h]; exact h2
theorem Frame.emt (o : Out) : Frame (emit o) := ⟨fun s _ => Same.refl s⟩
theorem Frame.snd (na : NA) (p : Pkt) : Frame (send na p) := ⟨fun s _ => Same.refl s⟩
theorem Frame.get : Frame getS := ⟨fun s _ => Same.refl s⟩
theorem Frame.mod (f : HState → HState) (h : ∀ s, Same s (f s)) : Frame (modS f) :=
  ⟨fun s _ => h s⟩
/-- A frame computation keeps every predicate that only depends on requests, challenges and
exemptions. -/
theorem Frame.tr {α} {m : M α} (h : Frame m) {P : HState → Prop}
    (hP : ∀ s s', Same s s' → P s → P s') : Tr P m (fun _ => P) :=
  ⟨fun s os hp => hP _ _ (h.out s os) hp⟩

theorem Frame.bal {α} {m : M α} (h : Frame m) (a : Addr) (k : Nat) :
    Tr (Bal a k) m (fun _ => Bal a k) := h.tr (fun _ _ hs hb => hb.same hs)
theorem Frame.good {α} {m : M α} (h : Frame m) : Tr Good m (fun _ => Good) :=
  h.tr (fun _ _ hs hb => hb.same hs)

theorem frame_freshNonce (c : Cfg) : Frame (freshNonce c) := ⟨fun _ _ => ⟨rfl, rfl, rfl⟩⟩
theorem frame_freshCd (c : Cfg) : Frame (freshCd c) := ⟨fun _ _ => ⟨rfl, rfl, rfl⟩⟩
theorem frame_freshEph (c : Cfg) : Frame (freshEph c) := ⟨fun _ _ => ⟨rfl, rfl, rfl⟩⟩
theorem frame_freshRid (c : Cfg) : Frame (freshRid c) := ⟨fun _ _ => ⟨rfl, rfl, rfl⟩⟩

theorem frame_sessGetMut (c : Cfg) (na : NA) : Frame (sessGetMut c na) := ⟨fun s os => by
  rw [RQ.sessGetMut_run]
  split
  · exact Same.refl _
  · split <;> exact ⟨rfl, rfl, rfl⟩⟩

theorem frame_sessPut (na : NA) (sess : Session) : Frame (sessPut na sess) :=
  Frame.mod _ (fun _ => ⟨rfl, rfl, rfl⟩)
theorem frame_sessInsert (c : Cfg) (na : NA) (sess : Session) : Frame (sessInsert c na sess) :=
  Frame.mod _ (fun _ => ⟨rfl, rfl, rfl⟩)
theorem frame_sessRemove (na : NA) : Frame (sessRemove na) :=
  Frame.mod _ (fun _ => ⟨rfl, rfl, rfl⟩)

theorem frame_removeExpiredSessions (c : Cfg) : Frame (removeExpiredSessions c) :=
  ⟨fun s os => by rw [RQ.removeExpiredSessions_run]; exact ⟨rfl, rfl, rfl⟩⟩

theorem frame_encryptMessage (c : Cfg) (sess : Session) (pt : Msg) :
    Frame (encryptMessage c sess pt) :=
  Frame.bind (frame_freshNonce c) (fun _ => Frame.ret _)

theorem frame_reencryptAll (c : Cfg) (calls : List Call) (sess : Session) (acc : List (Nat × Pkt)) :
    Frame (reencryptAll c calls sess acc) := by
  induction calls generalizing sess acc with
  | nil => exact Frame.ret _
  | cons x t ih =>
    unfold reencryptAll
    exact Frame.bind (frame_encryptMessage ..) (fun r => ih ..)

theorem frame_isAwaitingSession (c : Cfg) (na : NA) : Frame (isAwaitingSession c na) := by
  unfold isAwaitingSession
  refine Frame.bind (frame_sessGetMut c na) (fun r => ?_)
  cases r with
  | some _ => exact Frame.ret _
  | none => exact Frame.bind Frame.get (fun _ => Frame.ret _)

theorem Bal.addE {a : Addr} {k : Nat} {s s' : HState} (h : Bal a k s)
    (h1 : s'.active = s.active) (h2 : s'.challenges = s.challenges)
    (h3 : s'.exempt = addE s.exempt a) : Bal a (k + 1) s' := by
  refine ⟨fun b => ?_, ?_, ?_, ?_⟩
  · rw [h1, h2, h3, cnt_addE, h.count b]
    by_cases hb : b = a
    · simp only [hb, if_true]; omega
    · simp only [hb, if_false]
  · rw [h3]; exact noZero_addE _ _ h.noZero
  · rw [h3]; exact keys_addE _ _ h.keysNodup
  · rw [h2]; exact h.chNodup

theorem Bal.remE {a : Addr} {k : Nat} {s s' : HState} (h : Bal a (k + 1) s)
    (h1 : s'.active = s.active) (h2 : s'.challenges = s.challenges)
    (h3 : s'.exempt = remE s.exempt a) : Bal a k s' := by
  refine ⟨fun b => ?_, ?_, ?_, ?_⟩
  · rw [h1, h2, h3, cnt_remE _ _ _ h.keysNodup, h.count b]
    by_cases hb : b = a
    · simp only [hb, if_true]; omega
    · simp only [hb, if_false]; omega
  · rw [h3]; exact noZero_remE _ _
  · rw [h3]; exact keys_remE _ _ h.keysNodup
  · rw [h2]; exact h.chNodup

/-- Items moved while the exemption list stays: the balance follows the counts. -/
theorem Bal.recount {a : Addr} {k k' : Nat} {s s' : HState} (h : Bal a k s)
    (h3 : s'.exempt = s.exempt) (hch : (s'.challenges.map (·.1)).Nodup)
    (hc : ∀ b, actCnt s'.active b + chCnt s'.challenges b + (if b = a then k' else 0) =
      actCnt s.active b + chCnt s.challenges b + (if b = a then k else 0)) : Bal a k' s' :=
  ⟨fun b => by rw [h3, h.count b, hc b], h3 ▸ h.noZero, h3 ▸ h.keysNodup, hch⟩

theorem Bal.actAdd {a : Addr} {k : Nat} {s s' : HState} {x : Call} (h : Bal a (k + 1) s)
    (ha : x.contact.na.addr = a)
    (h1 : s'.active = s.active ++ [x]) (h2 : s'.challenges = s.challenges)
    (h3 : s'.exempt = s.exempt) : Bal a k s' := by
  refine h.recount h3 (h2 ▸ h.chNodup) fun b => ?_
  rw [h1, h2, actCnt_append_single, ha]
  by_cases hb : b = a
  · simp only [hb, if_true]; omega
  · simp only [hb, if_false, if_neg (fun e : a = b => hb e.symm)]; omega

theorem Bal.actErase {a : Addr} {k : Nat} {s s' : HState} {x : Call} (h : Bal a k s)
    (hm : x ∈ s.active) (ha : x.contact.na.addr = a)
    (h1 : s'.active = s.active.erase x) (h2 : s'.challenges = s.challenges)
    (h3 : s'.exempt = s.exempt) : Bal a (k + 1) s' := by
  refine h.recount h3 (h2 ▸ h.chNodup) fun b => ?_
  have := actCnt_erase s.active x b hm
  rw [ha] at this
  rw [h1, h2, ← this]
  by_cases hb : b = a
  · simp only [hb, if_true]; omega
  · simp only [hb, if_false, if_neg (fun e : a = b => hb e.symm)]; omega

theorem Bal.actFilter {k : Nat} {s s' : HState} (na : NA) (h : Bal na.addr k s)
    (h1 : s'.active = s.active.filter (fun call => callNA call != na))
    (h2 : s'.challenges = s.challenges) (h3 : s'.exempt = s.exempt) :
    Bal na.addr (k + (s.active.filter (fun call => callNA call == na)).length) s' := by
  refine h.recount h3 (h2 ▸ h.chNodup) fun b => ?_
  rw [h1, h2, actCnt_filter_ne s.active na b]
  by_cases hb : b = na.addr
  · simp only [hb, if_true]; omega
  · simp only [hb, if_false]; omega

theorem Bal.actMap {a : Addr} {k : Nat} {s s' : HState} (f : Call → Call) (h : Bal a k s)
    (hf : ∀ x, (f x).contact = x.contact)
    (h1 : s'.active = s.active.map f) (h2 : s'.challenges = s.challenges)
    (h3 : s'.exempt = s.exempt) : Bal a k s' := by
  refine h.recount h3 (h2 ▸ h.chNodup) fun b => ?_
  rw [h1, h2, actCnt_map _ _ _ hf]

theorem Bal.chAdd {k : Nat} {s s' : HState} {x : NA × Challenge × Nat × Nat}
    (h : Bal x.1.addr (k + 1) s) (hx : x.1 ∉ s.challenges.map (·.1))
    (h1 : s'.active = s.active) (h2 : s'.challenges = s.challenges ++ [x])
    (h3 : s'.exempt = s.exempt) : Bal x.1.addr k s' := by
  refine h.recount h3 (h2 ▸ nodup_keys_snoc h.chNodup hx) fun b => ?_
  rw [h1, h2, chCnt_append_single]
  by_cases hb : b = x.1.addr
  · simp only [hb, if_true]; omega
  · simp only [hb, if_false, if_neg (fun e : x.1.addr = b => hb e.symm)]; omega

theorem Bal.chRemove {k : Nat} {s s' : HState} (na : NA) (h : Bal na.addr k s)
    (hm : na ∈ s.challenges.map (·.1))
    (h1 : s'.active = s.active) (h2 : s'.challenges = s.challenges.filter (fun e => e.1 != na))
    (h3 : s'.exempt = s.exempt) :
    Bal na.addr (k + 1) s' ∧ na ∉ s'.challenges.map (·.1) := by
  have hk := chKeys_filter_ne s.challenges na h.chNodup
  refine ⟨h.recount h3 (h2 ▸ hk.1) fun b => ?_, h2 ▸ hk.2⟩
  rw [h1, h2, chCnt_filter_ne s.challenges na b h.chNodup hm]
  by_cases hb : b = na.addr
  · simp only [hb, if_true]; omega
  · simp only [hb, if_false, if_neg (fun e : na.addr = b => hb e.symm)]; omega

theorem addExpected_eq (a : Addr) :
    addExpected a = modS fun s => { s with exempt := addE s.exempt a } := by
  unfold addExpected addE
  congr 1; funext s
  split <;> rfl

theorem removeExpected_eq (a : Addr) :
    removeExpected a = modS fun s => { s with exempt := remE s.exempt a } := rfl

theorem tr_addExpected (a : Addr) (k : Nat) :
    Tr (Bal a k) (addExpected a) (fun _ => Bal a (k + 1)) := by
  rw [addExpected_eq]
  exact Tr.mod _ (fun s h => h.addE rfl rfl rfl)

theorem tr_removeExpected (a : Addr) (k : Nat) :
    Tr (Bal a (k + 1)) (removeExpected a) (fun _ => Bal a k) := by
  rw [removeExpected_eq]
  exact Tr.mod _ (fun s h => h.remE rfl rfl rfl)

theorem tr_removeExpected_good (a : Addr) : Tr (Bal a 1) (removeExpected a) (fun _ => Good) :=
  (tr_removeExpected a 0).post fun _ _ h => h.good

theorem tr_activeInsert (c : Cfg) (call : Call) (a : Addr) (ha : call.contact.na.addr = a) :
    Tr (Bal a 1) (activeInsert c call) (fun _ => Good) := by
  refine Tr.mod _ fun s h => Bal.good (a := a) ?_
  exact h.actAdd (x := { call with deadline := s.now + c.requestTimeout, tseq := s.tctr }) ha rfl rfl rfl

/-- Outcome of removing one active request: either nothing changed or there is a surplus of one
exemption at the address of the removed call. -/
def AfterRemove (r : Option Call) (s : HState) : Prop :=
  match r with
  | none => Good s
  | some call => Bal call.contact.na.addr 1 s

theorem tr_activeRemoveByNonce (nonce : Nat) :
    Tr Good (activeRemoveByNonce nonce) AfterRemove :=
  ⟨fun s os hs => by
    rw [RQ.activeRemoveByNonce_run]
    split
    · exact hs
    · next call hf => exact (hs.bal _).actErase (List.mem_of_find?_eq_some hf) rfl rfl rfl rfl⟩

/-- `AfterRemove`, and the removed call is one to `na`. -/
def AfterRemoveReq (na : NA) (r : Option Call) (s : HState) : Prop :=
  match r with
  | none => Good s
  | some call => call.contact.na = na ∧ Bal na.addr 1 s

theorem tr_activeRemoveRequest (na : NA) (rid : Nat) :
    Tr Good (activeRemoveRequest na rid) (AfterRemoveReq na) :=
  ⟨fun s os hs => by
    rw [RQ.activeRemoveRequest_run]
    split
    · exact hs
    · next call hf =>
      have hna : call.contact.na = na := (by simpa [callNA] using List.find?_some hf : _ ∧ _).1
      exact ⟨hna, (hs.bal _).actErase (List.mem_of_find?_eq_some hf) (by rw [hna]) rfl rfl rfl⟩⟩

theorem tr_activeRemoveRequests (na : NA) (k : Nat) :
    Tr (Bal na.addr k) (activeRemoveRequests na)
      (fun calls s => Bal na.addr (k + calls.length) s) :=
  ⟨fun _ _ hs => hs.actFilter na rfl rfl rfl⟩

theorem tr_queueRequest (contact : Contact) (rid : Nat) (internal : Bool) (body : Nat) :
    Tr Good (queueRequest contact rid internal body) (fun _ => Good) := by
  refine Frame.good (Frame.bind (Frame.mod _ fun s => ?_) fun _ => Frame.ret _)
  split <;> exact ⟨rfl, rfl, rfl⟩

/-- The exemption is registered first and matched by the call inserted last. -/
theorem tr_sendTail (c : Cfg) (contact : Contact) (rid : Nat) (internal : Bool) (body : Nat)
    (pkt : Pkt) (initiating : Bool) :
    Tr Good (sendTail c contact rid internal body pkt initiating) (fun _ => Good) := by
  refine Tr.bind ((tr_addExpected contact.na.addr 0).pre (fun _ h => h.bal _)) (fun _ => ?_)
  refine Tr.bind (Tr.snd _ _) (fun _ => ?_)
  exact Tr.bind (tr_activeInsert c _ contact.na.addr rfl) (fun _ => Tr.skip _)

theorem tr_sendNow (c : Cfg) (contact : Contact) (rid : Nat) (internal : Bool) (body : Nat) :
    Tr Good (sendNow c contact rid internal body) (fun _ => Good) := by
  refine Tr.bind (frame_sessGetMut c contact.na).good (fun r => ?_)
  cases r with
  | some sess =>
    refine Tr.bind (frame_encryptMessage ..).good (fun x => ?_)
    exact Tr.bind (frame_sessPut ..).good (fun _ => tr_sendTail ..)
  | none => exact Tr.bind (frame_freshNonce ..).good (fun x => tr_sendTail ..)

theorem tr_sendRequest (c : Cfg) (contact : Contact) (rid : Nat) (internal : Bool) (body : Nat) :
    Tr Good (sendRequest c contact rid internal body) (fun _ => Good) := by
  rw [sendRequest_split]
  refine Tr.ite (fun _ => Tr.skip _) (fun _ => Tr.bind Frame.get.good (fun s => ?_))
  refine Tr.ite (fun _ => tr_queueRequest ..) (fun _ => ?_)
  refine Tr.bind (frame_isAwaitingSession c contact.na).good (fun aw => ?_)
  exact Tr.ite (fun _ => tr_queueRequest ..) (fun _ => tr_sendNow ..)

theorem tr_sendPendingRequests (c : Cfg) (na : NA) :
    Tr Good (sendPendingRequests c na) (fun _ => Good) := by
  unfold sendPendingRequests
  refine Tr.get_bind (fun s hs => ?_)
  refine Tr.bind (Tr.set _ (Q := fun _ => Good) (fun _ _ => hs.same ⟨rfl, rfl, rfl⟩)) (fun _ => ?_)
  refine Tr.each _ _ (fun pr _ => ?_)
  refine Tr.bind (tr_sendRequest ..) (fun r => ?_)
  cases r with
  | none => exact Tr.skip _
  | some e => exact Tr.ite (fun _ => Tr.emt _) (fun _ => Tr.skip _)

/-- The cleanup loop of `fail_session`: one exemption is dropped per removed call. -/
theorem tr_failLoop (a : Addr) (e : Err) (calls : List Call) (k : Nat) :
    Tr (Bal a (k + calls.length))
      (forEach calls fun call =>
        if (!call.internal) = true then do
          emit (Out.failed call.rid e)
          removeExpected a
        else removeExpected a) (fun _ => Bal a k) := by
  induction calls generalizing k with
  | nil => exact Tr.skip _
  | cons x t ih =>
    rw [forEach_cons]
    refine Tr.bind (Q := fun _ => Bal a (k + t.length)) ?_ (fun _ => ih k)
    refine Tr.ite (fun _ => ?_) (fun _ => tr_removeExpected a _)
    exact Tr.bind (Tr.emt _) (fun _ => tr_removeExpected a _)

theorem tr_failActive (na : NA) (e : Err) : Tr Good (failActive na e) (fun _ => Good) := by
  refine Tr.bind ((tr_activeRemoveRequests na 0).pre (fun _ h => h.bal _)) (fun calls => ?_)
  exact (tr_failLoop na.addr e calls 0).post (fun _ _ h => h.good)

theorem frame_failPending (na : NA) (e : Err) : Frame (failPending na e) := ⟨fun s os => by
  unfold failPending
  rw [run_bind, run_getS]
  split
  · rw [run_bind, run_setS]
    refine forEach_keeps (K := fun st' => Same s st'.1) _ _ (fun pr _ st1 h1 => ?_) _ ⟨rfl, rfl, rfl⟩
    split <;> exact h1
  · exact Same.refl _⟩

theorem tr_failSession (c : Cfg) (na : NA) (e : Err) (rm : Bool) :
    Tr Good (failSession c na e rm) (fun _ => Good) := by
  rw [failSession_eq]
  refine Tr.bind (Tr.ite (fun _ => ?_) (fun _ => Tr.skip _)) (fun _ =>
    Tr.bind (frame_failPending na e).good (fun _ => tr_failActive na e))
  exact Tr.bind (frame_removeExpiredSessions c).good (fun _ => (frame_sessRemove na).good)

theorem tr_failRequest (c : Cfg) (call : Call) (e : Err) (rm : Bool) :
    Tr Good (failRequest c call e rm) (fun _ => Good) := by
  unfold failRequest
  refine Tr.ite (fun _ => ?_) (fun _ => tr_failSession ..)
  exact Tr.bind (Tr.emt _) (fun _ => tr_failSession ..)

theorem tr_handleRequestTimeout (c : Cfg) (call : Call) :
    Tr (Bal call.contact.na.addr 1) (handleRequestTimeout c call) (fun _ => Good) := by
  unfold handleRequestTimeout
  refine Tr.ite (fun _ => ?_) (fun _ => ?_)
  · exact Tr.bind (tr_removeExpected_good _) (fun _ => tr_failRequest ..)
  · exact Tr.bind (Tr.snd _ _) (fun _ =>
      tr_activeInsert c { call with retries := call.retries + 1 } call.contact.na.addr rfl)

theorem tr_replayActiveRequests (c : Cfg) (na : NA) (skip : Option Nat) :
    Tr Good (replayActiveRequests c na skip) (fun _ => Good) := by
  unfold replayActiveRequests
  refine Tr.bind (frame_sessGetMut c na).good (fun r => ?_)
  cases r with
  | none => exact Tr.skip _
  | some sess0 =>
    refine Tr.bind Frame.get.good (fun s => ?_)
    refine Tr.bind (frame_reencryptAll ..).good (fun x => ?_)
    obtain ⟨sess, packets⟩ := x
    refine Tr.bind (frame_sessPut ..).good (fun _ => ?_)
    refine Tr.each _ _ (fun x _ => ?_)
    obtain ⟨oldNonce, p⟩ := x
    refine Tr.bind (Q := fun _ => Good) (Tr.mod _ (fun s h => ?_)) (fun _ => Tr.snd _ _)
    refine Bal.good (a := default) ?_
    refine Bal.actMap _ (h.bal default) (fun x => ?_) rfl rfl rfl
    split <;> rfl

theorem tr_newSession (c : Cfg) (na : NA) (sess : Session) (skip : Option Nat) :
    Tr Good (newSession c na sess skip) (fun _ => Good) := by
  unfold newSession
  refine Tr.bind (frame_removeExpiredSessions c).good (fun _ => ?_)
  refine Tr.bind (frame_sessGetMut c na).good (fun r => ?_)
  cases r with
  | some cur =>
    refine Tr.bind (frame_sessPut ..).good (fun _ => ?_)
    exact Tr.bind (tr_replayActiveRequests ..) (fun _ => tr_sendPendingRequests ..)
  | none =>
    exact Tr.bind (frame_sessInsert ..).good (fun _ => tr_sendPendingRequests ..)

theorem tr_sendChallenge (c : Cfg) (na : NA) (nonce : Nat) (known : Option Rec) :
    Tr Good (sendChallenge c na nonce known) (fun _ => Good) := by
  unfold sendChallenge
  refine Tr.get_bind (fun s hs => ?_)
  refine Tr.ite (fun _ => Tr.ret _ (fun _ h => h ▸ hs)) (fun hn => ?_)
  have hn' : na ∉ s.challenges.map (·.1) := fun h => hn ((any_key_iff _ _).2 h)
  -- the challenge list is untouched until the final insertion
  refine Tr.bind (Q := fun _ s' => Good s' ∧ s'.challenges = s.challenges)
    ⟨fun s' os h => ?_⟩ (fun cd => ?_)
  · subst h; exact ⟨hs.same ⟨rfl, rfl, rfl⟩, rfl⟩
  refine Tr.bind (Q := fun _ s' => Bal na.addr 1 s' ∧ s'.challenges = s.challenges)
    ⟨fun s' os h => ?_⟩ (fun _ => ?_)
  · exact ⟨(tr_addExpected na.addr 0).out s' os (h.1.bal _), by rw [addExpected_eq]; exact h.2⟩
  refine Tr.bind (Tr.snd _ _) (fun _ => ?_)
  refine Tr.mod _ (fun s' h => ?_)
  refine Bal.good (a := na.addr) ?_
  exact Bal.chAdd (x := (na, _, _, _)) h.1 (by rw [h.2]; exact hn') rfl rfl rfl

theorem tr_handleResponse (c : Cfg) (na : NA) (rid : Nat) (rb : RespBody) :
    Tr Good (handleResponse c na rid rb) (fun _ => Good) := by
  unfold handleResponse
  refine Tr.bind (tr_activeRemoveRequest na rid) (fun r => ?_)
  cases r with
  | none => exact Tr.skip _
  | some call =>
    refine Tr.pre_and (P := Bal na.addr 1) (fun hna => ?_)
    have ins : ∀ call' : Call, call'.contact = call.contact →
        Tr (Bal na.addr 1) (do activeInsert c call'; emit (Out.response na rid rb); pure ())
          (fun _ => Good) := by
      intro call' hc
      refine Tr.bind (tr_activeInsert c call' na.addr (by rw [hc, hna])) (fun _ => ?_)
      exact Tr.bind (Tr.emt _) (fun _ => Tr.skip _)
    have fin : Tr (Bal na.addr 1) (do removeExpected na.addr; emit (Out.response na rid rb))
        (fun _ => Good) :=
      Tr.bind (tr_removeExpected_good na.addr) (fun _ => Tr.emt _)
    cases rb with
    | other code => exact fin
    | nodes total recs =>
      refine Tr.ite (fun _ => ?_) (fun _ => fin)
      cases hrem : call.remaining with
      | none => exact ins _ rfl
      | some rem =>
        exact Tr.ite (fun _ => ins _ rfl) (fun _ => fin)

theorem tr_handleChallenge (c : Cfg) (src : Addr) (nonce cd enrSeq : Nat) :
    Tr Good (handleChallenge c src nonce cd enrSeq) (fun _ => Good) := by
  unfold handleChallenge
  refine Tr.bind (tr_activeRemoveByNonce nonce) (fun r => ?_)
  cases r with
  | none => exact Tr.skip _
  | some call0 =>
    change Tr (Bal call0.contact.na.addr 1) _ _
    refine Tr.ite (fun _ => ?_) (fun hsrc => ?_)
    · exact Tr.bind (tr_activeInsert c call0 _ rfl) (fun _ => Tr.skip _)
    have hsrc' : call0.contact.na.addr = src := by
      simpa [callNA] using hsrc
    have fail : Tr (Bal call0.contact.na.addr 1)
        (do removeExpected src; failRequest c call0 .invalidRemotePacket true; pure ()) (fun _ => Good) := by
      rw [hsrc']
      exact Tr.bind (tr_removeExpected_good src) (fun _ =>
        Tr.bind (tr_failRequest ..) (fun _ => Tr.skip _))
    refine Tr.ite (fun _ => fail) (fun _ => Tr.ite (fun _ => fail) (fun _ => ?_))
    refine Tr.bind ((frame_freshEph c).bal _ _) (fun eph => ?_)
    refine Tr.bind ((frame_freshNonce c).bal _ _) (fun hsNonce => ?_)
    cases call0.contact.record with
    | some r =>
      refine Tr.bind (tr_activeInsert c _ call0.contact.na.addr (by rfl)) (fun _ => ?_)
      refine Tr.bind (Tr.snd _ _) (fun _ => ?_)
      exact Tr.bind (Tr.emt _) (fun _ => tr_newSession ..)
    | none =>
      refine Tr.bind (tr_activeInsert c _ call0.contact.na.addr (by rfl)) (fun _ => ?_)
      refine Tr.bind (Tr.snd _ _) (fun _ => ?_)
      refine Tr.bind (frame_freshRid c).good (fun rid => ?_)
      exact Tr.bind (tr_sendRequest ..) (fun _ => tr_newSession ..)

theorem frame_verifyLast (na : NA) (rb : RespBody) : Frame (verifyLast na rb) := by
  unfold verifyLast
  cases rb with
  | other code => exact Frame.ret _
  | nodes total recs =>
    dsimp only
    cases recs.getLast? with
    | none => exact Frame.ret _
    | some r =>
      exact Frame.ite (Frame.bind (Frame.emt _) fun _ => Frame.ret _)
        (Frame.bind (Frame.emt _) fun _ => Frame.ret _)

theorem tr_verifyAwaited (c : Cfg) (na : NA) (rb : RespBody) :
    Tr Good (verifyAwaited c na rb) (fun _ => Good) :=
  Tr.bind (frame_verifyLast na rb).good fun _ =>
    Tr.ite (fun _ => tr_failSession ..) (fun _ => Tr.skip _)

theorem tr_handleMessage (c : Cfg) (na : NA) (nonce : Nat) (ct : Ct) :
    Tr Good (handleMessage c na nonce ct) (fun _ => Good) := by
  unfold handleMessage
  refine Tr.bind (frame_sessGetMut c na).good (fun r => ?_)
  cases r with
  | none => exact Tr.emt _
  | some sess =>
    dsimp only
    generalize decryptMessage sess nonce ct = dm
    obtain ⟨sess', pt⟩ := dm
    refine Tr.bind (frame_sessPut ..).good (fun _ => ?_)
    cases pt with
    | none =>
      refine Tr.bind (tr_failSession ..) (fun _ => ?_)
      refine Tr.bind Frame.get.good (fun s => ?_)
      exact Tr.ite (fun _ => Tr.emt _) (fun _ => Tr.skip _)
    | some m =>
      cases m with
      | undecodable => exact Tr.skip _
      | request rid body => exact Tr.emt _
      | response rid rb =>
        refine Tr.ite (fun _ => ?_) (fun _ => tr_handleResponse ..)
        refine Tr.bind (frame_sessPut ..).good (fun _ => ?_)
        refine Tr.bind (tr_activeRemoveRequest na rid) (fun r => ?_)
        cases r with
        | none => exact tr_verifyAwaited c na rb
        | some call =>
          refine Tr.bind (Q := fun _ => Good) ?_ (fun _ => tr_verifyAwaited c na rb)
          exact (tr_removeExpected_good na.addr).pre (fun _ h => h.2)

theorem tr_handleAuthMessage (c : Cfg) (na : NA) (nonce : Nat) (sig : Sig) (eph : Nat)
    (record : Option Rec) (ct : Ct) :
    Tr Good (handleAuthMessage c na nonce sig eph record ct) (fun _ => Good) := by
  unfold handleAuthMessage
  refine Tr.get_bind (fun s hs => ?_)
  cases hf : s.challenges.find? (·.1 == na) with
  | none => exact Tr.ret _ (fun _ h => h ▸ hs)
  | some e =>
    obtain ⟨x, ch, d, q⟩ := e
    have hm : na ∈ s.challenges.map (·.1) := by
      have h1 := List.find?_some hf
      have h2 := List.mem_of_find?_eq_some hf
      simp only [beq_iff_eq] at h1
      exact h1 ▸ List.mem_map_of_mem (f := (·.1)) h2
    refine Tr.bind (Tr.set _
      (Q := fun _ s' => Bal na.addr 1 s' ∧ na ∉ s'.challenges.map (fun e => e.1))
      (fun _ _ => by exact Bal.chRemove na (hs.bal _) hm rfl rfl rfl)) (fun _ => ?_)
    cases establishFromChallenge c na.id ch sig eph record with
    | none =>
      refine Tr.mod _ (fun s' h => ?_)
      refine Bal.good (a := na.addr) ?_
      exact Bal.chAdd (x := (na, ch, _, _)) h.1 h.2 rfl rfl rfl
    | some o =>
      cases o with
      | none =>
        exact Tr.bind ((tr_removeExpected_good na.addr).pre (fun _ h => h.1)) (fun _ => tr_failSession ..)
      | some p =>
        obtain ⟨sess, r⟩ := p
        refine Tr.bind ((tr_removeExpected_good na.addr).pre (fun _ h => h.1)) (fun _ => ?_)
        refine Tr.ite (fun _ => ?_) (fun _ => ?_) <;>
        · refine Tr.bind (Tr.emt _) (fun _ => ?_)
          exact Tr.bind (tr_newSession ..) (fun _ => tr_handleMessage ..)

theorem sel_step {α} (better : α → α → Bool) (m : Option α) (x : α) :
    (match m with
      | none => some x
      | some b => if better x b = true then some x else some b) = m ∨
    (match m with
      | none => some x
      | some b => if better x b = true then some x else some b) = some x := by
  cases m with
  | none => exact Or.inr rfl
  | some b =>
    dsimp only
    by_cases h : better x b = true
    · rw [if_pos h]; exact Or.inr rfl
    · rw [if_neg h]; exact Or.inl rfl

theorem tr_fireTimers (c : Cfg) (target fuel : Nat) :
    Tr Good (fireTimers c target fuel) (fun _ => Good) :=
  ⟨fun s os h => fireTimers_inv (I := fun st => Good st.1) c target
    (fun st d call hs hnd => (tr_handleRequestTimeout c call).out _ _
      ((hs.bal _).actErase (nextDue_spec hnd).2.1 rfl rfl rfl rfl))
    (fun st d na hs hnd =>
      (Tr.bind (tr_removeExpected_good na.addr) fun _ => tr_sendPendingRequests c na).out _ _
        (by
          obtain ⟨ch, hch, hna, _⟩ := (nextDue_spec hnd).2
          refine (Bal.chRemove na (hs.bal _) (List.mem_map.2 ⟨ch, hch, hna⟩) ?_ ?_ ?_).1 <;> rfl))
    fuel (s, os) h⟩

theorem tr_stepM (c : Cfg) (e : Ev) : Tr Good (stepM c e) (fun _ => Good) := by
  cases e with
  | appRequest contact rid body =>
    unfold stepM
    refine Tr.bind (tr_sendRequest ..) (fun r => ?_)
    cases r with
    | none => exact Tr.skip _
    | some e => exact Tr.emt _
  | appResponse na rid rb =>
    unfold stepM
    refine Frame.good ?_
    refine Frame.bind (frame_sessGetMut c na) (fun r => ?_)
    cases r with
    | none => exact Frame.ret _
    | some sess =>
      refine Frame.bind (frame_encryptMessage ..) (fun x => ?_)
      exact Frame.bind (frame_sessPut ..) (fun _ => Frame.snd _ _)
  | appWru na nonce known => exact tr_sendChallenge ..
  | dgram src p =>
    cases p with
    | whoareyou nonce cd enrSeq => exact tr_handleChallenge ..
    | handshake srcId nonce sig eph record ct => exact tr_handleAuthMessage ..
    | message srcId nonce ct => exact tr_handleMessage ..
  | adv dt =>
    unfold stepM
    refine Tr.bind Frame.get.good (fun s => ?_)
    refine Tr.bind (tr_fireTimers ..) (fun _ => ?_)
    exact Frame.good (Frame.mod _ (fun _ => ⟨rfl, rfl, rfl⟩))
  | rtAdv dt =>
    unfold stepM
    exact Frame.good (Frame.mod _ (fun _ => ⟨rfl, rfl, rfl⟩))

theorem good_step (c : Cfg) (s : HState) (e : Ev) (h : Good s) : Good (step c s e).1 :=
  (tr_stepM c e).out s [] h

theorem good_run (c : Cfg) (evs : List Ev) : Good (run c evs) :=
  RQ.run_inv (I := fun s _ => Good s) good_init (fun s _ e h => good_step c s e h) evs

end Discv5.H
