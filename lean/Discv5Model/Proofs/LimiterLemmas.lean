/-
Definitions and lemmas for C18 (GCRA limiter, two-stage filter).  A history `H : Hist` lists the
accepted arrivals `(time, tokens)` of one key, newest first; `specTat t H` is the TAT it prescribes.
Far from overflow a call is `stepKey` on the entry of its key, and `stepKey` at time `now` sees an
entry only through `seen now e`: an entry and the same entry pruned in the meantime (`Pruned`) give
the same verdicts and stay so related.  Against the entry the accepted history prescribes this is
the GCRA characterisation (`Tracks`); key by key against a table never pruned it makes pruning
invisible (`PruneRel`, lifted to the three quotas of `RateLimiter` by `RRel`).
The second half runs the two-stage filter (`FOp`, `fstep`): an operation changes the ban lists at
most by inserting a ban until `banTimeout now` (`Effect`), so a ban lasts (`banned_persists`).
-/
import Discv5Model.Model.Filter

-- `[DecidableEq κ]` is unused by seven lemmas, which would each need `omit … in`.
set_option linter.unusedSectionVars false

namespace Discv5.Limiter

variable {κ : Type} [DecidableEq κ]

/-! ### Histories -/

abbrev Hist := List (Nat × Nat)

/-- The TAT after the accepted arrivals `H` (newest first): `tat' = max(now, tat) + tokens·t`. -/
def specTat (t : Nat) : Hist → Nat
  | [] => 0
  | (a, k) :: r => max a (specTat t r) + k * t

/-- `(aᵢ, Sᵢ)`: arrival time and the tokens accepted from arrival `i` up to the newest one. -/
def sums : Hist → List (Nat × Nat)
  | [] => []
  | (a, k) :: r => (a, k) :: (sums r).map (fun p => (p.1, p.2 + k))

def maxL : List Nat → Nat
  | [] => 0
  | x :: xs => max x (maxL xs)

def tokensIn (H : Hist) (s W : Nat) : Nat :=
  ((H.filter (fun p => decide (s ≤ p.1 ∧ p.1 ≤ s + W))).map (·.2)).sum

/-- Every accepted arrival fitted, when it came, under the TAT of the older ones (the GCRA
condition), and the times are sorted. -/
def Conf (tau t : Nat) : Hist → Prop
  | [] => True
  | (a, k) :: r =>
    (k * t ≤ tau ∧ specTat t r + k * t ≤ a + tau) ∧ (∀ p ∈ r, p.1 ≤ a) ∧ Conf tau t r

theorem Conf.specTat_le {tau t : Nat} {H : Hist} (hc : Conf tau t H) {hi : Nat}
    (hle : ∀ p ∈ H, p.1 ≤ hi) : specTat t H ≤ hi + tau := by
  cases H with
  | nil => exact Nat.zero_le _
  | cons x r =>
    obtain ⟨a, k⟩ := x
    obtain ⟨⟨_, _⟩, _⟩ := hc
    have := hle (a, k) (by simp)
    simp only [specTat] at *
    omega

theorem maxL_le_iff (xs : List Nat) (B : Nat) : maxL xs ≤ B ↔ ∀ x ∈ xs, x ≤ B := by
  induction xs with
  | nil => simp [maxL]
  | cons x xs ih =>
    simp only [maxL, List.mem_cons, forall_eq_or_imp]
    rw [← ih]; omega

theorem specTat_le_iff (t : Nat) (H : Hist) (B : Nat) :
    specTat t H ≤ B ↔ ∀ p ∈ sums H, p.1 + p.2 * t ≤ B := by
  induction H generalizing B with
  | nil => simp [specTat, sums]
  | cons x r ih =>
    obtain ⟨a, k⟩ := x
    simp only [specTat, sums, List.mem_cons, List.mem_map, forall_eq_or_imp]
    constructor
    · intro h
      refine ⟨by omega, ?_⟩
      rintro p ⟨q, hq, rfl⟩
      have := (ih (specTat t r)).mp (Nat.le_refl _) q hq
      simp only [Nat.add_mul]
      omega
    · rintro ⟨h1, h2⟩
      have : specTat t r ≤ B - k * t := by
        apply (ih _).mpr
        intro q hq
        have := h2 (q.1, q.2 + k) ⟨q, hq, rfl⟩
        simp only [Nat.add_mul] at this
        omega
      omega

theorem specTat_eq_max (t : Nat) (H : Hist) :
    specTat t H = maxL ((sums H).map (fun p => p.1 + p.2 * t)) := by
  apply Nat.le_antisymm
  · rw [specTat_le_iff]
    intro p hp
    exact (maxL_le_iff _ _).mp (Nat.le_refl _) _ (List.mem_map.mpr ⟨p, hp, rfl⟩)
  · rw [maxL_le_iff]
    intro x hx
    obtain ⟨p, hp, rfl⟩ := List.mem_map.mp hx
    exact (specTat_le_iff t H _).mp (Nat.le_refl _) p hp

theorem sums_length (H : Hist) : (sums H).length = H.length := by
  induction H with
  | nil => rfl
  | cons x r ih => obtain ⟨a, k⟩ := x; simp [sums, ih]

theorem sums_time_mem {H : Hist} {p : Nat × Nat} (hp : p ∈ sums H) : ∃ e ∈ H, e.1 = p.1 := by
  induction H generalizing p with
  | nil => simp [sums] at hp
  | cons x r ih =>
    obtain ⟨a, k⟩ := x
    simp only [sums, List.mem_cons, List.mem_map] at hp
    rcases hp with rfl | ⟨q, hq, rfl⟩
    · exact ⟨(a, k), by simp, rfl⟩
    · obtain ⟨e, he, h⟩ := ih hq
      exact ⟨e, List.mem_cons_of_mem _ he, h⟩

theorem sums_getElem_unit (H : Hist) (h1 : ∀ p ∈ H, p.2 = 1) (j : Nat) (hj : j < H.length) :
    (sums H)[j]'(by rw [sums_length]; exact hj) = (H[j].1, j + 1) := by
  induction H generalizing j with
  | nil => simp at hj
  | cons x r ih =>
    obtain ⟨a, k⟩ := x
    have hk : k = 1 := h1 (a, k) (by simp)
    cases j with
    | zero => simp [sums, hk]
    | succ j =>
      simp only [sums, List.getElem_cons_succ, List.getElem_map]
      rw [ih (fun p hp => h1 p (List.mem_cons_of_mem _ hp)) j (by simpa using hj)]
      simp [hk]

theorem mem_sums_unit (H : Hist) (h1 : ∀ p ∈ H, p.2 = 1) (p : Nat × Nat) :
    p ∈ sums H ↔ ∃ j, ∃ hj : j < H.length, p = (H[j].1, j + 1) := by
  constructor
  · intro hp
    obtain ⟨j, hj, rfl⟩ := List.getElem_of_mem hp
    have hj' : j < H.length := by rw [sums_length] at hj; exact hj
    exact ⟨j, hj', sums_getElem_unit H h1 j hj'⟩
  · rintro ⟨j, hj, rfl⟩
    rw [← sums_getElem_unit H h1 j hj]
    exact List.getElem_mem _

/-- With `hH` the truncated subtraction `now - p.1` does not truncate. -/
theorem specTat_add_le_iff (t : Nat) (H : Hist) (k now tau : Nat) (hH : ∀ p ∈ H, p.1 ≤ now)
    (hk : k * t ≤ tau) :
    specTat t H + k * t ≤ now + tau ↔ ∀ p ∈ sums H, (p.2 + k) * t ≤ (now - p.1) + tau := by
  have : specTat t H + k * t ≤ now + tau ↔ specTat t H ≤ now + tau - k * t := by omega
  rw [this, specTat_le_iff]
  refine forall_congr' fun p => forall_congr' fun hp => ?_
  obtain ⟨e, he, hep⟩ := sums_time_mem hp
  have := hH e he
  rw [Nat.add_mul]
  omega

/-! ### The step on one entry -/

/-- `Limiter::allows` as it acts on the entry `e` of its key, over unbounded naturals. -/
def stepKey (tau t : Nat) (e : Option Nat) (now tokens : Nat) : Option Nat × Verdict :=
  if t * tokens > tau then (e, .tooLarge)
  else if now + tau < e.getD now + t * tokens then
    (some (e.getD now), .tooSoon (e.getD now + t * tokens - tau - now))
  else (some (max now (e.getD now) + t * tokens), .ok)

/-- The entry as a call at time `hi` sees it: an absent entry and one not ahead of the clock act
alike. -/
def seen (hi : Nat) (e : Option Nat) : Nat := max hi (e.getD 0)

/-- The step depends on the entry only through `seen now e` (an entry that delays the arrival is
ahead of the clock). -/
theorem stepKey_eq (tau t : Nat) (e : Option Nat) (now tokens : Nat) :
    stepKey tau t e now tokens =
      if t * tokens > tau then (e, .tooLarge)
      else if now + tau < seen now e + t * tokens then
        (some (seen now e), .tooSoon (seen now e + t * tokens - tau - now))
      else (some (seen now e + t * tokens), .ok) := by
  have h1 : max now (e.getD now) = seen now e := by
    cases e <;> simp only [seen, Option.getD_none, Option.getD_some] <;> omega
  unfold stepKey
  by_cases hl : t * tokens > tau
  · rw [if_pos hl, if_pos hl]
  · rw [if_neg hl, if_neg hl, h1]
    by_cases hs : now + tau < e.getD now + t * tokens
    · have h2 : e.getD now = seen now e := by omega
      rw [if_pos hs, h2, if_pos (h2 ▸ hs)]
    · rw [if_neg hs, if_neg (by omega)]

theorem stepKey_bound (tau t : Nat) (e : Option Nat) (now tokens : Nat)
    (he : e.getD 0 ≤ now + tau) : (stepKey tau t e now tokens).1.getD 0 ≤ now + tau := by
  rw [stepKey_eq]
  split
  · exact he
  · split <;> simp only [seen, Option.getD_some] at * <;> omega

/-- `e` is `e'`, or `e'` dropped from the table at a time when it was not ahead of the clock `hi`. -/
def Pruned (hi : Nat) (e e' : Option Nat) : Prop := e = e' ∨ (e = none ∧ e'.getD 0 ≤ hi)

theorem Pruned.mono {hi hi' : Nat} {e e' : Option Nat} (h : Pruned hi e e') (hh : hi ≤ hi') :
    Pruned hi' e e' :=
  h.imp id fun ⟨h1, h2⟩ => ⟨h1, Nat.le_trans h2 hh⟩

theorem Pruned.getD_le {hi : Nat} {e e' : Option Nat} (h : Pruned hi e e') :
    e.getD 0 ≤ e'.getD 0 := by
  rcases h with rfl | ⟨rfl, _⟩
  · exact Nat.le_refl _
  · exact Nat.zero_le _

theorem Pruned.seen {hi : Nat} {e e' : Option Nat} (h : Pruned hi e e') :
    seen hi e = seen hi e' := by
  rcases h with rfl | ⟨rfl, h⟩
  · rfl
  · simp only [Limiter.seen, Option.getD_none]; omega

theorem stepKey_pruned (tau t now tokens : Nat) {hi : Nat} {e e' : Option Nat}
    (h : Pruned hi e e') (hh : hi ≤ now) :
    (stepKey tau t e now tokens).2 = (stepKey tau t e' now tokens).2 ∧
    Pruned now (stepKey tau t e now tokens).1 (stepKey tau t e' now tokens).1 := by
  have hm := h.mono hh
  rw [stepKey_eq, stepKey_eq, hm.seen]
  split
  · exact ⟨rfl, hm⟩
  · split <;> exact ⟨rfl, Or.inl rfl⟩

theorem stepKey_specTat (tau t now k : Nat) (H : Hist) :
    (stepKey tau t (some (specTat t H)) now k).1 =
      some (specTat t
        (if (stepKey tau t (some (specTat t H)) now k).2 = .ok then (now, k) :: H else H)) ∧
    ((stepKey tau t (some (specTat t H)) now k).2 = .ok ↔
      k * t ≤ tau ∧ specTat t H + k * t ≤ now + tau) := by
  have hc : t * k = k * t := Nat.mul_comm _ _
  simp only [stepKey_eq, seen, Option.getD_some, hc]
  by_cases hl : k * t > tau
  · simp only [if_pos hl, reduceCtorEq, if_false, false_iff, true_and]
    omega
  · simp only [if_neg hl]
    by_cases hs : now + tau < max now (specTat t H) + k * t
    · simp only [if_pos hs, reduceCtorEq, if_false, false_iff, Option.some.injEq]
      omega
    · simp only [if_neg hs, if_true, true_iff, specTat, true_and]
      omega

theorem stepKey_tracks (tau t now k : Nat) {hi : Nat} {e : Option Nat} {H : Hist}
    (h : Pruned hi e (some (specTat t H))) (hh : hi ≤ now) :
    Pruned now (stepKey tau t e now k).1
      (some (specTat t (if (stepKey tau t e now k).2 = .ok then (now, k) :: H else H))) ∧
    ((stepKey tau t e now k).2 = .ok ↔ k * t ≤ tau ∧ specTat t H + k * t ≤ now + tau) := by
  obtain ⟨hv, hp⟩ := stepKey_pruned tau t now k h hh
  rw [hv, ← (stepKey_specTat tau t now k H).1]
  exact ⟨hp, (stepKey_specTat tau t now k H).2⟩

/-! ### Runs -/

def fresh (tau t : Nat) : Limiter κ := { tau := tau, t := t, tat := fun _ => none }

theorem fromQuota_eq {n p : Nat} {l : Limiter κ} (h : fromQuota n p = some l) :
    l = fresh p (p / n) ∧ 0 < n ∧ 0 < p ∧ p < U64 := by
  simp only [fromQuota, Option.ite_none_left_eq_some, Option.some.injEq] at h
  obtain ⟨_, _, _, _, rfl⟩ := h
  exact ⟨rfl, by omega, by omega, by omega⟩

/-- Hypotheses on a history: the times (arrivals and prune limits) never decrease, starting at
`lo`, and stay far from `u64` overflow: `now + 2·tau < 2^64`, `t·tokens < 2^64`. -/
def Timed (tau t : Nat) : Nat → List (Ev κ) → Prop
  | _, [] => True
  | lo, .arrive ns _ tokens :: es =>
    lo ≤ ns ∧ ns + 2 * tau < U64 ∧ t * tokens < U64 ∧ Timed tau t ns es
  | lo, .prune ns :: es => lo ≤ ns ∧ ns < U64 ∧ Timed tau t ns es

def lastTime : Nat → List (Ev κ) → Nat
  | lo, [] => lo
  | _, .arrive ns _ _ :: es => lastTime ns es
  | _, .prune ns :: es => lastTime ns es

/-- The accepted arrivals of `key` (newest first) when `es` runs from `l`, pushed on `H`. -/
def accepted (key : κ) : Limiter κ → Hist → List (Ev κ) → Hist
  | _, H, [] => H
  | l, H, .arrive ns k tokens :: es =>
    accepted key (l.allows ns k tokens).1
      (if k = key ∧ (l.allows ns k tokens).2 = .ok then (ns, tokens) :: H else H) es
  | l, H, .prune ns :: es => accepted key (l.prune ns) H es

/-- All arrivals of `key` (newest first), accepted or not, pushed on `H`. -/
def offered (key : κ) : Hist → List (Ev κ) → Hist
  | H, [] => H
  | H, .arrive ns k tokens :: es => offered key (if k = key then (ns, tokens) :: H else H) es
  | H, .prune _ :: es => offered key H es

def verdictsOf (key : κ) : Limiter κ → List (Ev κ) → List Verdict
  | _, [] => []
  | l, .arrive ns k tokens :: es =>
    if k = key then (l.allows ns k tokens).2 :: verdictsOf key (l.allows ns k tokens).1 es
    else verdictsOf key (l.allows ns k tokens).1 es
  | l, .prune ns :: es => verdictsOf key (l.prune ns) es

def stripPrune : List (Ev κ) → List (Ev κ)
  | [] => []
  | .arrive ns k tokens :: es => .arrive ns k tokens :: stripPrune es
  | .prune _ :: es => stripPrune es

theorem run_arrive (l : Limiter κ) (ns : Nat) (k : κ) (tokens : Nat) (es : List (Ev κ)) :
    run l (.arrive ns k tokens :: es)
      = ((run (l.allows ns k tokens).1 es).1, (l.allows ns k tokens).2 :: (run (l.allows ns k tokens).1 es).2) := rfl

theorem run_prune (l : Limiter κ) (ns : Nat) (es : List (Ev κ)) :
    run l (.prune ns :: es) = run (l.prune ns) es := rfl

theorem allows_frame (l : Limiter κ) (ns : Nat) (k : κ) (tokens : Nat) :
    (l.allows ns k tokens).1.tau = l.tau ∧ (l.allows ns k tokens).1.t = l.t ∧
    ∀ key, key ≠ k → (l.allows ns k tokens).1.tat key = l.tat key := by
  unfold Limiter.allows
  by_cases h : (l.t * tokens) % U64 > l.tau
  · rw [if_pos h]
    exact ⟨rfl, rfl, fun _ _ => rfl⟩
  · rw [if_neg h]
    simp only []
    split <;> exact ⟨rfl, rfl, fun _ h => if_neg h⟩

/-- Far from `u64` overflow the code performs `stepKey` on the entry of `key`. -/
theorem allows_eq {tau t : Nat} {l : Limiter κ} (htau : l.tau = tau) (ht : l.t = t)
    (now : Nat) (key : κ) (tokens : Nat) (hn : now + 2 * tau < U64) (hk : t * tokens < U64)
    (hv : (l.tat key).getD 0 ≤ now + tau) :
    l.allows now key tokens =
      ({ l with tat := fun k =>
          if k = key then (stepKey tau t (l.tat key) now tokens).1 else l.tat k },
       (stepKey tau t (l.tat key) now tokens).2) := by
  subst htau ht
  have hnow : now % U64 = now := Nat.mod_eq_of_lt (by omega)
  have hadd : (l.t * tokens) % U64 = l.t * tokens := Nat.mod_eq_of_lt hk
  have htat : (l.tat key).getD now ≤ now + l.tau := by
    cases h : l.tat key with
    | none => simp
    | some v => simpa [h] using hv
  unfold Limiter.allows stepKey
  simp only [hnow, hadd]
  by_cases hl : l.t * tokens > l.tau
  · have : (fun k => if k = key then l.tat key else l.tat k) = l.tat :=
      funext fun k => by split <;> simp [*]
    rw [if_pos hl, if_pos hl, this]
  · rw [if_neg hl, if_neg hl]
    have h1 : ((l.tat key).getD now + l.t * tokens) % U64 = (l.tat key).getD now + l.t * tokens :=
      Nat.mod_eq_of_lt (by omega)
    have h2 : (max now ((l.tat key).getD now) + l.t * tokens) % U64
        = max now ((l.tat key).getD now) + l.t * tokens := Nat.mod_eq_of_lt (by omega)
    rw [h1, h2]
    by_cases hs : now + l.tau < (l.tat key).getD now + l.t * tokens
    · rw [if_pos (by omega), if_pos hs]; rfl
    · rw [if_neg (by omega), if_neg hs]; rfl

theorem prune_tat (l : Limiter κ) (ns : Nat) (key : κ) :
    (l.prune ns).tat key = match l.tat key with
      | some v => if v ≥ ns % U64 then some v else none
      | none => none := rfl

theorem pruned_prune {l : Limiter κ} {k : κ} {e' : Option Nat} {hi lim : Nat}
    (h : Pruned hi (l.tat k) e') (hh : hi ≤ lim) (hl : lim < U64) :
    Pruned lim ((l.prune lim).tat k) e' := by
  rw [prune_tat, Nat.mod_eq_of_lt hl]
  rcases h with h | ⟨h1, h2⟩
  · cases hv : l.tat k with
    | none => exact Or.inl (hv.symm.trans h)
    | some v =>
      simp only []
      split
      · exact Or.inl (hv.symm.trans h)
      · exact Or.inr ⟨rfl, by rw [← h, hv, Option.getD_some]; omega⟩
  · rw [h1]; exact Or.inr ⟨rfl, by omega⟩

/-- What the table and the accepted history `H` of `key` have to do with each other at clock
`hi`: the entry is the TAT `H` prescribes unless it was pruned, no accepted arrival is after `hi`,
and `H` conforms. -/
structure Tracks (tau t : Nat) (l : Limiter κ) (key : κ) (H : Hist) (hi : Nat) : Prop where
  tau_eq : l.tau = tau
  t_eq : l.t = t
  tat : Pruned hi (l.tat key) (some (specTat t H))
  times_le : ∀ p ∈ H, p.1 ≤ hi
  conf : Conf tau t H

theorem Tracks.mono {tau t : Nat} {l : Limiter κ} {key : κ} {H : Hist} {hi hi' : Nat}
    (h : Tracks tau t l key H hi) (hh : hi ≤ hi') : Tracks tau t l key H hi' :=
  ⟨h.tau_eq, h.t_eq, h.tat.mono hh, fun p hp => Nat.le_trans (h.times_le p hp) hh, h.conf⟩

theorem tracks_fresh (tau t : Nat) (key : κ) (lo : Nat) : Tracks tau t (fresh tau t) key [] lo :=
  ⟨rfl, rfl, Or.inr ⟨rfl, Nat.zero_le _⟩, by simp, trivial⟩

theorem Tracks.entry_le {tau t : Nat} {l : Limiter κ} {key : κ} {H : Hist} {hi now : Nat}
    (h : Tracks tau t l key H hi) (hh : hi ≤ now) : (l.tat key).getD 0 ≤ now + tau := by
  have h1 := h.tat.getD_le
  have h2 := h.conf.specTat_le h.times_le
  rw [Option.getD_some] at h1
  omega

theorem Tracks.ok_iff {tau t : Nat} {l : Limiter κ} {key : κ} {H : Hist} {hi now k : Nat}
    (h : Tracks tau t l key H hi) (hh : hi ≤ now) (hn : now + 2 * tau < U64) (hk : t * k < U64) :
    (l.allows now key k).2 = .ok ↔ (k * t ≤ tau ∧ specTat t H + k * t ≤ now + tau) := by
  rw [allows_eq h.tau_eq h.t_eq now key k hn hk (h.entry_le hh)]
  exact (stepKey_tracks tau t now k h.tat hh).2

theorem Tracks.ok_iff_sums {tau t : Nat} {l : Limiter κ} {key : κ} {H : Hist} {hi now k : Nat}
    (h : Tracks tau t l key H hi) (hh : hi ≤ now) (hn : now + 2 * tau < U64) (hk : t * k < U64) :
    (l.allows now key k).2 = .ok ↔
      (k * t ≤ tau ∧ ∀ p ∈ sums H, (p.2 + k) * t ≤ (now - p.1) + tau) :=
  (h.ok_iff hh hn hk).trans <| and_congr_right
    (specTat_add_le_iff t H k now tau fun p hp => Nat.le_trans (h.times_le p hp) hh)

theorem tracks_arrive {tau t : Nat} {l : Limiter κ} {key : κ} {H : Hist} {hi now : Nat} (k : κ)
    (tokens : Nat) (h : Tracks tau t l key H hi) (hh : hi ≤ now) (hn : now + 2 * tau < U64)
    (hk : t * tokens < U64) :
    Tracks tau t (l.allows now k tokens).1 key
      (if k = key ∧ (l.allows now k tokens).2 = .ok then (now, tokens) :: H else H) now := by
  have hm := h.mono hh
  by_cases hkey : k = key
  · subst hkey
    obtain ⟨hp, hiff⟩ := stepKey_tracks tau t now tokens h.tat hh
    rw [allows_eq h.tau_eq h.t_eq now k tokens hn hk (h.entry_le hh)]
    simp only [true_and]
    refine ⟨h.tau_eq, h.t_eq, by simpa only [if_true] using hp, ?_, ?_⟩ <;> split
    · exact List.forall_mem_cons.mpr ⟨Nat.le_refl _, hm.times_le⟩
    · exact hm.times_le
    · next hok => exact ⟨hiff.mp hok, hm.times_le, h.conf⟩
    · exact h.conf
  · have hfr := allows_frame l now k tokens
    rw [if_neg (fun hc => hkey hc.1)]
    exact ⟨hfr.1.trans h.tau_eq, hfr.2.1.trans h.t_eq,
      by rw [hfr.2.2 key (Ne.symm hkey)]; exact hm.tat, hm.times_le, h.conf⟩

theorem tracks_prune {tau t : Nat} {l : Limiter κ} {key : κ} {H : Hist} {hi lim : Nat}
    (h : Tracks tau t l key H hi) (hh : hi ≤ lim) (hl : lim < U64) :
    Tracks tau t (l.prune lim) key H lim :=
  have hm := h.mono hh
  ⟨h.tau_eq, h.t_eq, pruned_prune h.tat hh hl, hm.times_le, h.conf⟩

theorem tracks_run {tau t : Nat} {l : Limiter κ} {key : κ} {H : Hist} {lo : Nat} (es : List (Ev κ))
    (h : Tracks tau t l key H lo) (hT : Timed tau t lo es) :
    Tracks tau t (run l es).1 key (accepted key l H es) (lastTime lo es) := by
  induction es generalizing l H lo with
  | nil => exact h
  | cons e es ih =>
    cases e with
    | arrive ns k tokens => exact ih (tracks_arrive k tokens h hT.1 hT.2.1 hT.2.2.1) hT.2.2.2
    | prune ns => exact ih (tracks_prune h hT.1 hT.2.1) hT.2.2

/-! ### Windows -/

def tokensFrom (H : Hist) (s : Nat) : Nat :=
  ((H.filter (fun p => decide (s ≤ p.1))).map (·.2)).sum

theorem tokensIn_cons (a k : Nat) (r : Hist) (s W : Nat) :
    tokensIn ((a, k) :: r) s W
      = (if s ≤ a ∧ a ≤ s + W then k else 0) + tokensIn r s W := by
  by_cases h : s ≤ a ∧ a ≤ s + W <;> simp [tokensIn, h]

theorem tokensFrom_cons (a k : Nat) (r : Hist) (s : Nat) :
    tokensFrom ((a, k) :: r) s = (if s ≤ a then k else 0) + tokensFrom r s := by
  by_cases h : s ≤ a <;> simp [tokensFrom, h]

theorem tokensIn_eq_tokensFrom (r : Hist) (s W : Nat) (h : ∀ p ∈ r, p.1 ≤ s + W) :
    tokensIn r s W = tokensFrom r s := by
  induction r with
  | nil => rfl
  | cons x r ih =>
    obtain ⟨a, k⟩ := x
    rw [tokensIn_cons, tokensFrom_cons, ih (fun p hp => h p (List.mem_cons_of_mem _ hp))]
    have := h (a, k) (by simp)
    simp only [] at this
    by_cases hs : s ≤ a
    · rw [if_pos ⟨hs, this⟩, if_pos hs]
    · rw [if_neg (fun hc => hs hc.1), if_neg hs]

theorem tokensIn_append (X Y : Hist) (s W : Nat) :
    tokensIn (X ++ Y) s W = tokensIn X s W + tokensIn Y s W := by
  unfold tokensIn
  simp [List.filter_append, List.map_append, List.sum_append]

/-- The TAT is at least `t` per token ahead of any time since which those tokens were accepted:
each accepted arrival pushes it by its tokens' worth. -/
theorem tokensFrom_le_specTat (t : Nat) (H : Hist) (s : Nat) :
    tokensFrom H s = 0 ∨ s + tokensFrom H s * t ≤ specTat t H := by
  induction H with
  | nil => exact Or.inl rfl
  | cons x r ih =>
    obtain ⟨a, k⟩ := x
    rw [tokensFrom_cons]
    simp only [specTat]
    by_cases hs : s ≤ a
    · rw [if_pos hs, Nat.add_mul]
      right
      rcases ih with h | h
      · rw [h]; omega
      · omega
    · rw [if_neg hs, Nat.zero_add]
      rcases ih with h | h
      · exact Or.inl h
      · right; omega

/-- The window bound of a conforming history: the tokens accepted in any window `[s, s + W]`,
times `t`, are at most `W + tau` - the newest arrival of the window fitted under a TAT that the
older ones of the window had pushed `t` per token beyond `s`. -/
theorem conf_window {tau t : Nat} {H : Hist} (hc : Conf tau t H) (s W : Nat) :
    tokensIn H s W * t ≤ W + tau := by
  induction H with
  | nil => simp [tokensIn]
  | cons x r ih =>
    obtain ⟨a, k⟩ := x
    obtain ⟨⟨hk, hcond⟩, hsort, hr⟩ := hc
    rw [tokensIn_cons]
    by_cases h1 : s ≤ a ∧ a ≤ s + W
    · rw [if_pos h1, tokensIn_eq_tokensFrom r s W (fun p hp => by have := hsort p hp; omega),
        Nat.add_mul]
      rcases tokensFrom_le_specTat t r s with h0 | h0
      · rw [h0]; omega
      · omega
    · rw [if_neg h1, Nat.zero_add]
      exact ih hr

/-- In a sorted history the TAT is accounted for by the tokens accepted since some time `s`
(the start of the current busy period). -/
theorem specTat_le_tokensFrom {tau t : Nat} {H : Hist} (hc : Conf tau t H) (a : Nat)
    (hle : ∀ p ∈ H, p.1 ≤ a) : ∃ s, s ≤ a ∧ specTat t H ≤ s + tokensFrom H s * t := by
  induction H generalizing a with
  | nil => exact ⟨0, Nat.zero_le _, Nat.zero_le _⟩
  | cons x r ih =>
    obtain ⟨b, kb⟩ := x
    obtain ⟨_, hsort, hr⟩ := hc
    have hb : b ≤ a := hle (b, kb) (by simp)
    obtain ⟨s, hs, h⟩ := ih hr b hsort
    simp only [specTat]
    by_cases hm : specTat t r ≤ b
    · refine ⟨b, hb, ?_⟩
      rw [tokensFrom_cons, if_pos (Nat.le_refl _), Nat.add_mul]
      omega
    · refine ⟨s, by omega, ?_⟩
      rw [tokensFrom_cons, if_pos hs, Nat.add_mul]
      omega

theorem conf_after_replenish {tau t : Nat} {H : Hist} (hc : Conf tau t H) (a k : Nat)
    (hkt : k * t ≤ tau) (hidle : ∀ e ∈ H, e.1 + k * t ≤ a) : specTat t H + k * t ≤ a + tau := by
  cases H with
  | nil => simp only [specTat]; omega
  | cons x r =>
    obtain ⟨b, kb⟩ := x
    obtain ⟨⟨_, _⟩, _⟩ := hc
    have := hidle (b, kb) (by simp)
    simp only [specTat] at *
    omega

/-- The converse of `conf_window` for one arrival. -/
theorem conf_of_windows {tau t : Nat} {H : Hist} (hc : Conf tau t H) (a k : Nat)
    (hle : ∀ e ∈ H, e.1 ≤ a) (hw : ∀ s W, tokensIn ((a, k) :: H) s W * t ≤ W + tau) :
    k * t ≤ tau ∧ specTat t H + k * t ≤ a + tau := by
  constructor
  · have := hw a 0
    rw [tokensIn_cons, if_pos ⟨Nat.le_refl _, by omega⟩, Nat.add_mul] at this
    omega
  · obtain ⟨s, hs, h⟩ := specTat_le_tokensFrom hc a hle
    have := hw s (a - s)
    rw [tokensIn_cons, if_pos ⟨hs, by omega⟩,
      tokensIn_eq_tokensFrom H s (a - s) (fun p hp => by have := hle p hp; omega), Nat.add_mul] at this
    omega

theorem offered_suffix (key : κ) (H : Hist) (es : List (Ev κ)) :
    ∃ pre, offered key H es = pre ++ H := by
  induction es generalizing H with
  | nil => exact ⟨[], rfl⟩
  | cons e es ih =>
    cases e with
    | arrive ns k tokens =>
      obtain ⟨pre, hpre⟩ := ih (if k = key then (ns, tokens) :: H else H)
      refine ⟨pre ++ (if k = key then [(ns, tokens)] else []), hpre.trans ?_⟩
      split <;> simp
    | prune ns => exact ih H

theorem conforming_run {tau t : Nat} {l : Limiter κ} {key : κ} {H : Hist} {lo : Nat}
    (es : List (Ev κ)) (h : Tracks tau t l key H lo) (hT : Timed tau t lo es)
    (hw : ∀ s W, tokensIn (offered key H es) s W * t ≤ W + tau) :
    (∀ v ∈ verdictsOf key l es, v = .ok) ∧ accepted key l H es = offered key H es := by
  induction es generalizing l H lo with
  | nil => exact ⟨by simp [verdictsOf], rfl⟩
  | cons e es ih =>
    cases e with
    | arrive ns k tokens =>
      obtain ⟨h1, h2, h3, h4⟩ := hT
      have hstep := tracks_arrive k tokens h h1 h2 h3
      simp only [verdictsOf, accepted, offered] at hw ⊢
      by_cases hk : k = key
      · subst hk
        -- the windows of the history so far are windows of the offered traffic
        have hok : (l.allows ns k tokens).2 = .ok := by
          obtain ⟨pre, hpre⟩ := offered_suffix k ((ns, tokens) :: H) es
          refine (h.ok_iff h1 h2 h3).mpr (conf_of_windows h.conf ns tokens
            (fun e he => Nat.le_trans (h.times_le e he) h1) fun s W => ?_)
          have := hw s W
          rw [if_pos rfl, hpre, tokensIn_append, Nat.add_mul] at this
          omega
        simp only [hok, and_self, if_true] at hw hstep ⊢
        have := ih hstep h4 hw
        exact ⟨List.forall_mem_cons.mpr ⟨rfl, this.1⟩, this.2⟩
      · simp only [hk, false_and, if_false] at hw hstep ⊢
        exact ih hstep h4 hw
    | prune ns => exact ih (tracks_prune h hT.1 hT.2.1) hT.2.2 hw

/-! ### Prune is transparent -/

/-- `l` (pruned from time to time) against `l'` (never pruned), both with parameters `tau`, `t`. -/
structure PruneRel (tau t : Nat) (l l' : Limiter κ) (hi : Nat) : Prop where
  tau_l : l.tau = tau
  t_l : l.t = t
  tau_r : l'.tau = tau
  t_r : l'.t = t
  tat : ∀ k, Pruned hi (l.tat k) (l'.tat k)
  bound : ∀ k, (l'.tat k).getD 0 ≤ hi + tau

theorem PruneRel.mono {tau t : Nat} {l l' : Limiter κ} {hi hi' : Nat} (h : PruneRel tau t l l' hi)
    (hh : hi ≤ hi') : PruneRel tau t l l' hi' :=
  ⟨h.tau_l, h.t_l, h.tau_r, h.t_r, fun k => (h.tat k).mono hh,
   fun k => Nat.le_trans (h.bound k) (by omega)⟩

theorem pruneRel_refl (l : Limiter κ) (hi : Nat) (hb : ∀ k, (l.tat k).getD 0 ≤ hi + l.tau) :
    PruneRel l.tau l.t l l hi :=
  ⟨rfl, rfl, rfl, rfl, fun _ => Or.inl rfl, hb⟩

theorem pruneRel_arrive {tau t : Nat} {l l' : Limiter κ} {hi now : Nat} (key : κ) (tokens : Nat)
    (h : PruneRel tau t l l' hi) (hh : hi ≤ now) (hn : now + 2 * tau < U64) (hk : t * tokens < U64) :
    (l.allows now key tokens).2 = (l'.allows now key tokens).2 ∧
    PruneRel tau t (l.allows now key tokens).1 (l'.allows now key tokens).1 now := by
  have hm := h.mono hh
  have hs := stepKey_pruned tau t now tokens (h.tat key) hh
  rw [allows_eq h.tau_l h.t_l now key tokens hn hk
      (Nat.le_trans (h.tat key).getD_le (hm.bound key)),
    allows_eq h.tau_r h.t_r now key tokens hn hk (hm.bound key)]
  refine ⟨hs.1, h.tau_l, h.t_l, h.tau_r, h.t_r, fun k => ?_, fun k => ?_⟩
  · show Pruned now (if k = key then _ else _) (if k = key then _ else _)
    split
    · exact hs.2
    · exact hm.tat k
  · show (if k = key then _ else _ : Option Nat).getD 0 ≤ _
    split
    · exact stepKey_bound tau t _ now tokens (hm.bound key)
    · exact hm.bound k

theorem pruneRel_prune {tau t : Nat} {l l' : Limiter κ} {hi lim : Nat}
    (h : PruneRel tau t l l' hi) (hh : hi ≤ lim) (hl : lim < U64) :
    PruneRel tau t (l.prune lim) l' lim :=
  ⟨h.tau_l, h.t_l, h.tau_r, h.t_r, fun k => pruned_prune (h.tat k) hh hl, (h.mono hh).bound⟩

theorem pruneRel_run {tau t : Nat} {l l' : Limiter κ} {hi : Nat} (es : List (Ev κ))
    (h : PruneRel tau t l l' hi) (hT : Timed tau t hi es) :
    (run l es).2 = (run l' (stripPrune es)).2 := by
  induction es generalizing l l' hi with
  | nil => rfl
  | cons e es ih =>
    cases e with
    | arrive ns k tokens =>
      have hs := pruneRel_arrive k tokens h hT.1 hT.2.1 hT.2.2.1
      simp only [stripPrune, run_arrive]
      rw [hs.1, ih hs.2 hT.2.2.2]
    | prune ns => exact ih (pruneRel_prune h hT.1 hT.2.1) hT.2.2

/-! ### One token per arrival -/

/-- Every arrival of the history costs one token (as in `RateLimiter::allows`). -/
def UnitTokens : List (Ev κ) → Prop
  | [] => True
  | .arrive _ _ tokens :: es => tokens = 1 ∧ UnitTokens es
  | .prune _ :: es => UnitTokens es

theorem accepted_unit (key : κ) (l : Limiter κ) (H : Hist) (es : List (Ev κ))
    (hH : ∀ p ∈ H, p.2 = 1) (hu : UnitTokens es) : ∀ p ∈ accepted key l H es, p.2 = 1 := by
  induction es generalizing l H with
  | nil => exact hH
  | cons e es ih =>
    cases e with
    | arrive ns k tokens =>
      refine ih _ _ (fun p hp => ?_) hu.2
      split at hp
      · rcases List.mem_cons.mp hp with rfl | hp
        · exact hu.1
        · exact hH p hp
      · exact hH p hp
    | prune ns => exact ih _ _ hH hu

theorem tokensIn_unit (H : Hist) (h1 : ∀ p ∈ H, p.2 = 1) (s W : Nat) :
    tokensIn H s W = (H.filter (fun p => decide (s ≤ p.1 ∧ p.1 ≤ s + W))).length := by
  induction H with
  | nil => rfl
  | cons x r ih =>
    obtain ⟨a, k⟩ := x
    have hk : k = 1 := h1 (a, k) (by simp)
    rw [tokensIn_cons, ih (fun p hp => h1 p (List.mem_cons_of_mem _ hp))]
    by_cases h : s ≤ a ∧ a ≤ s + W
    · simp [h, hk]; omega
    · simp [h]

/-! ### The three-quota `RateLimiter` -/

/-- `REv`, `rrun`, `rstrip`, `RTimed` are `Ev`, `run`, `stripPrune`, `Timed` for the three-quota
`RateLimiter`; `QRel` is `PruneRel` for one of its quotas. -/
inductive REv where
  | allow (ns : Nat) (kind : LimitKind)
  | prune (ns : Nat)

def rrun (r : RateLimiter) : List REv → RateLimiter × List Verdict
  | [] => (r, [])
  | .allow ns kind :: es => ((rrun (r.allows ns kind).1 es).1, (r.allows ns kind).2 :: (rrun (r.allows ns kind).1 es).2)
  | .prune ns :: es => rrun (r.prune ns) es

def rstrip : List REv → List REv
  | [] => []
  | .allow ns kind :: es => .allow ns kind :: rstrip es
  | .prune _ :: es => rstrip es

/-- `B` bounds every `tau`. -/
def RTimed (B : Nat) : Nat → List REv → Prop
  | _, [] => True
  | lo, .allow ns _ :: es => lo ≤ ns ∧ ns + 2 * B < U64 ∧ RTimed B ns es
  | lo, .prune ns :: es => lo ≤ ns ∧ ns < U64 ∧ RTimed B ns es

/-- `PruneRel` for one of the three limiters, whose period `B` bounds (`t ≤ tau` as `from_quota`
builds it; a request costs one token). -/
def QRel (B hi : Nat) (l l' : Limiter κ) : Prop :=
  ∃ tau t, PruneRel tau t l l' hi ∧ t ≤ tau ∧ tau ≤ B

def OptRel {α : Type} (R : α → α → Prop) : Option α → Option α → Prop
  | some a, some b => R a b
  | none, none => True
  | _, _ => False

/-- `QRel` on each of the three quotas. -/
structure RRel (B : Nat) (r r' : RateLimiter) (hi : Nat) : Prop where
  total : QRel B hi r.total r'.total
  node : OptRel (QRel B hi) r.node r'.node
  ip : OptRel (QRel B hi) r.ip r'.ip

theorem QRel.mono {B hi hi' : Nat} {l l' : Limiter κ} (h : QRel B hi l l') (hh : hi ≤ hi') :
    QRel B hi' l l' :=
  let ⟨tau, t, h1, h2⟩ := h
  ⟨tau, t, h1.mono hh, h2⟩

theorem qrel_allows {B hi now : Nat} {l l' : Limiter κ} (key : κ) (h : QRel B hi l l')
    (hh : hi ≤ now) (hn : now + 2 * B < U64) :
    (l.allows now key 1).2 = (l'.allows now key 1).2 ∧
    QRel B now (l.allows now key 1).1 (l'.allows now key 1).1 := by
  obtain ⟨tau, t, h1, h2, h3⟩ := h
  have := pruneRel_arrive key 1 h1 hh (by omega) (by omega)
  exact ⟨this.1, tau, t, this.2, h2, h3⟩

theorem qrel_prune {B hi lim : Nat} {l l' : Limiter κ} (h : QRel B hi l l') (hh : hi ≤ lim)
    (hl : lim < U64) : QRel B lim (l.prune lim) l' :=
  let ⟨tau, t, h1, h2⟩ := h
  ⟨tau, t, pruneRel_prune h1 hh hl, h2⟩

theorem OptRel.imp {α : Type} {R S : α → α → Prop} {o o' : Option α} (hRS : ∀ a b, R a b → S a b)
    (h : OptRel R o o') : OptRel S o o' := by
  cases o <;> cases o' <;> first | exact h | exact hRS _ _ h

theorem RRel.mono {B : Nat} {r r' : RateLimiter} {hi hi' : Nat} (h : RRel B r r' hi)
    (hh : hi ≤ hi') : RRel B r r' hi' :=
  ⟨h.total.mono hh, h.node.imp fun _ _ h => h.mono hh, h.ip.imp fun _ _ h => h.mono hh⟩

-- `Limiter.allows` stays folded: its result is only moved between the fields of the record.
attribute [local irreducible] Limiter.allows in
theorem rrel_allows {B : Nat} {r r' : RateLimiter} {hi now : Nat} (kind : LimitKind)
    (h : RRel B r r' hi) (hh : hi ≤ now) (hn : now + 2 * B < U64) :
    (r.allows now kind).2 = (r'.allows now kind).2 ∧
    RRel B (r.allows now kind).1 (r'.allows now kind).1 now := by
  have hm := h.mono hh
  obtain ⟨tot, node, ipl⟩ := r
  obtain ⟨tot', node', ipl'⟩ := r'
  cases kind with
  | total =>
    have := qrel_allows () h.total hh hn
    exact ⟨this.1, this.2, hm.node, hm.ip⟩
  | nodeId id =>
    cases node <;> cases node' <;> try exact h.node.elim
    · exact ⟨rfl, hm⟩
    · have := qrel_allows id h.node hh hn
      exact ⟨this.1, hm.total, this.2, hm.ip⟩
  | ip ipk =>
    cases ipl <;> cases ipl' <;> try exact h.ip.elim
    · exact ⟨rfl, hm⟩
    · have := qrel_allows ipk h.ip hh hn
      exact ⟨this.1, hm.total, hm.node, this.2⟩

theorem optRel_prune {B hi lim : Nat} {o o' : Option (Limiter Nat)} (h : OptRel (QRel B hi) o o')
    (hh : hi ≤ lim) (hl : lim < U64) : OptRel (QRel B lim) (o.map (·.prune lim)) o' := by
  cases o <;> cases o' <;> first | exact h | exact qrel_prune h hh hl

theorem rrel_prune {B : Nat} {r r' : RateLimiter} {hi lim : Nat} (h : RRel B r r' hi)
    (hh : hi ≤ lim) (hl : lim < U64) : RRel B (r.prune lim) r' lim :=
  ⟨qrel_prune h.total hh hl, optRel_prune h.node hh hl, optRel_prune h.ip hh hl⟩

theorem rrel_run {B : Nat} {r r' : RateLimiter} {hi : Nat} (es : List REv)
    (h : RRel B r r' hi) (hT : RTimed B hi es) : (rrun r es).2 = (rrun r' (rstrip es)).2 := by
  induction es generalizing r r' hi with
  | nil => rfl
  | cons e es ih =>
    cases e with
    | allow ns kind =>
      have hs := rrel_allows kind h hT.1 hT.2.1
      show _ :: _ = _ :: _
      rw [hs.1, ih hs.2 hT.2.2]
    | prune ns => exact ih (rrel_prune h hT.1 hT.2.1) hT.2.2

theorem fromQuota_rel {n p : Nat} {l : Limiter κ} (B lo : Nat) (hq : fromQuota n p = some l)
    (hB : l.tau ≤ B) : QRel B lo l l := by
  obtain ⟨rfl, _⟩ := fromQuota_eq hq
  exact ⟨p, p / n, pruneRel_refl (fresh p (p / n)) lo fun _ => Nat.zero_le _, Nat.div_le_self _ _, hB⟩

theorem optFromQuota_rel {q : Option (Nat × Nat)} {o : Option (Limiter Nat)} (B lo : Nat)
    (hq : optFromQuota q = some o) (hB : ∀ l, o = some l → l.tau ≤ B) :
    OptRel (QRel B lo) o o := by
  match q, hq with
  | none, hq => cases hq; trivial
  | some (n, p), hq =>
    obtain ⟨l, hf, rfl⟩ := Option.map_eq_some_iff.mp hq
    exact fromQuota_rel B lo hf (hB l rfl)

theorem rrel_build {total node ip : Option (Nat × Nat)} {r : RateLimiter}
    (h : RateLimiter.build total node ip = some r) (B : Nat) (hB : r.total.tau ≤ B)
    (hBn : ∀ l, r.node = some l → l.tau ≤ B) (hBi : ∀ l, r.ip = some l → l.tau ≤ B) (lo : Nat) :
    RRel B r r lo := by
  unfold RateLimiter.build at h
  split at h
  · cases h
  · split at h
    · rename_i ht hn hi
      cases h
      exact ⟨fromQuota_rel B lo ht hB, optFromQuota_rel B lo hn hBn, optFromQuota_rel B lo hi hBi⟩
    · cases h

end Discv5.Limiter

/-! ## The two-stage filter -/

namespace Discv5.Filter
open Discv5.Limiter

/-- One operation on the filter and the global lists (`FOp`, `fstep`, `frun`: `f` for filter). -/
inductive FOp where
  | initial (now : Nat) (ip : Ip)
  | final (now : Nat) (ip : Ip) (node : NodeId)
  | inbound (now : Nat) (permitted : Bool) (ip : Ip) (d : Decoded)
  | prune (now : Nat)
  | sweep (now : Nat)

def FOp.time : FOp → Nat
  | .initial now _ => now
  | .final now _ _ => now
  | .inbound now _ _ _ => now
  | .prune now => now
  | .sweep now => now

def FOp.isSweep : FOp → Bool
  | .sweep _ => true
  | _ => false

def fstep (s : Filter × PermitBan) : FOp → Filter × PermitBan
  | .initial now ip => ((s.1.initialPass s.2 now ip).1, (s.1.initialPass s.2 now ip).2.1)
  | .final now ip node => ((s.1.finalPass s.2 now ip node).1, (s.1.finalPass s.2 now ip node).2.1)
  | .inbound now permitted ip d =>
    ((handleInbound s.1 s.2 now permitted ip d).1, (handleInbound s.1 s.2 now permitted ip d).2.1)
  | .prune now => (s.1.pruneLimiter now, s.2)
  | .sweep now => (s.1, s.2.sweep now)

def frun (s : Filter × PermitBan) : List FOp → Filter × PermitBan
  | [] => s
  | op :: ops => frun (fstep s op) ops

/-- A ban map changed at most by inserting `to` somewhere. -/
def BanStep (m m' : Nat → Option (Option Nat)) (to : Option Nat) : Prop :=
  ∀ k, m' k = m k ∨ m' k = some to

theorem BanStep.refl (m : Nat → Option (Option Nat)) (to : Option Nat) : BanStep m m to :=
  fun _ => Or.inl rfl

theorem banStep_insert (m : Nat → Option (Option Nat)) (key : Nat) (to : Option Nat) :
    BanStep m (banInsert m key to) to := by
  intro k
  unfold banInsert
  by_cases h : k = key
  · right; simp [h]
  · left; simp [h]

theorem BanStep.trans {m m' m'' : Nat → Option (Option Nat)} {to : Option Nat}
    (h1 : BanStep m m' to) (h2 : BanStep m' m'' to) : BanStep m m'' to := by
  intro k
  rcases h2 k with h | h
  · rw [h]; exact h1 k
  · exact Or.inr h

/-- What one call may do to the lists: permit sets untouched, ban maps only gain entries
`banTimeout now`, and the configured ban duration stays. -/
structure Effect (f : Filter) (pb : PermitBan) (now : Nat) (f' : Filter) (pb' : PermitBan) : Prop where
  dur : f'.banDuration = f.banDuration
  permitIps : pb'.permitIps = pb.permitIps
  permitNodes : pb'.permitNodes = pb.permitNodes
  ips : BanStep pb.banIps pb'.banIps (f.banTimeout now)
  nodes : BanStep pb.banNodes pb'.banNodes (f.banTimeout now)

theorem Effect.noBan {f f' : Filter} (pb : PermitBan) (now : Nat)
    (hd : f'.banDuration = f.banDuration) : Effect f pb now f' pb :=
  ⟨hd, rfl, rfl, BanStep.refl _ _, BanStep.refl _ _⟩

theorem Effect.banIp {f f' : Filter} (pb : PermitBan) (now : Nat) (ip : Ip)
    (hd : f'.banDuration = f.banDuration) :
    Effect f pb now f' { pb with banIps := banInsert pb.banIps ip (f.banTimeout now) } :=
  ⟨hd, rfl, rfl, banStep_insert _ _ _, BanStep.refl _ _⟩

theorem Effect.banNode {f f' : Filter} (pb : PermitBan) (now : Nat) (node : NodeId)
    (hd : f'.banDuration = f.banDuration) :
    Effect f pb now f' { pb with banNodes := banInsert pb.banNodes node (f.banTimeout now) } :=
  ⟨hd, rfl, rfl, BanStep.refl _ _, banStep_insert _ _ _⟩

theorem Effect.ite {f : Filter} {pb : PermitBan} {now : Nat} {c : Prop} [Decidable c]
    {x y : Filter × PermitBan × Bool} (hx : Effect f pb now x.1 x.2.1)
    (hy : Effect f pb now y.1 y.2.1) :
    Effect f pb now (if c then x else y).1 (if c then x else y).2.1 := by
  split
  · exact hx
  · exact hy

theorem Effect.trans {f f' f'' : Filter} {pb pb' pb'' : PermitBan} {now : Nat}
    (h1 : Effect f pb now f' pb') (h2 : Effect f' pb' now f'' pb'') : Effect f pb now f'' pb'' := by
  have hto : f'.banTimeout now = f.banTimeout now := by unfold Filter.banTimeout; rw [h1.dur]
  refine ⟨h2.dur.trans h1.dur, h2.permitIps.trans h1.permitIps, h2.permitNodes.trans h1.permitNodes,
    h1.ips.trans (hto ▸ h2.ips), h1.nodes.trans (hto ▸ h2.nodes)⟩

theorem initialPass_permit (f : Filter) (pb : PermitBan) (now : Nat) (ip : Ip)
    (hp : pb.permitIps ip = true) : f.initialPass pb now ip = (f, pb, true) := by
  unfold Filter.initialPass; rw [if_pos hp]

theorem initialPass_banned (f : Filter) (pb : PermitBan) (now : Nat) (ip : Ip)
    (hp : pb.permitIps ip = false) (hb : (pb.banIps ip).isSome = true) :
    f.initialPass pb now ip = (f, pb, false) := by
  unfold Filter.initialPass; rw [if_neg (by simp [hp]), if_pos hb]

theorem initialPass_limited (f : Filter) (pb : PermitBan) (now : Nat) (ip : Ip) (rl : RateLimiter)
    (hp : pb.permitIps ip = false) (hb : (pb.banIps ip).isSome = false) (he : f.enabled = true)
    (hr : f.rateLimiter = some rl) :
    f.initialPass pb now ip =
      if !(rl.allows now (.ip ip)).2.isOk then
        ({ f with rateLimiter := some (rl.allows now (.ip ip)).1 },
         { pb with banIps := banInsert pb.banIps ip (f.banTimeout now) }, false)
      else
        ({ f with rateLimiter := some ((rl.allows now (.ip ip)).1.allows now .total).1 }, pb,
         ((rl.allows now (.ip ip)).1.allows now .total).2.isOk) := by
  unfold Filter.initialPass
  rw [if_neg (by simp [hp]), if_neg (by simp [hb]), if_neg (by simp [he])]
  simp only [hr]

theorem initialPass_effect (f : Filter) (pb : PermitBan) (now : Nat) (ip : Ip) :
    Effect f pb now (f.initialPass pb now ip).1 (f.initialPass pb now ip).2.1 := by
  have h0 : Effect f pb now f pb := .noBan pb now rfl
  unfold Filter.initialPass
  refine .ite h0 (.ite h0 (.ite h0 ?_))
  cases f.rateLimiter with
  | none => exact h0
  | some rl => exact .ite (.banIp pb now ip rfl) (.noBan pb now rfl)

theorem finalPass_permit (f : Filter) (pb : PermitBan) (now : Nat) (ip : Ip) (node : NodeId)
    (hp : pb.permitNodes node = true) : f.finalPass pb now ip node = (f, pb, true) := by
  unfold Filter.finalPass; rw [if_pos hp]

theorem finalPass_banned (f : Filter) (pb : PermitBan) (now : Nat) (ip : Ip) (node : NodeId)
    (hp : pb.permitNodes node = false) (hb : (pb.banNodes node).isSome = true) :
    f.finalPass pb now ip node = (f, pb, false) := by
  unfold Filter.finalPass; rw [if_neg (by simp [hp]), if_pos hb]

theorem finalPass_limited (f : Filter) (pb : PermitBan) (now : Nat) (ip : Ip) (node : NodeId)
    (rl : RateLimiter) (hp : pb.permitNodes node = false) (hb : (pb.banNodes node).isSome = false)
    (he : f.enabled = true) (hr : f.rateLimiter = some rl) :
    f.finalPass pb now ip node =
      if !(rl.allows now (.nodeId node)).2.isOk then
        { f with rateLimiter := some (rl.allows now (.nodeId node)).1 }.nodeExcess pb now ip node
      else
        { f with rateLimiter := some (rl.allows now (.nodeId node)).1 }.finalTail pb now ip node := by
  unfold Filter.finalPass
  rw [if_neg (by simp [hp]), if_neg (by simp [hb]), if_neg (by simp [he])]
  simp only [hr]

theorem countBan_effect (f : Filter) (pb : PermitBan) (now : Nat) (ip : Ip) (maxBans : Nat) :
    Effect f pb now (f.countBan pb now ip maxBans).1 (f.countBan pb now ip maxBans).2 ∧
    (f.countBan pb now ip maxBans).2.banNodes = pb.banNodes := by
  unfold Filter.countBan
  split
  · simp only []
    split
    · exact ⟨Effect.banIp pb now ip rfl, rfl⟩
    · exact ⟨Effect.noBan pb now rfl, rfl⟩
  · exact ⟨Effect.noBan pb now rfl, rfl⟩

theorem nodeExcess_bans (f : Filter) (pb : PermitBan) (now : Nat) (ip : Ip) (node : NodeId) :
    (f.nodeExcess pb now ip node).2.2 = false ∧
    (f.nodeExcess pb now ip node).2.1.banNodes = banInsert pb.banNodes node (f.banTimeout now) ∧
    Effect f pb now (f.nodeExcess pb now ip node).1 (f.nodeExcess pb now ip node).2.1 := by
  unfold Filter.nodeExcess
  have hstep := Effect.banNode (f := f) pb now node rfl
  split
  · rename_i maxBans _
    have := countBan_effect f { pb with banNodes := banInsert pb.banNodes node (f.banTimeout now) }
      now ip maxBans
    exact ⟨rfl, this.2, hstep.trans this.1⟩
  · exact ⟨rfl, rfl, hstep⟩

theorem nodesPerIp_effect (f : Filter) (pb : PermitBan) (now : Nat) (ip : Ip) (node : NodeId)
    (maxNodes : Nat) :
    Effect f pb now (f.nodesPerIp pb now ip node maxNodes).1 (f.nodesPerIp pb now ip node maxNodes).2.1 := by
  unfold Filter.nodesPerIp
  cases f.knownAddrs.find? ip <;> exact .ite (.banIp pb now ip rfl) (.noBan pb now rfl)

theorem finalTail_effect (f : Filter) (pb : PermitBan) (now : Nat) (ip : Ip) (node : NodeId) :
    Effect f pb now (f.finalTail pb now ip node).1 (f.finalTail pb now ip node).2.1 := by
  unfold Filter.finalTail
  cases f.maxNodesPerIp with
  | none => exact .noBan pb now rfl
  | some maxNodes => exact nodesPerIp_effect f pb now ip node maxNodes

theorem finalPass_effect (f : Filter) (pb : PermitBan) (now : Nat) (ip : Ip) (node : NodeId) :
    Effect f pb now (f.finalPass pb now ip node).1 (f.finalPass pb now ip node).2.1 := by
  have h0 : Effect f pb now f pb := .noBan pb now rfl
  unfold Filter.finalPass
  refine .ite h0 (.ite h0 (.ite h0 ?_))
  cases f.rateLimiter with
  | none => exact finalTail_effect f pb now ip node
  | some rl =>
    refine .ite (.trans ?_ (nodeExcess_bans _ pb now ip node).2.2)
      (.trans ?_ (finalTail_effect _ pb now ip node))
    all_goals exact .noBan pb now rfl

theorem handleInbound_permitted (f : Filter) (pb : PermitBan) (now : Nat) (ip : Ip) (d : Decoded) :
    handleInbound f pb now true ip d =
      (f, pb, match d with | .garbage => Outcome.unrecognized | _ => Outcome.inbound) := by
  unfold handleInbound
  cases d <;> simp

theorem handleInbound_effect (f : Filter) (pb : PermitBan) (now : Nat) (permitted : Bool) (ip : Ip)
    (d : Decoded) :
    Effect f pb now (handleInbound f pb now permitted ip d).1 (handleInbound f pb now permitted ip d).2.1 := by
  cases permitted with
  | true => rw [handleInbound_permitted]; exact Effect.noBan pb now rfl
  | false =>
    unfold handleInbound
    simp only [Bool.false_eq_true, if_false]
    have h1 := initialPass_effect f pb now ip
    split
    · exact h1
    · split
      · exact h1
      · exact h1
      · split <;>
          exact h1.trans (finalPass_effect (f.initialPass pb now ip).1 (f.initialPass pb now ip).2.1 now ip _)

/-! ### The ban sweep and the life time of a ban -/

theorem sweepMap_cases (m : Nat → Option (Option Nat)) (now k : Nat) :
    (sweepMap m now k = m k ∧ (∀ e, m k = some (some e) → now < e)) ∨
    (sweepMap m now k = none ∧ ∃ e, m k = some (some e) ∧ e ≤ now) := by
  unfold sweepMap
  cases h : m k with
  | none => left; simp
  | some o =>
    cases o with
    | none => left; simp
    | some e =>
      simp only []
      by_cases hn : now < e
      · rw [if_pos hn]; left; exact ⟨rfl, fun e' he' => by injection he' with he'; injection he' with he'; omega⟩
      · rw [if_neg hn]; right; exact ⟨rfl, e, rfl, by omega⟩

def BannedUntil (m : Nat → Option (Option Nat)) (key D : Nat) : Prop :=
  ∃ e, m key = some e ∧ ∀ x, e = some x → D ≤ x

theorem bannedUntil_step {m m' : Nat → Option (Option Nat)} {to : Option Nat} {key D : Nat}
    (h : BannedUntil m key D) (hs : BanStep m m' to) (hto : ∀ x, to = some x → D ≤ x) :
    BannedUntil m' key D := by
  rcases hs key with h1 | h1
  · obtain ⟨e, he, hx⟩ := h; exact ⟨e, by rw [h1, he], hx⟩
  · exact ⟨to, h1, hto⟩

theorem bannedUntil_sweep {m : Nat → Option (Option Nat)} {key D now : Nat}
    (h : BannedUntil m key D) (hn : now < D) : BannedUntil (sweepMap m now) key D := by
  obtain ⟨e, he, hx⟩ := h
  rcases sweepMap_cases m now key with ⟨h1, _⟩ | ⟨_, e', he', hle⟩
  · exact ⟨e, by rw [h1, he], hx⟩
  · rw [he] at he'
    injection he' with he'
    have := hx e' he'
    omega

theorem fstep_effect (s : Filter × PermitBan) (op : FOp) (hs : op.isSweep = false) :
    Effect s.1 s.2 op.time (fstep s op).1 (fstep s op).2 := by
  cases op with
  | initial now ip => exact initialPass_effect _ _ _ _
  | final now ip node => exact finalPass_effect _ _ _ _ _
  | inbound now permitted ip d => exact handleInbound_effect _ _ _ _ _ _
  | prune now => exact Effect.noBan _ _ rfl
  | sweep now => cases hs

theorem fstep_dur (s : Filter × PermitBan) (op : FOp) : (fstep s op).1.banDuration = s.1.banDuration := by
  cases h : op.isSweep with
  | false => exact (fstep_effect s op h).dur
  | true => cases op <;> first | rfl | cases h

/-- `sel` is either ban map.  The first hypothesis on an operation holds for all `now ≥` the time
the ban was created when `D` = that time + `ban_duration`. -/
theorem banned_persists {sel : PermitBan → Nat → Option (Option Nat)}
    (hsel : sel = PermitBan.banIps ∨ sel = PermitBan.banNodes) (s : Filter × PermitBan)
    (key D : Nat) (ops : List FOp) (hb : BannedUntil (sel s.2) key D)
    (ho : ∀ op ∈ ops, (∀ d, s.1.banDuration = some d → D ≤ op.time + d) ∧
      (op.isSweep = true → op.time < D)) :
    BannedUntil (sel (frun s ops).2) key D := by
  induction ops generalizing s with
  | nil => exact hb
  | cons op ops ih =>
    obtain ⟨⟨h1, h2⟩, h3⟩ := List.forall_mem_cons.mp ho
    refine ih (fstep s op) ?_ (by rw [fstep_dur]; exact h3)
    cases hsw : op.isSweep with
    | false =>
      have he := fstep_effect s op hsw
      refine bannedUntil_step hb (by rcases hsel with rfl | rfl; exact he.ips; exact he.nodes) ?_
      intro x hx
      unfold Filter.banTimeout at hx
      obtain ⟨d, hd, rfl⟩ := Option.map_eq_some_iff.mp hx
      exact h1 d hd
    | true =>
      cases op with
      | sweep now =>
        have : sel (fstep s (.sweep now)).2 = sweepMap (sel s.2) now := by
          rcases hsel with rfl | rfl <;> rfl
        rw [this]
        exact bannedUntil_sweep hb (h2 hsw)
      | _ => cases hsw

end Discv5.Filter
