/-
C04, clause "a timeout is reported only if some request to that peer really went unanswered for a
full timeout period" (handler model, namespace `TJ` for timeout justification; property theorems in
`Props/C04Timeout.lean`).

The model has no send-time stamps, so the bookkeeping is done on the proof side.  Within a step,
`W` says of every active call that it is untouched or that its timer was armed in this step, right
with a transmission of its packet to its peer or by re-arming a call of the same request to the
same peer (`Prov`).  One walk through the handler functions keeps `W` together with the
transmission invariant `TI` of `Proofs/HandlerTransmissions.lean`: both follow a call taken out of
the active list until it is put back, and in `replay_active_requests` `W` needs the nonce
discipline of `TI` (the packet map is keyed by nonce, and only because different calls carry
different nonces the re-encrypted packet goes to the peer of the call it is stored in).  On the
timer path `E` adds that no new requests appear and that every `failed _ timeout` output is
justified by an expired call with a provenance, to whose peer the failed request was addressed.
Over a history, seen as a list of frames, every running timer then has an `Origin`, and the trace
theorem follows.
-/
import Discv5Model.Proofs.HandlerTransmissions

namespace Discv5.H.TJ
open Discv5.H.RQ Discv5.H.TX

/-- Where the timer of the active call `cl` comes from, relative to the state `s0` at the start of
the running step and the outputs `os` of the step so far: the call is untouched (`cl ∈ s0.active`),
or its timer was armed during this step (deadline at least `s0.now + request_timeout`), either right
with a transmission of its packet to its peer, or by re-arming a call of the same request to the
same peer that was already active at the start of the step. -/
def Prov (c : Cfg) (s0 : HState) (now : Nat) (os : List Out) (cl : Call) : Prop :=
  cl ∈ s0.active ∨ (s0.now + c.requestTimeout ≤ cl.deadline ∧ cl.deadline ≤ now + c.requestTimeout ∧
    (Out.send (callNA cl) cl.pkt ∈ os ∨ ∃ cl0 ∈ s0.active, cl0.rid = cl.rid ∧ callNA cl0 = callNA cl))

/-- What is known about a request (id, peer, packet) whose timer is about to be armed: its packet
went to the peer in this step (`keep` = outputs known to have been produced), or it continues a
call that was active at the start of the step. -/
def Arm (s0 : HState) (keep : List Out) (rid : Nat) (na : NA) (p : Pkt) : Prop :=
  Out.send na p ∈ keep ∨ ∃ cl0 ∈ s0.active, cl0.rid = rid ∧ callNA cl0 = na

/-- Walk invariant: the outputs in `keep` are still there, time has not run backwards, and every
active call has a provenance. -/
structure W (c : Cfg) (s0 : HState) (keep : List Out) (st : St) : Prop where
  keep : ∀ o ∈ keep, o ∈ st.2
  now : s0.now ≤ st.1.now
  prov : ∀ cl ∈ st.1.active, Prov c s0 st.1.now st.2 cl

variable {c : Cfg} {s0 : HState} {keep : List Out}

theorem Prov.mono {now now' : Nat} {os os' : List Out} {cl : Call} (h : Prov c s0 now os cl)
    (hn : now ≤ now') (ho : ∀ o ∈ os, o ∈ os') : Prov c s0 now' os' cl := by
  rcases h with h | ⟨h1, h3, h2 | h2⟩
  · exact Or.inl h
  · exact Or.inr ⟨h1, Nat.le_trans h3 (Nat.add_le_add_right hn _), Or.inl (ho _ h2)⟩
  · exact Or.inr ⟨h1, Nat.le_trans h3 (Nat.add_le_add_right hn _), Or.inr h2⟩

theorem Prov.arm {now : Nat} {os : List Out} {cl : Call} (h : Prov c s0 now os cl)
    (ho : ∀ o ∈ os, o ∈ keep) : Arm s0 keep cl.rid (callNA cl) cl.pkt := by
  rcases h with h | ⟨_, _, h2 | h2⟩
  · exact Or.inr ⟨cl, h, rfl, rfl⟩
  · exact Or.inl (ho _ h2)
  · exact Or.inr h2

theorem W.mono {st st' : St} (h : W c s0 keep st) (ha : ∀ x ∈ st'.1.active, x ∈ st.1.active)
    (hn : st.1.now ≤ st'.1.now) (ho : ∀ o ∈ st.2, o ∈ st'.2) : W c s0 keep st' :=
  ⟨fun o hk => ho o (h.keep o hk), Nat.le_trans h.now hn, fun cl hc => (h.prov cl (ha cl hc)).mono hn ho⟩

theorem W.frame {st st' : St} (h : W c s0 keep st) (ha : st'.1.active = st.1.active)
    (hn : st'.1.now = st.1.now) (ho : st'.2 = st.2) : W c s0 keep st' :=
  h.mono (fun _ hx => ha ▸ hx) (Nat.le_of_eq hn.symm) (fun _ hm => ho ▸ hm)

/-- Re-parameterise: everything produced so far is kept from now on. -/
theorem W.rekeep {st : St} (h : W c s0 keep st) : W c s0 st.2 st :=
  ⟨fun _ ho => ho, h.now, h.prov⟩

theorem W.unkeep {st : St} {keep' : List Out} (h : W c s0 keep st) (hk : ∀ o ∈ keep', o ∈ keep) :
    W c s0 keep' st :=
  ⟨fun o ho => h.keep o (hk o ho), h.now, h.prov⟩

theorem W.insert {st : St} (h : W c s0 keep st) (x : Call) (t : Nat) (hx : Prov c s0 st.1.now st.2 x) :
    W c s0 keep ({ st.1 with active := st.1.active ++ [x], tctr := t }, st.2) :=
  ⟨h.keep, h.now, fun y hy => by
    rcases List.mem_append.1 hy with hy | hy
    · exact h.prov y hy
    · rw [List.mem_singleton.1 hy]; exact hx⟩

theorem W.emit {st : St} (h : W c s0 keep st) (o : Out) : W c s0 keep (st.1, st.2 ++ [o]) :=
  h.mono (fun _ hx => hx) (Nat.le_refl _) (fun _ hm => List.mem_append_left _ hm)

theorem Ho.pin_outs {α} {P : St → Prop} {m : M α} {Q : α → St → Prop}
    (h : ∀ os1, Ho (fun st => st.2 = os1 ∧ P st) m Q) : Ho P m Q :=
  ⟨fun st hp => (h st.2).out st ⟨rfl, hp⟩⟩

/-! ## The frame rule -/

/-- `P` reads the active list, the clock and the outputs, of the name counters only that the
nonce counter does not fall, and of the queue only that nothing joins it: every primitive that
leaves these alone keeps `P`. -/
def Framed (P : St → Prop) : Prop :=
  ∀ st st' : St, st'.1.active = st.1.active → st'.1.now = st.1.now →
    st.1.fresh.nonce ≤ st'.1.fresh.nonce → (∀ e ∈ st'.1.pending, e ∈ st.1.pending) → st'.2 = st.2 →
    P st → P st'

section
variable {P : St → Prop} (hP : Framed P)
include hP

theorem Framed.modS (f : HState → HState)
    (h : ∀ s, (f s).active = s.active ∧ (f s).now = s.now ∧ (f s).fresh = s.fresh ∧ (f s).pending = s.pending) :
    Ho P (modS f) (fun _ => P) :=
  Ho.modS f (fun st hp => hP st _ (h st.1).1 (h st.1).2.1 (Nat.le_of_eq (congrArg _ (h st.1).2.2.1.symm))
    (fun _ he => (h st.1).2.2.2 ▸ he) rfl hp)
theorem Framed.setS_pin {s1 : HState} (f : HState → HState)
    (h : ∀ s, (f s).active = s.active ∧ (f s).now = s.now ∧ (f s).fresh = s.fresh ∧ (f s).pending = s.pending) :
    Ho (Pin s1 P) (setS (f s1)) (fun _ => P) := Ho.setS_pin f (hP.modS f h).out
theorem Framed.take {s1 : HState} (na : NA) :
    Ho (Pin s1 P) (setS { s1 with pending := s1.pending.filter (·.1 != na) }) (fun _ => P) :=
  Ho.setS_pin (fun s => { s with pending := s.pending.filter (·.1 != na) })
    (fun st hp => hP st _ rfl rfl (Nat.le_refl _) (fun _ h => (List.mem_filter.1 h).1) rfl hp)
theorem Framed.freshNonce : Ho P (freshNonce c) (fun _ => P) :=
  ⟨fun st hp => hP st _ rfl rfl (Nat.le_succ _) (fun _ h => h) rfl hp⟩
theorem Framed.encryptMessage (s m) : Ho P (encryptMessage c s m) (fun _ => P) :=
  ⟨fun st hp => hP st _ rfl rfl (Nat.le_succ _) (fun _ h => h) rfl hp⟩
theorem Framed.freshCd : Ho P (freshCd c) (fun _ => P) := ⟨fun st hp => hP st _ rfl rfl (Nat.le_refl _) (fun _ h => h) rfl hp⟩
theorem Framed.freshEph : Ho P (freshEph c) (fun _ => P) := ⟨fun st hp => hP st _ rfl rfl (Nat.le_refl _) (fun _ h => h) rfl hp⟩
theorem Framed.freshRid : Ho P (freshRid c) (fun _ => P) := ⟨fun st hp => hP st _ rfl rfl (Nat.le_refl _) (fun _ h => h) rfl hp⟩
theorem Framed.addExpected (a) : Ho P (addExpected a) (fun _ => P) :=
  hP.modS _ (fun s => by split <;> exact ⟨rfl, rfl, rfl, rfl⟩)
theorem Framed.removeExpected (a) : Ho P (removeExpected a) (fun _ => P) := hP.modS _ (fun _ => ⟨rfl, rfl, rfl, rfl⟩)
theorem Framed.sessPut (na s) : Ho P (sessPut na s) (fun _ => P) := hP.modS _ (fun _ => ⟨rfl, rfl, rfl, rfl⟩)
theorem Framed.sessInsert (na s) : Ho P (sessInsert c na s) (fun _ => P) := hP.modS _ (fun _ => ⟨rfl, rfl, rfl, rfl⟩)
theorem Framed.sessRemove (na) : Ho P (sessRemove na) (fun _ => P) := hP.modS _ (fun _ => ⟨rfl, rfl, rfl, rfl⟩)
theorem Framed.sessGetMut (na) : Ho P (sessGetMut c na) (fun _ => P) :=
  sessGetMut_elim (fun st hp => ⟨fun _ => hp, fun _ _ _ _ =>
    ⟨fun _ => hP st _ rfl rfl (Nat.le_refl _) (fun _ h => h) rfl hp, fun _ => hP st _ rfl rfl (Nat.le_refl _) (fun _ h => h) rfl hp⟩⟩)
theorem Framed.removeExpiredSessions (he : ∀ l, Ho P (emit (.expired l)) (fun _ => P)) :
    Ho P (removeExpiredSessions c) (fun _ => P) :=
  ⟨fun st hp => by
    rw [removeExpiredSessions_run]
    have hs : P ({ st.1 with sessions := (popExpired c.sessionTtl st.1.rt st.1.sessions).2 }, st.2) :=
      hP st _ rfl rfl (Nat.le_refl _) (fun _ h => h) rfl hp
    dsimp only
    split
    · exact hs
    · exact (he _).out _ hs⟩
theorem Framed.isAwaitingSession (na) : Ho P (isAwaitingSession c na) (fun _ => P) := by
  unfold H.isAwaitingSession
  refine Ho.bind (hP.sessGetMut _) (fun r => ?_)
  cases r with
  | some _ => exact Ho.pureI _
  | none => exact Ho.getS_pin (fun s => Ho.unpin (Ho.pureI _))

end

theorem W.framed : Framed (W c s0 keep) := fun _ _ ha hn _ _ ho h => h.frame ha hn ho

/-! ## Walk T: the handler functions keep the transmission invariant and `W`

The two travel together: `W` needs the nonce discipline of `TI` in `replay_active_requests`, and
both follow a call taken out of the active list until it is put back.  `T_f` is what the handler
function `f` does to the pair; `W_f` is the half about `W` where `TI` has its own lemma `X_f` in
`Proofs/HandlerTransmissions.lean`. -/

variable {pre : List Out}

/-- what the walk keeps -/
def TW (c : Cfg) (pre : List Out) (s0 : HState) (keep : List Out) (st : St) : Prop :=
  TI c pre st ∧ W c s0 keep st
/-- with a call in hand -/
def TH (c : Cfg) (pre : List Out) (s0 : HState) (keep : List Out) (p : Pkt) (r : Nat) (st : St) : Prop :=
  XH c pre p r st ∧ W c s0 keep st
/-- with a new packet that is neither sent nor active -/
def TU (c : Cfg) (pre : List Out) (s0 : HState) (keep : List Out) (p : Pkt) (st : St) : Prop :=
  XU c pre p st ∧ W c s0 keep st

theorem TW.framed : Framed (TW c pre s0 keep) := fun _ _ ha hn hf _ ho h =>
  ⟨h.1.frame ha hf ho, h.2.frame ha hn ho⟩
theorem TU.framed {p : Pkt} : Framed (TU c pre s0 keep p) := fun _ _ ha hn hf _ ho h =>
  ⟨⟨h.1.1.frame ha hf ho, h.1.2.1.frame hf ho, h.1.2.2.frame ha⟩, h.2.frame ha hn ho⟩

/-- With a call in hand that is not going to be put back, any invariant-keeping code may run. -/
theorem TH_drop {α} {p : Pkt} {r : Nat} {m : M α} {Q : α → St → Prop} (h : Ho (TW c pre s0 keep) m Q) :
    Ho (TH c pre s0 keep p r) m Q := h.pre (fun _ hp => ⟨hp.1.1, hp.2⟩)

theorem TU.of_fresh {n : Nat} {p : Pkt} {st : St}
    (h : (TI c pre st ∧ FreshN c pre n st) ∧ W c s0 keep st) (hw : NotWru p) (hn : p.nonce = n) :
    TU c pre s0 keep p st :=
  ⟨⟨h.1.1, h.1.2.unsent hw hn⟩, h.2⟩

/-- Any output but a `send`; for a given constructor the side condition is closed by itself. -/
theorem T_emit (o : Out) (ho : ∀ na q, o ≠ .send na q := by exact fun _ _ h => nomatch h) :
    Ho (TW c pre s0 keep) (emit o) (fun _ => TW c pre s0 keep) :=
  ⟨fun _ hp => ⟨hp.1.emit_other o ho, hp.2.emit o⟩⟩

theorem T_send_wru (na : NA) (n cd e : Nat) :
    Ho (TW c pre s0 keep) (send na (.whoareyou n cd e)) (fun _ => TW c pre s0 keep) :=
  ⟨fun _ hp => ⟨hp.1.send_wru na n cd e, hp.2.emit _⟩⟩

theorem T_removeExpiredSessions :
    Ho (TW c pre s0 keep) (removeExpiredSessions c) (fun _ => TW c pre s0 keep) :=
  TW.framed.removeExpiredSessions (fun _ => T_emit _)

theorem T_activeRemoveRequests (na) :
    Ho (TW c pre s0 keep) (activeRemoveRequests na) (fun _ => TW c pre s0 keep) :=
  ⟨fun _ hp => ⟨hp.1.sub _ List.filter_sublist,
    hp.2.mono (fun _ hx => (List.mem_filter.1 hx).1) (Nat.le_refl _) (fun _ h => h)⟩⟩

theorem T_freshNonce : Ho (TW c pre s0 keep) (freshNonce c)
    (fun n st => (TI c pre st ∧ FreshN c pre n st) ∧ W c s0 keep st) :=
  Ho.conj X_freshNonce W.framed.freshNonce

theorem T_encryptMessage (sess : Session) (pt : Msg) :
    Ho (TW c pre s0 keep) (encryptMessage c sess pt) (fun r st => TU c pre s0 keep r.2 st) :=
  Ho.conj (X_encryptMessage sess pt) (W.framed.encryptMessage sess pt)

/-- Taking a call out of the active list (while the clock may be set forward): the call is in hand,
with its provenance. -/
theorem TW.erase {st : St} (h : TW c pre s0 keep st) {call : Call} (hm : call ∈ st.1.active)
    (f : HState → HState) (hf : (f st.1).active = st.1.active.erase call) (hn : (f st.1).fresh = st.1.fresh)
    (hnow : st.1.now ≤ (f st.1).now) :
    TH c pre s0 keep call.pkt call.retries (f st.1, st.2) ∧ Prov c s0 (f st.1).now st.2 call :=
  ⟨⟨h.1.erase hm f hf hn, h.2.mono (fun _ hx => List.mem_of_mem_erase (hf ▸ hx)) hnow (fun _ h => h)⟩,
    (h.2.prov call hm).mono hnow (fun _ h => h)⟩

/-- After looking for a call to remove: nothing found and nothing changed, or the call is in hand,
with its provenance. -/
def Removed (c : Cfg) (pre : List Out) (s0 : HState) (keep : List Out) (r : Option Call) (st : St) : Prop :=
  match r with
  | none => TW c pre s0 keep st
  | some call => TH c pre s0 keep call.pkt call.retries st ∧ Prov c s0 st.1.now st.2 call

theorem Removed.tw {r : Option Call} {st : St} (h : Removed c pre s0 keep r st) : TW c pre s0 keep st := by
  cases r with
  | none => exact h
  | some _ => exact ⟨h.1.1.1, h.1.2⟩

theorem T_activeRemoveByNonce (n : Nat) :
    Ho (TW c pre s0 keep) (activeRemoveByNonce n) (Removed c pre s0 keep) :=
  activeRemoveByNonce_elim (fun _ hp => ⟨fun _ => hp, fun call hf => hp.erase (List.mem_of_find?_eq_some hf)
    (fun s => { s with active := s.active.erase call }) rfl rfl (Nat.le_refl _)⟩)

theorem T_activeRemoveRequest (na : NA) (rid : Nat) :
    Ho (TW c pre s0 keep) (activeRemoveRequest na rid) (Removed c pre s0 keep) :=
  activeRemoveRequest_elim (fun _ hp => ⟨fun _ => hp, fun call hf => hp.erase (List.mem_of_find?_eq_some hf)
    (fun s => { s with active := s.active.erase call }) rfl rfl (Nat.le_refl _)⟩)

/-- A call taken out of the active list may be put back: for the rest of the function the outputs
produced so far are the kept ones, so that its provenance is a fact that does not depend on the
state any more. -/
theorem T_hand {α} {call : Call} {m : M α}
    (h : ∀ os1, Arm s0 os1 call.rid (callNA call) call.pkt →
      Ho (TH c pre s0 os1 call.pkt call.retries) m (fun _ => TW c pre s0 os1)) :
    Ho (Removed c pre s0 keep (some call)) m (fun _ => TW c pre s0 keep) :=
  ⟨fun st hp =>
    have x := (h st.2 (hp.2.arm (fun _ h => h))).out st ⟨hp.1.1, hp.1.2.rekeep⟩
    ⟨x.1, x.2.unkeep hp.1.2.keep⟩⟩

/-- Arming the timer of the call in hand, whose packet went out in this step or which continues a
call that was active at the start of the step. -/
theorem T_activeInsert (call : Call) (h : Arm s0 keep call.rid (callNA call) call.pkt) :
    Ho (TH c pre s0 keep call.pkt call.retries) (activeInsert c call) (fun _ => TW c pre s0 keep) :=
  Ho.modS _ (fun _ hh => ⟨hh.1.1.insert call hh.1.2 _ _ _, hh.2.insert _ _
    (Or.inr ⟨Nat.add_le_add_right hh.2.now _, Nat.le_refl _, h.imp_left (hh.2.keep _)⟩)⟩)

/-- A transmission of the packet of `call` that leaves the call in hand, then arming its timer:
the first transmission of a new packet, or a retransmission. -/
theorem T_send_insert {P : St → Prop} (call : Call)
    (hs : ∀ st, P st → XH c pre call.pkt call.retries (st.1, st.2 ++ [.send (callNA call) call.pkt])) :
    Ho (fun st => P st ∧ W c s0 keep st) (send (callNA call) call.pkt >>= fun _ => activeInsert c call)
      (fun _ => TW c pre s0 keep) :=
  ⟨fun st h => ⟨(hs st h.1).1.insert call (hs st h.1).2 _ _ _, (h.2.emit _).insert _ _
    (Or.inr ⟨Nat.add_le_add_right h.2.now _, Nat.le_refl _,
      Or.inl (List.mem_append_right _ (List.mem_singleton.2 rfl))⟩)⟩⟩

/-- The handshake packet (fresh nonce `n`) replaces the packet of the call in hand, the call goes
back into the active list and the new packet is transmitted for the first time. -/
theorem T_insert_send (call : Call) (n : Nat) (hr : 1 ≤ call.retries) (hw : NotWru call.pkt)
    (hn : call.pkt.nonce = n) :
    Ho (fun st => (TI c pre st ∧ FreshN c pre n st) ∧ W c s0 keep st)
      (activeInsert c call >>= fun _ => send (callNA call) call.pkt) (fun _ => TW c pre s0 keep) :=
  -- the same final state as sending first
  ⟨(T_send_insert call (fun _ hp =>
    have hu := hp.2.unsent hw hn
    ⟨hp.1.send_fresh _ hu.1, Hand.of_sent _ hu.1 hu.2 hr⟩)).out⟩

/-- The tail of `send_request`: first transmission of the new packet, then the call is filed. -/
theorem T_sendTail (ct : Contact) (rid : Nat) (i : Bool) (b : Nat) (p : Pkt) (ini : Bool) :
    Ho (TU c pre s0 keep p) (sendTail c ct rid i b p ini) (fun _ => TW c pre s0 keep) := by
  unfold sendTail
  exact Ho.bind (TU.framed.addExpected _) (fun _ => Ho.bind₂
    (T_send_insert { contact := ct, pkt := p, rid := rid, internal := i, body := b, initiating := ini }
      (fun _ hp => ⟨hp.1.send_fresh _ hp.2.1, Hand.of_sent _ hp.2.1 hp.2.2 (Nat.le_refl _)⟩))
    (fun _ => Ho.pureI _))

theorem T_sendNow (ct : Contact) (rid : Nat) (i : Bool) (b : Nat) :
    Ho (TW c pre s0 keep) (sendNow c ct rid i b) (fun _ => TW c pre s0 keep) := by
  unfold sendNow
  refine Ho.bind (TW.framed.sessGetMut ct.na) (fun r => ?_)
  cases r with
  | some sess =>
    exact Ho.bind (T_encryptMessage sess _) (fun r => Ho.bind (TU.framed.sessPut ..) (fun _ => T_sendTail ..))
  | none =>
    exact Ho.bind T_freshNonce (fun n => Ho.pre (T_sendTail ..)
      (fun _ hp => TU.of_fresh hp (fun _ _ _ h => nomatch h) rfl))

theorem T_queueRequest (ct : Contact) (rid : Nat) (i : Bool) (b : Nat) :
    Ho (TW c pre s0 keep) (queueRequest ct rid i b) (fun _ => TW c pre s0 keep) :=
  ⟨fun st h => by rw [queueRequest_run]; exact ⟨h.1.frame rfl (Nat.le_refl _) rfl, h.2.frame rfl rfl rfl⟩⟩

theorem T_sendRequest (ct rid i b) :
    Ho (TW c pre s0 keep) (sendRequest c ct rid i b) (fun _ => TW c pre s0 keep) := by
  rw [sendRequest_split]
  refine Ho.ite (fun _ => Ho.pureI _) (fun _ => Ho.getS_pin (fun s => Ho.unpin
    (Ho.ite (fun _ => T_queueRequest ..) (fun _ => ?_))))
  exact Ho.bind (TW.framed.isAwaitingSession _) (fun _ => Ho.ite (fun _ => T_queueRequest ..)
    (fun _ => T_sendNow ..))

theorem T_sendPendingRequests (na) :
    Ho (TW c pre s0 keep) (sendPendingRequests c na) (fun _ => TW c pre s0 keep) := by
  unfold sendPendingRequests
  refine Ho.getS_pin (fun s => Ho.bind (Q := fun _ => TW c pre s0 keep)
    (TW.framed.take na)
    (fun _ => Ho.forEachI _ _ (fun pr => Ho.bind (T_sendRequest ..) (fun r => ?_))))
  cases r with
  | none => exact Ho.pureI _
  | some e => exact Ho.iteI (T_emit _) (Ho.pureI _)

theorem T_failPending (na : NA) (e : Err) :
    Ho (TW c pre s0 keep) (failPending na e) (fun _ => TW c pre s0 keep) := by
  unfold failPending
  refine Ho.getS_pin (fun s => ?_)
  split
  · exact Ho.bind
      (TW.framed.take na)
      (fun _ => Ho.forEachI _ _ (fun pr => Ho.iteI (T_emit _) (Ho.pureI _)))
  · exact Ho.unpin (Ho.pureI _)

theorem T_failActive (na : NA) (e : Err) :
    Ho (TW c pre s0 keep) (failActive na e) (fun _ => TW c pre s0 keep) := by
  unfold failActive
  exact Ho.bind (T_activeRemoveRequests na) (fun calls => Ho.forEachI _ _ (fun call => Ho.ite
    (fun _ => Ho.bind (T_emit _) (fun _ => TW.framed.removeExpected _))
    (fun _ => TW.framed.removeExpected _)))

theorem T_failSession (na e b) :
    Ho (TW c pre s0 keep) (failSession c na e b) (fun _ => TW c pre s0 keep) := by
  rw [failSession_eq]
  exact Ho.bind (Ho.iteI (Ho.bind T_removeExpiredSessions (fun _ => TW.framed.sessRemove _)) (Ho.pureI _))
    (fun _ => Ho.bind (T_failPending na e) (fun _ => T_failActive na e))

theorem T_failRequest (call e b) :
    Ho (TW c pre s0 keep) (failRequest c call e b) (fun _ => TW c pre s0 keep) := by
  unfold failRequest
  exact Ho.ite (fun _ => Ho.bind (T_emit _) (fun _ => T_failSession ..)) (fun _ => T_failSession ..)

/-- `handle_request_timeout` for the call whose timer fired (it is in hand): either the call is
failed, or its packet is retransmitted — the retry counter is below `request_retries` — and the
call goes back with the counter incremented. -/
theorem T_handleRequestTimeout (call : Call) :
    Ho (TH c pre s0 keep call.pkt call.retries) (handleRequestTimeout c call) (fun _ => TW c pre s0 keep) := by
  unfold handleRequestTimeout
  exact Ho.ite (fun _ => TH_drop (Ho.bind (TW.framed.removeExpected _) (fun _ => T_failRequest ..)))
    (fun hlt => T_send_insert { call with retries := call.retries + 1 }
      (fun _ hp => hp.1.resend _ hp.2 (Nat.lt_of_not_le hlt)))

theorem T_sendChallenge (na n k) :
    Ho (TW c pre s0 keep) (sendChallenge c na n k) (fun _ => TW c pre s0 keep) := by
  unfold sendChallenge
  refine Ho.getS_pin (fun s => Ho.unpin (Ho.ite (fun _ => Ho.pureI _) (fun _ => ?_)))
  exact Ho.bind TW.framed.freshCd (fun cd => Ho.bind (TW.framed.addExpected _) (fun _ =>
    Ho.bind (T_send_wru ..) (fun _ => TW.framed.modS _ (fun _ => ⟨rfl, rfl, rfl, rfl⟩))))

theorem T_handleResponse (na rid rb) :
    Ho (TW c pre s0 keep) (handleResponse c na rid rb) (fun _ => TW c pre s0 keep) := by
  unfold handleResponse
  refine Ho.bind (T_activeRemoveRequest na rid) (fun r => ?_)
  cases r with
  | none => exact Ho.pureI _
  | some call =>
    refine T_hand (call := call) (fun os1 harm => ?_)
    have fin : Ho (TH c pre s0 os1 call.pkt call.retries)
        (do removeExpected na.addr; emit (Out.response na rid rb)) (fun _ => TW c pre s0 os1) :=
      TH_drop (Ho.bind (TW.framed.removeExpected _) (fun _ => T_emit _))
    have again : ∀ r, Ho (TH c pre s0 os1 call.pkt call.retries)
        (do activeInsert c { call with remaining := r }; emit (Out.response na rid rb); pure ())
        (fun _ => TW c pre s0 os1) :=
      fun r => Ho.bind (T_activeInsert { call with remaining := r } harm) (fun _ => Ho.bind (T_emit _) (fun _ => Ho.pureI _))
    dsimp only
    split
    · refine Ho.ite (fun _ => ?_) (fun _ => fin)
      split
      · exact Ho.ite (fun _ => again _) (fun _ => fin)
      · exact again _
    · exact fin

theorem T_verifyLast (na : NA) (rb : RespBody) :
    Ho (TW c pre s0 keep) (verifyLast na rb) (fun _ => TW c pre s0 keep) := by
  unfold verifyLast
  split
  · split
    · exact Ho.ite (fun _ => Ho.bind (T_emit _) (fun _ => Ho.pureI _))
        (fun _ => Ho.bind (T_emit _) (fun _ => Ho.pureI _))
    · exact Ho.pureI _
  · exact Ho.pureI _

theorem T_finishEnr (na : NA) (sess : Session) (rid : Nat) (rb : RespBody) :
    Ho (TW c pre s0 keep) (finishEnr c na sess rid rb) (fun _ => TW c pre s0 keep) := by
  unfold finishEnr
  refine Ho.bind (TW.framed.sessPut ..) (fun _ => Ho.bind (T_activeRemoveRequest na rid) (fun r =>
    Ho.pre (P' := TW c pre s0 keep) ?_ (fun _ hp => hp.tw)))
  have tl : Ho (TW c pre s0 keep) (do
      let verified ← verifyLast na rb
      if !verified then failSession c na .invalidRemoteEnr true) (fun _ => TW c pre s0 keep) :=
    Ho.bind (T_verifyLast ..) (fun _ => Ho.iteI (T_failSession ..) (Ho.pureI _))
  cases r with
  | none => exact tl
  | some _ => exact Ho.bind (TW.framed.removeExpected _) (fun _ => tl)

theorem T_handleMessage (na n ct) :
    Ho (TW c pre s0 keep) (handleMessage c na n ct) (fun _ => TW c pre s0 keep) := by
  rw [handleMessage_eq]
  refine Ho.bind (TW.framed.sessGetMut na) (fun r => ?_)
  cases r with
  | none => exact T_emit _
  | some sess =>
    refine Ho.bind (TW.framed.sessPut ..) (fun _ => ?_)
    split
    · exact Ho.bind (T_failSession ..) (fun _ =>
        Ho.getS_pin (fun s => Ho.unpin (Ho.iteI (T_emit _) (Ho.pureI _))))
    · exact Ho.pureI _
    · exact T_emit _
    · exact Ho.ite (fun _ => T_finishEnr ..) (fun _ => T_handleResponse ..)

/-! ### `replay_active_requests`: the re-encrypted packets go to the peer of their calls -/

/-- Every call that carries one of the nonces still to be replaced is a call to `na`. -/
def OwnerU (na : NA) (rem : List (Nat × Pkt)) (st : St) : Prop :=
  ∀ x ∈ rem, ∀ y ∈ st.1.active, y.pkt.nonce = x.1 → callNA y = na

theorem reencryptAll_nonces (A : List Call) (l : List Call) (sess : Session) (acc : List (Nat × Pkt)) :
    Ho (fun st => W c s0 keep st ∧ st.1.active = A) (reencryptAll c l sess acc)
      (fun r st => (W c s0 keep st ∧ st.1.active = A) ∧
        r.2.map Prod.fst = acc.map Prod.fst ++ l.map (·.pkt.nonce)) := by
  induction l generalizing sess acc with
  | nil => exact Ho.pure _ (fun _ hp => ⟨hp, (List.append_nil _).symm⟩)
  | cons call rest ih =>
    refine Ho.bind (Q := fun _ st => W c s0 keep st ∧ st.1.active = A)
      ⟨fun st hp => ⟨(W.framed.encryptMessage sess _).out st hp.1, hp.2⟩⟩ (fun r => ?_)
    exact Ho.post (ih _ _) (fun r' st h => ⟨h.1, by rw [h.2]; simp⟩)

theorem W_reencryptAll (l s acc) : Ho (W c s0 keep) (reencryptAll c l s acc) (fun _ => W c s0 keep) :=
  ⟨fun st h => ((reencryptAll_nonces st.1.active l s acc).out st ⟨h, rfl⟩).1.1⟩

/-- One round of the replay loop: the calls carrying the old nonce get the new packet and a fresh
timer, and the new packet is sent to `na`. -/
theorem W_replayRound (na : NA) (old : Nat) (p : Pkt) (xs : List (Nat × Pkt)) :
    Ho (fun st => W c s0 keep st ∧ OwnerU na ((old, p) :: xs) st)
      (modS (replayStep c old p) >>= fun _ => send na p)
      (fun _ st => W c s0 keep st ∧ OwnerU na xs st) := by
  refine ⟨fun st hp => ?_⟩
  obtain ⟨hw, ho⟩ := hp
  refine ⟨⟨fun o hk => List.mem_append_left _ (hw.keep o hk), hw.now, fun x hx => ?_⟩, fun x hx y hy hn => ?_⟩
  · obtain ⟨y, hy, ⟨_, e⟩ | ⟨h1, e⟩⟩ := mem_replayStep hx <;> rw [e]
    · exact (hw.prov y hy).mono (Nat.le_refl _) (fun _ hm => List.mem_append_left _ hm)
    · refine Or.inr ⟨Nat.add_le_add_right hw.now _, Nat.le_refl _, Or.inl ?_⟩
      show Out.send (callNA y) p ∈ st.2 ++ [Out.send na p]
      rw [ho (old, p) (List.mem_cons_self ..) y hy h1]
      exact List.mem_append_right _ (List.mem_singleton.2 rfl)
  · obtain ⟨z, hz, ⟨_, e⟩ | ⟨h1, e⟩⟩ := mem_replayStep hy <;> rw [e] at hn ⊢
    · exact ho x (List.mem_cons_of_mem _ hx) z hz hn
    · exact ho (old, p) (List.mem_cons_self ..) z hz h1

theorem OwnerU_init (na : NA) (f : Call → Bool) (s : HState) (packets : List (Nat × Pkt)) (st : St)
    (hnd : s.active.Pairwise (fun a b => a.pkt.nonce ≠ b.pkt.nonce)) (ha : st.1.active = s.active)
    (hp : packets.map Prod.fst = ((s.active.filter (fun call => callNA call == na)).filter f).map
      (·.pkt.nonce)) :
    OwnerU na packets st := by
  intro x hx y hy hn
  have : x.1 ∈ packets.map Prod.fst := List.mem_map_of_mem hx
  rw [hp] at this
  obtain ⟨z, hz, hzx⟩ := List.mem_map.1 this
  have hz1 := (List.mem_filter.1 (List.mem_filter.1 hz).1)
  rw [ha] at hy
  by_cases hyz : y = z
  · rw [hyz]; exact beq_iff_eq.1 hz1.2
  · exact absurd (hn.trans hzx.symm) (nonce_ne_of_ne hnd y hy z hz1.1 hyz)

/-- `TI` with the re-encrypted packets not yet installed, `W` with their owner. -/
def Replay (c : Cfg) (pre : List Out) (s0 : HState) (keep : List Out) (na : NA) (rem : List (Nat × Pkt))
    (st : St) : Prop :=
  (TI c pre st ∧ ToInstall c pre rem st) ∧ W c s0 keep st ∧ OwnerU na rem st

theorem T_replayActiveRequests (na sk) :
    Ho (TW c pre s0 keep) (replayActiveRequests c na sk) (fun _ => TW c pre s0 keep) := by
  rw [replayActiveRequests_eq]
  refine Ho.bind (TW.framed.sessGetMut na) (fun r => ?_)
  cases r with
  | none => exact Ho.pureI _
  | some sess0 =>
    refine Ho.getS_pin (fun s => ?_)
    refine Ho.pre (P' := fun st => s.active.Pairwise (fun a b => a.pkt.nonce ≠ b.pkt.nonce) ∧
        ((TI c pre st ∧ ToInstall c pre [] st) ∧ W c s0 keep st ∧ st.1.active = s.active)) ?_
      (fun st hp => ⟨hp.1 ▸ hp.2.1.nodup, ⟨hp.2.1, (fun _ h => nomatch h), .nil⟩, hp.2.2, by rw [hp.1]⟩)
    refine Ho.pre_pure (fun hnd => Ho.bind
      (Ho.conj (X_reencryptAll _ sess0 []) (reencryptAll_nonces s.active _ sess0 [])) (fun r => ?_))
    refine Ho.bind (Q := fun _ => Replay c pre s0 keep na r.2) ⟨fun st hp => ?_⟩ (fun _ => ?_)
    · exact ⟨⟨hp.1.1.frame rfl (Nat.le_refl _) rfl,
          fun x hx => ⟨(hp.1.2.1 x hx).1.frame (Nat.le_refl _) rfl, (hp.1.2.1 x hx).2⟩, hp.1.2.2⟩,
        (W.framed.sessPut na r.1).out st hp.2.1.1, OwnerU_init na _ s r.2 _ hnd hp.2.1.2 hp.2.2⟩
    · exact Ho.post (Ho.forEach (Replay c pre s0 keep na) r.2 _ (fun x xs => Ho.conj
        (Ho.bind (X_replayUpd x.1 x.2 xs) (fun _ => X_replaySend na x.2 xs)) (W_replayRound na x.1 x.2 xs)))
        (fun _ _ h => ⟨h.1.1, h.2.1⟩)

theorem T_newSession (na s sk) :
    Ho (TW c pre s0 keep) (newSession c na s sk) (fun _ => TW c pre s0 keep) := by
  unfold newSession
  refine Ho.bind T_removeExpiredSessions (fun _ => Ho.bind (TW.framed.sessGetMut na) (fun r => ?_))
  cases r with
  | some cur =>
    exact Ho.bind (TW.framed.sessPut ..) (fun _ => Ho.bind (T_replayActiveRequests ..) (fun _ =>
      T_sendPendingRequests ..))
  | none => exact Ho.bind (TW.framed.sessInsert ..) (fun _ => T_sendPendingRequests ..)

theorem T_handleAuthMessage (na n sig eph r ct) :
    Ho (TW c pre s0 keep) (handleAuthMessage c na n sig eph r ct) (fun _ => TW c pre s0 keep) := by
  unfold handleAuthMessage
  refine Ho.getS_pin (fun s => ?_)
  split
  · exact Ho.unpin (Ho.pureI _)
  · refine Ho.bind (TW.framed.setS_pin (fun s => { s with challenges := s.challenges.filter (·.1 != na) })
      (fun _ => ⟨rfl, rfl, rfl, rfl⟩)) (fun _ => ?_)
    split
    · refine Ho.bind (TW.framed.removeExpected _) (fun _ => Ho.ite (fun _ => ?_) (fun _ => ?_)) <;>
        exact Ho.bind (T_emit _) (fun _ => Ho.bind (T_newSession ..) (fun _ => T_handleMessage ..))
    · exact TW.framed.modS _ (fun _ => ⟨rfl, rfl, rfl, rfl⟩)
    · exact Ho.bind (TW.framed.removeExpected _) (fun _ => T_failSession ..)

theorem T_handleChallenge (src n cd es) :
    Ho (TW c pre s0 keep) (handleChallenge c src n cd es) (fun _ => TW c pre s0 keep) := by
  unfold handleChallenge
  refine Ho.bind (T_activeRemoveByNonce n) (fun r => ?_)
  cases r with
  | none => exact Ho.pureI _
  | some call0 =>
    refine T_hand (call := call0) (fun os1 harm => ?_)
    have fail : Ho (TH c pre s0 os1 call0.pkt call0.retries)
        (do removeExpected src; failRequest c call0 .invalidRemotePacket true; return ())
        (fun _ => TW c pre s0 os1) :=
      TH_drop (Ho.bind (TW.framed.removeExpected _) (fun _ => Ho.bind (T_failRequest ..) (fun _ => Ho.pureI _)))
    refine Ho.ite (fun _ => Ho.bind (T_activeInsert call0 harm) (fun _ => Ho.pureI _))
      (fun _ => Ho.ite (fun _ => fail) (fun _ => Ho.ite (fun _ => fail) (fun _ => ?_)))
    refine Ho.pre (P' := fun st => TW c pre s0 os1 st ∧ 1 ≤ call0.retries) ?_
      (fun st hp => ⟨⟨hp.1.1, hp.2⟩, hp.1.2.pos⟩)
    refine Ho.pre_pure_right (fun hr => Ho.bind TW.framed.freshEph (fun eph => Ho.bind T_freshNonce (fun hsNonce => ?_)))
    dsimp only
    split
    · exact Ho.bind₂ (T_insert_send _ hsNonce hr (fun _ _ _ h => nomatch h) rfl) (fun _ =>
        Ho.bind (T_emit _) (fun _ => T_newSession ..))
    · exact Ho.bind₂ (T_insert_send _ hsNonce hr (fun _ _ _ h => nomatch h) rfl) (fun _ =>
        Ho.bind TW.framed.freshRid (fun _ => Ho.bind (T_sendRequest ..) (fun _ => T_newSession ..)))

/-! ## A queued request is queued under the address of its own contact -/

/-- The invariant `E` of the timer path starts from this at every step (`pending_keyed`). -/
def PK (st : St) : Prop := ∀ e ∈ st.1.pending, ∀ pr ∈ e.2, pr.contact.na = e.1

/-- What holds of the queued requests, with the address they are queued under, and of a new request
with the address of its contact, holds of the queue after `pushPending`. -/
theorem forall_pushPending {Q : NA → PendingReq → Prop} {l : List (NA × List PendingReq)} {ct : Contact}
    {rid : Nat} {i : Bool} {b : Nat} (h : ∀ e ∈ l, ∀ pr ∈ e.2, Q e.1 pr)
    (hn : Q ct.na { contact := ct, rid := rid, internal := i, body := b }) :
    ∀ e ∈ SU.pushPending l ct rid i b, ∀ pr ∈ e.2, Q e.1 pr := fun e he pr hpr => by
  rcases SU.mem_pushPending he with h0 | ⟨hk, hall⟩
  · exact h e h0 pr hpr
  · rw [hk]
    rcases hall pr hpr with rfl | ⟨e0, h0, hk0, hp0⟩
    · exact hn
    · rw [← hk0]; exact h e0 h0 pr hp0

theorem PK.leaves (c : Cfg) : Leaves c (fun _ => True) PK (fun _ => True) where
  push st ct rid i b _ h := forall_pushPending (Q := fun na pr => pr.contact.na = na) h rfl
  take st na h := fun e he => h e (List.mem_filter.1 he).1

theorem pending_keyed (c : Cfg) (evs : List Ev) :
    ∀ e ∈ (run c evs).pending, ∀ pr ∈ e.2, pr.contact.na = e.1 :=
  run_inv_state (J := fun s => ∀ e ∈ s.pending, ∀ pr ∈ e.2, pr.contact.na = e.1) (fun _ h => nomatch h)
    (fun e => (PK.leaves c).ho_stepM {} (fun _ _ => trivial) e (fun _ _ _ => trivial)
      (fun _ _ _ _ _ _ _ => trivial) (fun _ _ _ _ h => h) (fun _ _ _ h => h)) evs

/-! ## Walk E (timer path): which requests fail with `timeout`, and why -/

/-- In state `s` the request `rid` is addressed to the peer `na`: it is the id of an active call to
`na`, or of a request queued for `na`. -/
def ReqTo (s : HState) (rid : Nat) (na : NA) : Prop :=
  (∃ x ∈ s.active, x.rid = rid ∧ callNA x = na) ∨ (∃ e ∈ s.pending, e.1 = na ∧ ∃ pr ∈ e.2, pr.rid = rid)

/-- A timeout failure of `rid` is justified: some call `cl` whose deadline has been reached (it is at
most `target`, the time this step advances to) has a provenance, and `rid` is addressed to the
peer of `cl`. -/
def Just (c : Cfg) (s0 : HState) (target : Nat) (os : List Out) (rid : Nat) : Prop :=
  ∃ cl : Call, cl.deadline ≤ target ∧ Prov c s0 target os cl ∧ ReqTo s0 rid (callNA cl)

theorem Just.mono {target : Nat} {os os' : List Out} {rid : Nat} (h : Just c s0 target os rid)
    (ho : ∀ o ∈ os, o ∈ os') : Just c s0 target os' rid :=
  let ⟨cl, h1, h2, h3⟩ := h; ⟨cl, h1, h2.mono (Nat.le_refl _) ho, h3⟩

/-- Invariant of the timer path: no new requests appear (every active or queued request was
addressed to the same peer at the start of the step), queued requests sit under their own
address, and every timeout failure reported so far is justified. -/
structure E (c : Cfg) (s0 : HState) (target : Nat) (keep : List Out) (st : St) : Prop where
  keep : ∀ o ∈ keep, o ∈ st.2
  act : ∀ x ∈ st.1.active, ReqTo s0 x.rid (callNA x)
  pend : ∀ e ∈ st.1.pending, ∀ pr ∈ e.2, pr.contact.na = e.1 ∧ ReqTo s0 pr.rid e.1
  tmo : ∀ rid, Out.failed rid .timeout ∈ st.2 → Just c s0 target st.2 rid

variable {target : Nat}

theorem E.mono {st st' : St} (h : E c s0 target keep st) (ha : ∀ x ∈ st'.1.active, x ∈ st.1.active)
    (hp : ∀ e ∈ st'.1.pending, e ∈ st.1.pending) (ho : st'.2 = st.2) : E c s0 target keep st' :=
  ⟨fun o hk => ho ▸ h.keep o hk, fun x hx => h.act x (ha x hx), fun e he => h.pend e (hp e he),
    fun rid hr => by rw [ho] at hr ⊢; exact h.tmo rid hr⟩

theorem E.unkeep {st : St} {keep' : List Out} (h : E c s0 target keep st) (hk : ∀ o ∈ keep', o ∈ keep) :
    E c s0 target keep' st :=
  ⟨fun o ho => h.keep o (hk o ho), h.act, h.pend, h.tmo⟩
theorem E.rekeep {st : St} (h : E c s0 target keep st) : E c s0 target st.2 st :=
  ⟨fun _ ho => ho, h.act, h.pend, h.tmo⟩

theorem E.framed : Framed (E c s0 target keep) := fun _ _ ha _ _ hp ho h =>
  h.mono (fun _ hx => ha ▸ hx) hp ho

theorem E_emit (o : Out) (ho : ∀ rid, o = .failed rid .timeout → Just c s0 target keep rid) :
    Ho (E c s0 target keep) (emit o) (fun _ => E c s0 target keep) := by
  refine ⟨fun st hp => ⟨fun x hk => List.mem_append_left _ (hp.keep x hk), hp.act, hp.pend, fun rid hr => ?_⟩⟩
  rcases List.mem_append.1 hr with hr | hr
  · exact (hp.tmo rid hr).mono (fun _ hm => List.mem_append_left _ hm)
  · exact (ho rid (List.mem_singleton.1 hr).symm).mono (fun x hk => List.mem_append_left _ (hp.keep x hk))
theorem E_failed (rid : Nat) (e : Err) (hj : e = .timeout → Just c s0 target keep rid) :
    Ho (E c s0 target keep) (emit (.failed rid e)) (fun _ => E c s0 target keep) :=
  E_emit _ (fun _ h => (Out.failed.inj h).1 ▸ hj (Out.failed.inj h).2)
theorem E_removeExpiredSessions :
    Ho (E c s0 target keep) (removeExpiredSessions c) (fun _ => E c s0 target keep) :=
  E.framed.removeExpiredSessions (fun _ => E_emit _ (fun _ h => nomatch h))
theorem E_activeInsert (call : Call) (h : ReqTo s0 call.rid (callNA call)) :
    Ho (E c s0 target keep) (activeInsert c call) (fun _ => E c s0 target keep) := by
  refine Ho.modS _ (fun st hp => ⟨hp.keep, fun x hx => ?_, hp.pend, hp.tmo⟩)
  rcases List.mem_append.1 hx with hx | hx
  · exact hp.act x hx
  · rw [List.mem_singleton.1 hx]; exact h
theorem E_activeRemoveRequests (na : NA) : Ho (E c s0 target keep) (activeRemoveRequests na)
    (fun r st => E c s0 target keep st ∧ ∀ x ∈ r, ReqTo s0 x.rid na) :=
  ⟨fun st hp => ⟨hp.mono (fun _ hx => (List.mem_filter.1 hx).1) (fun _ h => h) rfl, fun x hx => by
    have := List.mem_filter.1 (show x ∈ st.1.active.filter (fun call => callNA call == na) from hx)
    rw [← beq_iff_eq.1 this.2]; exact hp.act x this.1⟩⟩

/-- Where the timer path reports no timeout: requests entering the queue or the active list were
around at the start of the step (out of the queue). -/
theorem E.leaves : Leaves c (fun o => ∀ rid, o ≠ .failed rid .timeout) (E c s0 target keep)
    (fun call => ReqTo s0 call.rid (callNA call)) (fun ct rid => ReqTo s0 rid ct.na) where
  emit o ho := E_emit o (fun rid h => absurd h (ho rid))
  plain _ h _ := h
  fresh _ _ h := h.mono (fun _ h => h) (fun _ h => h) rfl
  exempt _ _ h := h.mono (fun _ h => h) (fun _ h => h) rfl
  sessGetMut := E.framed.sessGetMut
  sessPut := E.framed.sessPut
  found _ x h hm := h.act x hm
  activeInsert := E_activeInsert
  erase _ _ _ h := h.mono (fun _ hx => List.mem_of_mem_erase hx) (fun _ h => h) rfl
  activeRemoveRequests na := (E_activeRemoveRequests na).post (fun _ _ h => h.1)
  replay _ _ _ h := ⟨h.keep, fun x hx => by
    obtain ⟨y, hy, rfl⟩ := List.mem_map.1 hx
    split <;> exact h.act y hy, h.pend, h.tmo⟩
  push _ _ _ _ _ hq h := ⟨h.keep, h.act, forall_pushPending
    (Q := fun na pr => pr.contact.na = na ∧ ReqTo s0 pr.rid na) h.pend ⟨rfl, hq⟩, h.tmo⟩
  queued _ e pr h he hpr := (h.pend e he pr hpr).1 ▸ (h.pend e he pr hpr).2
  take _ _ h := h.mono (fun _ h => h) (fun _ he => (List.mem_filter.1 he).1) rfl
  chAdd _ _ _ h := h.mono (fun _ h => h) (fun _ h => h) rfl
  chDrop _ _ h := h.mono (fun _ h => h) (fun _ h => h) rfl
  gc_new _ _ _ _ _ _ h := h
  gc_retry _ h _ := h
  gc_hs _ _ _ h := h
  gc_remaining _ _ h := h

theorem Ho.forEachM {α} {P : St → Prop} (l : List α) (f : α → M Unit)
    (h : ∀ x ∈ l, Ho P (f x) (fun _ => P)) : Ho P (forEach l f) (fun _ => P) :=
  ⟨forEach_keeps l f (fun x hx => (h x hx).out)⟩

/-- `fail_session` with `timeout` must be justified for every request to `na`. -/
theorem E_failPending (na : NA) (e : Err)
    (hj : e = .timeout → ∀ rid, ReqTo s0 rid na → Just c s0 target keep rid) :
    Ho (E c s0 target keep) (failPending na e) (fun _ => E c s0 target keep) := by
  unfold failPending
  refine Ho.getS_pin (fun s1 => ?_)
  split
  · rename_i ent hf
    refine Ho.pre (P' := fun st => (∀ pr ∈ ent.2, ReqTo s0 pr.rid na) ∧ Pin s1 (E c s0 target keep) st) ?_
      (fun st hp => ⟨fun pr hpr => ?_, hp⟩)
    · exact Ho.pre_pure (fun hpk => Ho.bind
        (E.framed.take na)
        (fun _ => Ho.forEachM _ _ (fun pr hpr =>
          Ho.iteI (E_failed _ _ (fun he => hj he _ (hpk pr hpr))) (Ho.pureI _))))
    · have hk : ent.1 = na := by have := List.find?_some hf; exact beq_iff_eq.1 this
      exact hk ▸ (hp.2.pend ent (hp.1 ▸ List.mem_of_find?_eq_some hf) pr hpr).2
  · exact Ho.unpin (Ho.pureI _)

theorem E_failActive (na : NA) (e : Err)
    (hj : e = .timeout → ∀ rid, ReqTo s0 rid na → Just c s0 target keep rid) :
    Ho (E c s0 target keep) (failActive na e) (fun _ => E c s0 target keep) := by
  unfold failActive
  refine Ho.bind (E_activeRemoveRequests na) (fun calls => Ho.pre_pure_right (fun hc =>
    Ho.forEachM _ _ (fun call hcall => ?_)))
  exact Ho.ite (fun _ => Ho.bind (E_failed _ _ (fun he => hj he _ (hc call hcall)))
    (fun _ => E.framed.removeExpected _)) (fun _ => E.framed.removeExpected _)

theorem E_failSession (na : NA) (e : Err) (b : Bool)
    (hj : e = .timeout → ∀ rid, ReqTo s0 rid na → Just c s0 target keep rid) :
    Ho (E c s0 target keep) (failSession c na e b) (fun _ => E c s0 target keep) := by
  rw [failSession_eq]
  exact Ho.bind (Ho.iteI (Ho.bind E_removeExpiredSessions (fun _ => E.framed.sessRemove _)) (Ho.pureI _))
    (fun _ => Ho.bind (E_failPending na e hj) (fun _ => E_failActive na e hj))

theorem E_failRequest (call : Call) (e : Err) (b : Bool)
    (hj : e = .timeout → ∀ rid, ReqTo s0 rid (callNA call) → Just c s0 target keep rid)
    (hq : ReqTo s0 call.rid (callNA call)) :
    Ho (E c s0 target keep) (failRequest c call e b) (fun _ => E c s0 target keep) := by
  unfold failRequest
  exact Ho.ite (fun _ => Ho.bind (E_failed _ _ (fun he => hj he _ hq)) (fun _ => E_failSession _ _ _ hj))
    (fun _ => E_failSession _ _ _ hj)

/-- The timer of `call` fired: its deadline is reached, it has a provenance, and it is one of the
requests that were around at the start of the step.  For the function the outputs produced so far
are the kept ones, so that the provenance justifies whatever fails with `timeout`. -/
theorem E_handleRequestTimeout (call : Call) (hd : call.deadline ≤ target)
    (hq : ReqTo s0 call.rid (callNA call)) :
    Ho (fun st => E c s0 target keep st ∧ Prov c s0 target st.2 call) (handleRequestTimeout c call)
      (fun _ => E c s0 target keep) := by
  refine ⟨fun st hp => ?_⟩
  have hj : ∀ rid, ReqTo s0 rid (callNA call) → Just c s0 target st.2 rid := fun rid h => ⟨call, hd, hp.2, h⟩
  have : Ho (E c s0 target st.2) (handleRequestTimeout c call) (fun _ => E c s0 target st.2) := by
    unfold handleRequestTimeout
    exact Ho.ite (fun _ => Ho.bind (E.framed.removeExpected _) (fun _ => E_failRequest call _ _ (fun _ => hj) hq))
      (fun _ => Ho.bind (E.leaves.ho_send _ _) (fun _ => E_activeInsert _ hq))
  exact (this.out st hp.1.rekeep).unkeep hp.1.keep

def NowLe (t : Nat) (st : St) : Prop := st.1.now ≤ t

theorem NowLe.leaves (c : Cfg) (t : Nat) : Leaves c (fun _ => True) (NowLe t) (fun _ => True) where

/-- The invariant of the timer loop: `TW` and `E` (nothing kept), and the clock stays below the
target. -/
def TimerLoop (c : Cfg) (pre : List Out) (s0 : HState) (target : Nat) (st : St) : Prop :=
  TW c pre s0 [] st ∧ E c s0 target [] st ∧ NowLe target st

theorem fireTimers_timerLoop (fuel : Nat) :
    Ho (TimerLoop c pre s0 target) (fireTimers c target fuel) (fun _ => TimerLoop c pre s0 target) := by
  refine ⟨fireTimers_inv (I := TimerLoop c pre s0 target) c target ?_ ?_ fuel⟩
  · intro st d call ⟨ht, he, hb⟩ hnd
    obtain ⟨hdt, hm, hdl⟩ := nextDue_spec hnd
    have hle : max st.1.now d ≤ target := Nat.max_le.2 ⟨hb, hdt⟩
    -- `TW` has the popped call in hand and knows where its timer comes from, `E` that the call
    -- is an old request
    have x := ht.erase hm (fun s => { s with active := s.active.erase call, now := max s.now d }) rfl rfl
      (Nat.le_max_left _ _)
    exact (Ho.conj (T_handleRequestTimeout call) (Ho.conj
      (E_handleRequestTimeout call (hdl ▸ hdt) (he.act call hm))
      ((NowLe.leaves c target).ho_handleRequestTimeout call (fun _ => trivial) trivial))).out _
      ⟨x.1, ⟨he.mono (fun _ hx => List.mem_of_mem_erase hx) (fun _ h => h) rfl,
        x.2.mono hle (fun _ h => h)⟩, hle⟩
  · intro st d na hp hnd
    exact (Ho.bind (Ho.conj (TW.framed.removeExpected _) (Ho.conj (E.framed.removeExpected _)
        ((NowLe.leaves c target).ho_removeExpected _))) (fun _ =>
          Ho.conj (T_sendPendingRequests na) (Ho.conj (E.leaves.ho_sendPendingRequests na)
            ((NowLe.leaves c target).ho_sendPendingRequests na)))).out _
      ⟨⟨hp.1.1.frame rfl (Nat.le_refl _) rfl,
          hp.1.2.mono (fun _ hx => hx) (Nat.le_max_left _ _) (fun _ h => h)⟩,
        hp.2.1.mono (fun _ hx => hx) (fun _ h => h) rfl, Nat.max_le.2 ⟨hp.2.2, (nextDue_spec hnd).1⟩⟩

/-! ## What one step does -/

/-- A step that lets time pass: the timer loop, then the clock is set to the target, which the
loop has not passed. -/
theorem step_adv (c : Cfg) (pre : List Out) (s : HState) (dt : Nat) (hti : TI c pre (s, []))
    (hk : ∀ e ∈ s.pending, ∀ pr ∈ e.2, pr.contact.na = e.1) :
    (TW c pre s [] (step c s (.adv dt)) ∧ E c s (s.now + dt) [] (step c s (.adv dt))) ∧
      (step c s (.adv dt)).1.now = s.now + dt := by
  have hs : Ho (fun st => st.1 = s ∧ TimerLoop c pre s (s.now + dt) st) (stepM c (.adv dt))
      (fun _ st => (TW c pre s [] st ∧ E c s (s.now + dt) [] st) ∧ st.1.now = s.now + dt) := by
    refine Ho.getS_pin (fun s1 => Ho.pre (P' := fun st => s1 = s ∧ TimerLoop c pre s (s.now + dt) st) ?_
      (fun st hp => ⟨hp.1 ▸ hp.2.1, hp.2.2⟩))
    refine Ho.pre_pure (fun hs => ?_)
    subst hs
    exact Ho.bind (fireTimers_timerLoop 10000) (fun _ => Ho.modS _ (fun st hp =>
      ⟨⟨⟨hp.1.1.frame rfl (Nat.le_refl _) rfl, hp.1.2.mono (fun _ h => h) hp.2.2 (fun _ h => h)⟩,
        hp.2.1.mono (fun _ h => h) (fun _ h => h) rfl⟩, rfl⟩))
  have := hs.out (s, [])
    ⟨rfl, ⟨hti, fun _ h => (nomatch h), Nat.le_refl _, fun _ hc => Or.inl hc⟩,
     ⟨fun _ h => (nomatch h), fun x hx => Or.inl ⟨x, hx, rfl, rfl⟩,
      fun e he pr hpr => ⟨hk e he pr hpr, Or.inr ⟨e, he, rfl, pr, hpr, rfl⟩⟩, fun _ h => (nomatch h)⟩,
     Nat.le_add_right _ _⟩
  rw [step_eq]; exact this

theorem T_stepM (e : Ev) (he : ¬ ∃ dt, e = .adv dt) :
    Ho (TW c pre s0 keep) (stepM c e) (fun _ => TW c pre s0 keep) := by
  cases e with
  | appRequest ct rid b =>
    refine Ho.bind (T_sendRequest ..) (fun r => ?_)
    cases r with
    | none => exact Ho.pureI _
    | some e => exact T_emit _
  | appResponse na rid rb =>
    refine Ho.bind (TW.framed.sessGetMut na) (fun r => ?_)
    cases r with
    | none => exact Ho.pureI _
    | some sess =>
      exact Ho.bind (T_encryptMessage sess _) (fun r => Ho.bind (TU.framed.sessPut ..)
        (fun _ => ⟨fun st hp => ⟨hp.1.1.send_fresh na hp.1.2.1, hp.2.emit _⟩⟩))
  | appWru na nonce known => exact T_sendChallenge ..
  | dgram src p =>
    cases p with
    | whoareyou nonce cd enrSeq => exact T_handleChallenge ..
    | handshake srcId nonce sig eph record ct => exact T_handleAuthMessage ..
    | message srcId nonce ct => exact T_handleMessage ..
  | adv dt => exact absurd ⟨dt, rfl⟩ he
  | rtAdv dt => exact TW.framed.modS (fun s => { s with rt := s.rt + dt }) (fun _ => ⟨rfl, rfl, rfl, rfl⟩)

theorem step_TW (c : Cfg) (pre : List Out) (s : HState) (e : Ev) (hti : TI c pre (s, []))
    (hk : ∀ e ∈ s.pending, ∀ pr ∈ e.2, pr.contact.na = e.1) : TW c pre s [] (step c s e) := by
  by_cases he : ∃ dt, e = .adv dt
  · obtain ⟨dt, rfl⟩ := he
    exact (step_adv c pre s dt hti hk).1.1
  · exact (T_stepM e he).out (s, []) ⟨hti, fun _ h => (nomatch h), Nat.le_refl _, fun _ hc => Or.inl hc⟩

theorem run_TI (c : Cfg) (evs : List Ev) : TI c (outputs c evs) (run c evs, []) :=
  run_induction (I := fun _ s os => TI c os (s, []))
    ⟨fun _ _ hm => (nomatch hm), fun _ hc => (nomatch hc), List.Pairwise.nil, fun _ _ => Nat.zero_le _⟩
    (fun evs e h => (step_TW c _ _ e h (pending_keyed c evs)).1.shift) evs

/-! ## Histories as lists of frames -/

/-- One step of a history: the state before it, the event, the state after it and its outputs. -/
structure Frame where
  pre : HState
  ev : Ev
  post : HState
  outs : List Out

/-- The steps of the run of `evs` from the state `s`. -/
def frames (c : Cfg) : HState → List Ev → List Frame
  | _, [] => []
  | s, e :: rest => ⟨s, e, (step c s e).1, (step c s e).2⟩ :: frames c (step c s e).1 rest

/-- The steps of the run of `evs` from the initial state (the run of `run c evs`). -/
def history (c : Cfg) (evs : List Ev) : List Frame := frames c {} evs

theorem frames_snoc (c : Cfg) (s : HState) (evs : List Ev) (e : Ev) :
    frames c s (evs ++ [e]) = frames c s evs ++
      [⟨evs.foldl (fun s e => (step c s e).1) s, e,
        (step c (evs.foldl (fun s e => (step c s e).1) s) e).1,
        (step c (evs.foldl (fun s e => (step c s e).1) s) e).2⟩] := by
  induction evs generalizing s with
  | nil => rfl
  | cons x xs ih => simp only [List.cons_append, frames, List.foldl_cons, ih]

theorem history_snoc (c : Cfg) (evs : List Ev) (e : Ev) :
    history c (evs ++ [e]) = history c evs ++
      [⟨run c evs, e, (step c (run c evs) e).1, (step c (run c evs) e).2⟩] :=
  frames_snoc c {} evs e

theorem history_length (c : Cfg) (evs : List Ev) : (history c evs).length = evs.length := by
  induction evs using snoc_induction with
  | h0 => rfl
  | h1 evs e ih => rw [history_snoc, List.length_append, List.length_append, ih]; rfl

theorem frames_outs (c : Cfg) (s : HState) (evs : List Ev) :
    (frames c s evs).map (·.outs) = trace c s evs := by
  induction evs generalizing s with
  | nil => rfl
  | cons x xs ih => simp only [frames, trace, List.map_cons, ih]

theorem lt_of_get {α} {h : List α} {i : Nat} {x : α} (hx : h[i]? = some x) : i < h.length :=
  (List.getElem?_eq_some_iff.1 hx).1

theorem snoc_get {α} (h : List α) (f : α) (i : Nat) (x : α) :
    (h ++ [f])[i]? = some x ↔ (h[i]? = some x) ∨ (i = h.length ∧ x = f) := by
  rcases Nat.lt_trichotomy i h.length with hi | rfl | hi
  · rw [List.getElem?_append_left hi]
    exact ⟨Or.inl, fun h' => h'.elim id (fun e => absurd e.1 (Nat.ne_of_lt hi))⟩
  · rw [List.getElem?_concat_length, List.getElem?_eq_none (Nat.le_refl _)]
    exact ⟨fun e => Or.inr ⟨rfl, (Option.some.inj e).symm⟩,
      fun h' => h'.elim (fun e => nomatch e) (fun e => e.2 ▸ rfl)⟩
  · rw [List.getElem?_eq_none (by rw [List.length_append]; exact hi), List.getElem?_eq_none (Nat.le_of_lt hi)]
    exact ⟨fun e => (nomatch e), fun h' => h'.elim (fun e => nomatch e) (fun e => absurd e.1 (Nat.ne_of_gt hi))⟩

theorem snoc_get_left {α} {h : List α} {f : α} {i : Nat} {x : α} (hx : h[i]? = some x) :
    (h ++ [f])[i]? = some x := (snoc_get ..).2 (Or.inl hx)

theorem get_of_snoc {α} {h : List α} {f : α} {i : Nat} {x : α} (hi : i < h.length)
    (hx : (h ++ [f])[i]? = some x) : h[i]? = some x := List.getElem?_append_left hi ▸ hx

/-! ## The origin of every running timer -/

/-- Where the timer of the call `cl` comes from, in the history `h` up to step `k`, with the
witnesses named: in step `j0` the packet of a call `cl0` of the same request to the same peer was put
on the wire towards that peer; in step `j ≥ j0` the timer of `cl` was armed.

With `k` the length of `h` this speaks of a call that is active now; with `k` the last step, of a
call whose timer fired in that step. -/
structure OriginAt (c : Cfg) (h : List Frame) (k : Nat) (cl cl0 : Call) (j0 j : Nat) (f0 fj : Frame) :
    Prop where
  le : j0 ≤ j
  le_k : j ≤ k
  get0 : h[j0]? = some f0
  getj : h[j]? = some fj
  rid : cl0.rid = cl.rid
  na : callNA cl0 = callNA cl
  sent : Out.send (callNA cl0) cl0.pkt ∈ f0.outs
  /-- `cl0` was active at the end of step `j0`, or, if that is step `k` itself, is `cl` -/
  act0 : j0 < k → cl0 ∈ f0.post.active
  same : j0 = k → cl0 = cl
  /-- since `j0` a call of this request to this peer has been active at the end of every step before `k` -/
  pending : ∀ i fi, j0 ≤ i → i < k → h[i]? = some fi →
    ∃ x ∈ fi.post.active, x.rid = cl.rid ∧ callNA x = callNA cl
  /-- the deadline of `cl` is one timeout period after a moment within step `j` -/
  armed : fj.pre.now + c.requestTimeout ≤ cl.deadline
  armed_le : cl.deadline ≤ fj.post.now + c.requestTimeout
  /-- since `j` the call `cl` itself has been active, unchanged, at the end of every step before `k` -/
  kept : ∀ i fi, j ≤ i → i < k → h[i]? = some fi → cl ∈ fi.post.active

def Origin (c : Cfg) (h : List Frame) (k : Nat) (cl : Call) : Prop :=
  ∃ (cl0 : Call) (j0 j : Nat) (f0 fj : Frame), OriginAt c h k cl cl0 j0 j f0 fj

theorem Origin.extend {h : List Frame} {k : Nat} {cl : Call} (ho : Origin c h k cl) (f : Frame)
    (hk : k ≤ h.length) : Origin c (h ++ [f]) k cl :=
  let ⟨cl0, j0, j, f0, fj, w⟩ := ho
  ⟨cl0, j0, j, f0, fj, { w with
    get0 := snoc_get_left w.get0
    getj := snoc_get_left w.getj
    pending := fun i fi hi hik hfi => w.pending i fi hi hik (get_of_snoc (Nat.lt_of_lt_of_le hik hk) hfi)
    kept := fun i fi hi hik hfi => w.kept i fi hi hik (get_of_snoc (Nat.lt_of_lt_of_le hik hk) hfi) }⟩

theorem Origin.close {h : List Frame} {k : Nat} {fk : Frame} {cl : Call} (ho : Origin c h k cl)
    (hk : h[k]? = some fk) (ha : cl ∈ fk.post.active) : Origin c h (k + 1) cl := by
  obtain ⟨cl0, j0, j, f0, fj, w⟩ := ho
  have last : ∀ i fi, k ≤ i → i < k + 1 → h[i]? = some fi → fi = fk := fun i fi hki hik hfi => by
    obtain rfl : i = k := Nat.le_antisymm (Nat.le_of_lt_succ hik) hki
    exact Option.some.inj (hfi.symm.trans hk)
  have hj0 : j0 ≤ k := Nat.le_trans w.le w.le_k
  refine ⟨cl0, j0, j, f0, fj, { w with
    le_k := Nat.le_succ_of_le w.le_k
    act0 := fun hlt => ?_
    same := fun hh => absurd hj0 (by omega)
    pending := fun i fi hi hik hfi => ?_
    kept := fun i fi hi hik hfi => ?_ }⟩
  · rcases Nat.lt_or_ge j0 k with hl | hge
    · exact w.act0 hl
    · rw [w.same (Nat.le_antisymm hj0 hge), last j0 f0 hge hlt w.get0]; exact ha
  · rcases Nat.lt_or_ge i k with hl | hge
    · exact w.pending i fi hi hl hfi
    · rw [last i fi hge hik hfi]; exact ⟨cl, ha, rfl, rfl⟩
  · rcases Nat.lt_or_ge i k with hl | hge
    · exact w.kept i fi hi hl hfi
    · rw [last i fi hge hik hfi]; exact ha

/-- One more step `f`: a call with a provenance relative to `f` (`Prov`: it was active before the
step, or its packet went out in the step, or it continues a call that was active before the step)
has an origin up to that step, if the calls active before the step have one. -/
theorem Origin.step {h : List Frame} {k : Nat} {f : Frame} {cl : Call} (hk : h.length = k)
    (ih : ∀ clo ∈ f.pre.active, Origin c h k clo) (hp : Prov c f.pre f.post.now f.outs cl) :
    Origin c (h ++ [f]) k cl := by
  subst hk
  have hlast : (h ++ [f])[h.length]? = some f := List.getElem?_concat_length
  have empty : ∀ {P : Prop} (i : Nat), h.length ≤ i → i < h.length → P := fun i hi hik =>
    absurd hik (Nat.not_lt.2 hi)
  rcases hp with hp | ⟨hd, hu, hp | ⟨clo, hclo, hr, hn⟩⟩
  · exact (ih cl hp).extend f (Nat.le_refl _)
  · -- sent and armed in this step
    exact ⟨cl, h.length, h.length, f, f, Nat.le_refl _, Nat.le_refl _, hlast, hlast, rfl, rfl, hp,
      fun hh => absurd hh (Nat.lt_irrefl _), fun _ => rfl, fun i _ => empty i, hd, hu, fun i _ => empty i⟩
  · -- re-armed in this step: the transmission is the one of the call continued
    obtain ⟨cl0, j0, j, f0, fj, w⟩ := ih clo hclo
    have hj0 := lt_of_get w.get0
    exact ⟨cl0, j0, h.length, f0, f, Nat.le_of_lt hj0, Nat.le_refl _, snoc_get_left w.get0, hlast,
      w.rid.trans hr, w.na.trans hn, w.sent, w.act0, fun hh => absurd hh (Nat.ne_of_lt hj0),
      fun i fi hi hik hfi =>
        let ⟨x, hx, hx1, hx2⟩ := w.pending i fi hi hik (get_of_snoc hik hfi)
        ⟨x, hx, hx1.trans hr, hx2.trans hn⟩,
      hd, hu, fun i _ => empty i⟩

theorem origin_of_active (c : Cfg) (evs : List Ev) :
    ∀ cl ∈ (run c evs).active, Origin c (history c evs) evs.length cl := by
  induction evs using snoc_induction with
  | h0 => exact fun _ h => nomatch h
  | h1 evs e ih =>
    intro cl hcl
    have hl := history_length c evs
    rw [run_snoc] at hcl
    rw [history_snoc, List.length_append]
    exact (Origin.step hl ih
      ((step_TW c _ _ e (run_TI c evs) (pending_keyed c evs)).2.prov cl hcl)).close
      (hl ▸ List.getElem?_concat_length) hcl

/-! ## The trace theorem -/

/-- The justification of a timeout failure reported for request `rid` in step `k` (frame `fk`) of the
history `h`: `rid` is addressed to the peer of a call `cl` whose deadline was reached in that step and
which has an origin up to that step; see `Props/C04Timeout.lean` for the reading. -/
def TimeoutJustified (c : Cfg) (h : List Frame) (k : Nat) (fk : Frame) (rid : Nat) : Prop :=
  ∃ cl : Call, ReqTo fk.pre rid (callNA cl) ∧ cl.deadline ≤ fk.post.now ∧ Origin c h k cl

theorem timeout_justified_last (c : Cfg) (evs : List Ev) (e : Ev) (rid : Nat)
    (hf : Out.failed rid .timeout ∈ (step c (run c evs) e).2) :
    TimeoutJustified c (history c (evs ++ [e])) evs.length
      ⟨run c evs, e, (step c (run c evs) e).1, (step c (run c evs) e).2⟩ rid := by
  obtain ⟨dt, rfl⟩ := timeout_failure_only_on_adv c _ e rid hf
  obtain ⟨⟨_, he⟩, hnow⟩ := step_adv c _ _ dt (run_TI c evs) (pending_keyed c evs)
  obtain ⟨cl, hd, hp, hq⟩ := he.tmo rid hf
  rw [← hnow] at hd hp
  rw [history_snoc]
  exact ⟨cl, hq, hd, Origin.step (history_length c evs) (origin_of_active c evs) hp⟩

theorem timeout_justified_at (c : Cfg) (evs : List Ev) (k : Nat) (fk : Frame) (rid : Nat)
    (hk : (history c evs)[k]? = some fk) (hf : Out.failed rid .timeout ∈ fk.outs) :
    TimeoutJustified c (history c evs) k fk rid := by
  induction evs using snoc_induction generalizing k fk with
  | h0 => exact nomatch hk
  | h1 evs e ih =>
    rw [history_snoc] at hk ⊢
    rcases (snoc_get ..).1 hk with hk' | ⟨hk1, hk2⟩
    · obtain ⟨cl, hq, hd, ho⟩ := ih k fk hk' hf
      exact ⟨cl, hq, hd, ho.extend _ (Nat.le_of_lt (lt_of_get hk'))⟩
    · rw [history_length] at hk1
      subst hk1; subst hk2
      exact history_snoc c evs e ▸ timeout_justified_last c evs e rid hf

theorem history_now_mono (c : Cfg) (evs : List Ev) :
    (∀ (i j : Nat) (fi fj : Frame), i ≤ j → (history c evs)[i]? = some fi → (history c evs)[j]? = some fj →
      fi.pre.now ≤ fj.pre.now) ∧
    (∀ (i : Nat) (fi : Frame), (history c evs)[i]? = some fi →
      fi.pre.now ≤ (run c evs).now ∧ fi.post.now ≤ (run c evs).now) := by
  induction evs using snoc_induction with
  | h0 => exact ⟨fun _ _ _ _ _ h => (nomatch h), fun _ _ h => (nomatch h)⟩
  | h1 evs e ih =>
    have hs : (run c evs).now ≤ (step c (run c evs) e).1.now :=
      (step_TW c _ _ e (run_TI c evs) (pending_keyed c evs)).2.now
    rw [history_snoc, run_snoc]
    refine ⟨fun i j fi fj hij hi hj => ?_, fun i fi hi => ?_⟩
    · rcases (snoc_get ..).1 hi with hi | ⟨hi1, hi2⟩ <;> rcases (snoc_get ..).1 hj with hj | ⟨hj1, hj2⟩
      · exact ih.1 i j fi fj hij hi hj
      · rw [hj2]; exact (ih.2 i fi hi).1
      · have := lt_of_get hj; omega
      · rw [hi2, hj2]; exact Nat.le_refl _
    · rcases (snoc_get ..).1 hi with hi | ⟨hi1, hi2⟩
      · exact ⟨Nat.le_trans (ih.2 i fi hi).1 hs, Nat.le_trans (ih.2 i fi hi).2 hs⟩
      · rw [hi2]; exact ⟨hs, Nat.le_refl _⟩

/-- What the frames of a history are: frame `i` starts in the state reached by the first `i`
events, and is the step for event `i`. -/
theorem history_get (c : Cfg) (evs : List Ev) (i : Nat) (fi : Frame) :
    (history c evs)[i]? = some fi ↔ ∃ e, evs[i]? = some e ∧
      fi = ⟨run c (evs.take i), e, (step c (run c (evs.take i)) e).1, (step c (run c (evs.take i)) e).2⟩ := by
  induction evs using snoc_induction generalizing i fi with
  | h0 => simp [history, frames]
  | h1 evs e ih =>
    rw [history_snoc, snoc_get, ih, history_length]
    constructor
    · rintro (⟨e', he', hfi⟩ | ⟨hi, hfi⟩)
      · exact ⟨e', snoc_get_left he',
          by rw [List.take_append_of_le_length (Nat.le_of_lt (lt_of_get he'))]; exact hfi⟩
      · subst hi
        exact ⟨e, List.getElem?_concat_length, by rw [List.take_left' rfl]; exact hfi⟩
    · rintro ⟨e', he', hfi⟩
      rcases (snoc_get ..).1 he' with he' | ⟨hi, hee⟩
      · rw [List.take_append_of_le_length (Nat.le_of_lt (lt_of_get he'))] at hfi
        exact Or.inl ⟨e', he', hfi⟩
      · subst hi; subst hee
        rw [List.take_left' rfl] at hfi
        exact Or.inr ⟨rfl, hfi⟩

end Discv5.H.TJ
