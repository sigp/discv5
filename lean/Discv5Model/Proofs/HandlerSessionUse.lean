/-
What counts as a *use* of a session (`Props/C15SessionUse.lean`, handler model; namespace `SU` for
session use).

The request timer has an exact effect: `failSession … false` drops and reports the queued and active
requests of the peer and changes the exemption map; session list, open challenges and clocks are
untouched.  So the timer loop leaves the session list as it is as long as no challenge timer is due;
whatever timers fire, an address with a live session keeps one (`LS`, kept by the handler walk on the
timer path: evicting or removing a session breaks it), and by the parametric invariant of
`Proofs/HandlerIdentity.lean` no session is created or re-keyed.  `sendResponse` names the
`appResponse` branch of `stepM`.
-/
import Discv5Model.Proofs.HandlerAttribution
import Discv5Model.Proofs.HandlerLru

namespace Discv5.H.SU
open RQ

/-- A loop whose body emits outputs that do not depend on the state, and moves the handler state
along a preorder `R`. -/
theorem forEach_run {α} (R : HState → HState → Prop) (hr : ∀ s, R s s)
    (ht : ∀ {a b c}, R a b → R b c → R a c) (l : List α) (f : α → M Unit) (h : α → List Out)
    (hf : ∀ x st, ∃ s', R st.1 s' ∧ (f x).run st = ((), (s', st.2 ++ h x))) (st : St) :
    ∃ s', R st.1 s' ∧ (forEach l f).run st = ((), (s', st.2 ++ l.flatMap h)) := by
  induction l generalizing st with
  | nil => exact ⟨st.1, hr _, by rw [forEach_nil, run_pure, List.flatMap_nil, List.append_nil]⟩
  | cons x xs ih =>
    obtain ⟨s1, r1, h1⟩ := hf x st
    obtain ⟨s2, r2, h2⟩ := ih (s1, st.2 ++ h x)
    exact ⟨s2, ht r1 r2, by rw [forEach_cons, run_bind, h1, h2, List.flatMap_cons, List.append_assoc]⟩

theorem find?_map_key {α β} (l : List (NA × α)) (f : NA × α → NA × β) (hf : ∀ e, (f e).1 = e.1)
    (na : NA) : (l.map f).find? (·.1 == na) = (l.find? (·.1 == na)).map f := by
  rw [List.find?_map]
  exact congrArg (fun p => (l.find? p).map f) (funext (fun e => congrArg (· == na) (hf e)))

def queuedFor (s : HState) (na : NA) : List PendingReq :=
  match s.pending.find? (·.1 == na) with
  | some ent => ent.2
  | none => []

/-- The failure reports for the external ones among the queued requests `prs`, in order. -/
def pendOuts (e : Err) (prs : List PendingReq) : List Out :=
  prs.flatMap (fun pr => if !pr.internal then [Out.failed pr.rid e] else [])

/-- The failure reports for the external ones among the active requests `calls`, in order. -/
def callOuts (e : Err) (calls : List Call) : List Out :=
  calls.flatMap (fun cl => if !cl.internal then [Out.failed cl.rid e] else [])

theorem mem_failed {α} (int : α → Bool) (rid : α → Nat) {e : Err} {l : List α} {o : Out} :
    o ∈ l.flatMap (fun x => if !int x then [Out.failed (rid x) e] else []) ↔
      ∃ x ∈ l, int x = false ∧ o = .failed (rid x) e := by
  rw [List.mem_flatMap]
  refine exists_congr (fun x => and_congr_right (fun _ => ?_))
  cases int x <;> simp

theorem mem_pendOuts {e : Err} {prs : List PendingReq} {o : Out} :
    o ∈ pendOuts e prs ↔ ∃ pr ∈ prs, pr.internal = false ∧ o = .failed pr.rid e :=
  mem_failed PendingReq.internal PendingReq.rid

theorem mem_callOuts {e : Err} {calls : List Call} {o : Out} :
    o ∈ callOuts e calls ↔ ∃ cl ∈ calls, cl.internal = false ∧ o = .failed cl.rid e :=
  mem_failed Call.internal Call.rid

/-- the state change of `removeExpected` -/
def rmExp (a : Addr) (s : HState) : HState :=
  { s with exempt := (s.exempt.map (fun p => if p.1 == a then (p.1, p.2 - 1) else p)).filter (fun p => p.2 != 0) }

theorem removeExpected_eq (a : Addr) : removeExpected a = modS (rmExp a) := rfl

/-- First half of `fail_session`: the queue for `na` is dropped, its external requests reported. -/
theorem failPending_run (na : NA) (e : Err) (st : St) : (failPending na e).run st =
    ((), ({ st.1 with pending := st.1.pending.filter (·.1 != na) },
      st.2 ++ pendOuts e (queuedFor st.1 na))) := by
  unfold failPending queuedFor
  simp only [run_bind, run_getS]
  cases hf : st.1.pending.find? (·.1 == na) with
  | none =>
    simp only [run_pure, pendOuts, List.flatMap_nil, List.append_nil, HL.filter_ne_of_find_none hf]
  | some ent =>
    obtain ⟨s', rfl, h⟩ := forEach_run Eq (fun _ => rfl) Eq.trans ent.2
      (fun pr => if (!pr.internal) = true then emit (Out.failed pr.rid e) else pure ())
      (fun pr => if !pr.internal then [Out.failed pr.rid e] else [])
      (fun pr st' => ⟨st'.1, rfl, by
        cases pr.internal
        · simp only [Bool.not_false, if_true, run_emit]
        · simp only [Bool.not_true, Bool.false_eq_true, if_false, run_pure, List.append_nil]⟩)
      ({ st.1 with pending := st.1.pending.filter (·.1 != na) }, st.2)
    exact h

/-- Second half of `fail_session`: the active requests to `na` are removed and reported. -/
theorem failActive_run (na : NA) (e : Err) (st : St) :
    ∃ ex, (failActive na e).run st =
      ((), ({ st.1 with active := st.1.active.filter (fun call => callNA call != na), exempt := ex },
        st.2 ++ callOuts e (st.1.active.filter (fun call => callNA call == na)))) := by
  unfold failActive
  rw [run_bind, activeRemoveRequests_run]
  obtain ⟨s', ⟨ex, rfl⟩, h⟩ := forEach_run (fun s s' => ∃ ex, s' = { s with exempt := ex })
    (fun s => ⟨s.exempt, rfl⟩) (fun ⟨_, h1⟩ ⟨x, h2⟩ => ⟨x, by rw [h2, h1]⟩)
    (st.1.active.filter (fun call => callNA call == na))
    (fun call =>
      if (!call.internal) = true then do
        emit (Out.failed call.rid e)
        removeExpected na.addr
      else removeExpected na.addr)
    (fun cl => if !cl.internal then [Out.failed cl.rid e] else [])
    (fun cl st' => ⟨rmExp na.addr st'.1, ⟨_, rfl⟩, by
      cases cl.internal
      · simp only [Bool.not_false, if_true, run_bind, run_emit, removeExpected_eq, run_modS]
      · simp only [Bool.not_true, Bool.false_eq_true, if_false, removeExpected_eq, run_modS,
          List.append_nil]⟩)
    ({ st.1 with active := st.1.active.filter (fun call => callNA call != na) }, st.2)
  exact ⟨ex, h⟩

/-- Exact effect of `fail_session(na, e, remove_session = false)`: the queue for `na` and the active
requests to `na` are dropped and (the external ones) reported as failed with `e`; the exemption map
changes; nothing else does. -/
theorem failSession_false_run (c : Cfg) (na : NA) (e : Err) (st : St) :
    ∃ ex, (failSession c na e false).run st =
      ((), ({ st.1 with pending := st.1.pending.filter (·.1 != na),
                        active := st.1.active.filter (fun call => callNA call != na),
                        exempt := ex },
        st.2 ++ pendOuts e (queuedFor st.1 na) ++
          callOuts e (st.1.active.filter (fun call => callNA call == na)))) := by
  obtain ⟨ex, h⟩ := failActive_run na e
    ({ st.1 with pending := st.1.pending.filter (·.1 != na) }, st.2 ++ pendOuts e (queuedFor st.1 na))
  refine ⟨ex, ?_⟩
  rw [failSession_eq]
  show (failActive na e).run ((failPending na e).run st).2 = _
  rw [failPending_run]
  exact h

/-- What a timed-out request reports itself. -/
def ownOut (call : Call) : List Out := if call.internal then [] else [Out.failed call.rid .timeout]

/-- Exact effect of a request timer firing when the retries are used up. -/
theorem handleRequestTimeout_exhausted_run (c : Cfg) (call : Call) (st : St)
    (h : call.retries ≥ c.requestRetries) :
    ∃ ex, (handleRequestTimeout c call).run st =
      ((), ({ st.1 with pending := st.1.pending.filter (·.1 != callNA call),
                        active := st.1.active.filter (fun x => callNA x != callNA call),
                        exempt := ex },
        st.2 ++ ownOut call ++ pendOuts .timeout (queuedFor st.1 (callNA call)) ++
          callOuts .timeout (st.1.active.filter (fun x => callNA x == callNA call)))) := by
  have h1 : (handleRequestTimeout c call).run st = (failSession c (callNA call) .timeout false).run
      (rmExp (callNA call).addr st.1, st.2 ++ ownOut call) := by
    unfold handleRequestTimeout failRequest ownOut
    rw [if_pos h]
    cases call.internal
    · rfl
    · rw [if_pos (rfl : true = true), List.append_nil]; rfl
  obtain ⟨ex, hx⟩ := failSession_false_run c (callNA call) .timeout
    (rmExp (callNA call).addr st.1, st.2 ++ ownOut call)
  exact ⟨ex, h1.trans hx⟩

/-- Exact effect of a request timer firing when retries are left: retransmission, fresh timer. -/
theorem handleRequestTimeout_retry_run (c : Cfg) (call : Call) (st : St)
    (h : ¬ call.retries ≥ c.requestRetries) :
    (handleRequestTimeout c call).run st =
      ((), ({ st.1 with
              active := st.1.active ++ [{ call with retries := call.retries + 1,
                                                    deadline := st.1.now + c.requestTimeout,
                                                    tseq := st.1.tctr }],
              tctr := st.1.tctr + 1 },
        st.2 ++ [Out.send (callNA call) call.pkt])) := by
  unfold handleRequestTimeout
  rw [if_neg h]
  rfl

/-- Whatever the retry count: the request timer touches neither the session list, nor the open
challenges, nor the clocks. -/
theorem handleRequestTimeout_frame (c : Cfg) (call : Call) (st : St) :
    ((handleRequestTimeout c call).run st).2.1.sessions = st.1.sessions ∧
    ((handleRequestTimeout c call).run st).2.1.challenges = st.1.challenges ∧
    ((handleRequestTimeout c call).run st).2.1.rt = st.1.rt ∧
    ((handleRequestTimeout c call).run st).2.1.now = st.1.now := by
  by_cases h : call.retries ≥ c.requestRetries
  · obtain ⟨ex, hx⟩ := handleRequestTimeout_exhausted_run c call st h
    rw [hx]; exact ⟨rfl, rfl, rfl, rfl⟩
  · rw [handleRequestTimeout_retry_run c call st h]; exact ⟨rfl, rfl, rfl, rfl⟩

/-- From the timer loop to the timer step, for an invariant that does not read the clock `now`. -/
theorem step_adv_inv {c : Cfg} {I : St → Prop} (s : HState) (dt : Nat)
    (hf : Ho I (fireTimers c (s.now + dt) 10000) (fun _ => I))
    (hnow : ∀ st n, I st → I ({ st.1 with now := n }, st.2)) (h0 : I (s, [])) :
    I (step c s (.adv dt)) := by
  have h : Ho (fun st => st.1 = s ∧ I st) (stepM c (.adv dt)) (fun _ => I) :=
    Ho.getS_pin (fun s' => Ho.bind (Q := fun _ => I) ⟨fun st hp => by
      obtain ⟨h1, h2, hI⟩ := hp
      subst h1; subst h2
      exact hf.out st hI⟩ (fun _ => ⟨fun st hI => hnow st _ hI⟩))
  exact h.out (s, []) ⟨rfl, h0⟩

/-- One timer step (`adv dt`) in which no challenge timer is due: whatever request timers fire, the
session list stays as it is. -/
theorem step_adv_no_challenge (c : Cfg) (s : HState) (dt : Nat)
    (h : ∀ e ∈ s.challenges, s.now + dt < e.2.2.1) : (step c s (.adv dt)).1.sessions = s.sessions := by
  refine (step_adv_inv (I := fun st => st.1.sessions = s.sessions ∧ st.1.challenges = s.challenges) s dt
    ⟨fireTimers_inv c _ (fun st _ call hI _ => ?_) (fun st _ na hI hn => ?_) _⟩
    (fun _ _ hI => hI) ⟨rfl, rfl⟩).1
  · obtain ⟨h1, h2, -⟩ := handleRequestTimeout_frame c call
      ({ st.1 with active := st.1.active.erase call, now := _ }, st.2)
    exact ⟨h1.trans hI.1, h2.trans hI.2⟩
  · obtain ⟨hd, ch, hm, -, hdl⟩ := nextDue_spec hn
    have := h ch (hI.2 ▸ hm)
    omega

/-! ### Live sessions stay live on the timer path -/

abbrev SS := List (NA × Session × Nat)

/-- `sessGetMut c na` would hand out a session from the list `l` at real-time clock `rt`: the first
entry for `na` has not outlived the session timeout. -/
def LiveIn (c : Cfg) (rt : Nat) (l : SS) (na : NA) : Prop :=
  ∃ sess stamp, l.find? (·.1 == na) = some (na, sess, stamp) ∧ ¬ stamp + c.sessionTtl < rt

/-- "`sessGetMut` would hand out a session" in terms of `sessGetMut` itself. -/
theorem liveIn_iff (c : Cfg) (s : HState) (os : List Out) (na : NA) :
    LiveIn c s.rt s.sessions na ↔ ∃ sess, ((sessGetMut c na).run (s, os)).1 = some sess :=
  exists_congr (fun sess => (AT.sessGetMut_some_iff c na (s, os) sess).symm)

theorem find_filter_other (l : SS) {na k : NA} (h : na ≠ k) :
    (l.filter (·.1 != k)).find? (·.1 == na) = l.find? (·.1 == na) := by
  rw [List.find?_filter]
  congr 1
  funext a
  cases hb : (a.1 != k)
  · have hk : (a.1 == na) = false := by
      rw [show a.1 = k by simpa using hb]; exact beq_false_of_ne (Ne.symm h)
    rw [hk]; rfl
  · cases (a.1 == na) <;> rfl

theorem LiveIn.filter_other {c : Cfg} {rt : Nat} {l : SS} {na k : NA} (h : LiveIn c rt l na) (hk : na ≠ k) :
    LiveIn c rt (l.filter (·.1 != k)) na := by
  obtain ⟨sess, stamp, hf, hl⟩ := h
  exact ⟨sess, stamp, by rw [find_filter_other l hk]; exact hf, hl⟩

theorem LiveIn.append {c : Cfg} {rt : Nat} {l l' : SS} {na : NA} (h : LiveIn c rt l na) :
    LiveIn c rt (l ++ l') na := by
  obtain ⟨sess, stamp, hf, hl⟩ := h
  exact ⟨sess, stamp, by rw [List.find?_append, hf]; rfl, hl⟩

theorem LiveIn.touched (c : Cfg) (rt : Nat) (l : SS) (na : NA) (sess : Session) :
    LiveIn c rt (l.filter (·.1 != na) ++ [(na, sess, rt)]) na := by
  refine ⟨sess, rt, ?_, by omega⟩
  rw [List.find?_append, find_filter_ne]
  simp

theorem LiveIn.put {c : Cfg} {rt : Nat} {l : SS} {na : NA} (h : LiveIn c rt l na) (k : NA) (sess' : Session) :
    LiveIn c rt (l.map (fun e => if e.1 == k then (k, sess', e.2.2) else e)) na := by
  obtain ⟨sess, stamp, hf, hl⟩ := h
  rw [LiveIn, find?_map_key _ _ (fun e => by split <;> simp_all), hf]
  by_cases hk : na = k
  · subst hk; exact ⟨sess', stamp, by simp, hl⟩
  · exact ⟨sess, stamp, by simp [hk], hl⟩

/-- The real-time clock stands at `r` and `na` has a live session. -/
def LS (c : Cfg) (r : Nat) (na : NA) (st : St) : Prop := st.1.rt = r ∧ LiveIn c r st.1.sessions na

section walkL
variable {c : Cfg} {r : Nat} {na : NA}

theorem LS.leaves : Leaves c (fun _ => True) (LS c r na) (fun _ => True) where
  sessGetMut k := sessGetMut_elim (fun st hp => ⟨fun _ => hp, fun k' sess stamp hf => by
    obtain ⟨hrt, hl⟩ := hp
    by_cases hk : na = k
    · subst hk
      refine ⟨fun hx => ?_, fun _ => ⟨hrt, hrt ▸ LiveIn.touched c _ _ _ _⟩⟩
      obtain ⟨sess2, stamp2, hf2, hl2⟩ := hl
      obtain ⟨-, -, rfl⟩ := Prod.mk.inj (Option.some.inj (hf.symm.trans hf2))
      exact absurd (hrt ▸ hx) hl2
    · exact ⟨fun _ => ⟨hrt, hl.filter_other hk⟩, fun _ => ⟨hrt, (hl.filter_other hk).append⟩⟩⟩)
  sessPut k sess := Ho.modS _ (fun _ hp => ⟨hp.1, hp.2.put k sess⟩)

end walkL

/-- One timer step (`adv dt`), whatever timers fire in it: every address that had a live session
still has one. -/
theorem step_adv_keeps_live (c : Cfg) (s : HState) (dt : Nat) (na : NA)
    (h : LiveIn c s.rt s.sessions na) : LiveIn c s.rt (step c s (.adv dt)).1.sessions na :=
  (step_adv_inv s dt (LS.leaves.ho_fireTimers (fun _ => trivial) _ (fun _ _ _ hp => hp) _)
    (fun _ _ hp => hp) ⟨rfl, h⟩).2

/-- Context: every session is, for its address, a session of `s0` up to the message counter and the
"awaiting ENR" mark. -/
def ctxS (s0 : HState) : HI.Ctx := { HI.trivialCtx with
  GS := fun na sess => ∃ e ∈ s0.sessions, e.1 = na ∧ e.2.1.keys = sess.keys ∧ e.2.1.oldKeys = sess.oldKeys
  gs_gn := fun _ _ _ => trivial
  gs_counter := fun _ _ _ h => h
  gs_await := fun _ _ h => h }

/-- A timer step neither creates nor re-keys a session. -/
theorem step_adv_no_new_session (c : Cfg) (s : HState) (dt : Nat) :
    ∀ e' ∈ (step c s (.adv dt)).1.sessions,
      ∃ e ∈ s.sessions, e.1 = e'.1 ∧ e.2.1.keys = e'.2.1.keys ∧ e.2.1.oldKeys = e'.2.1.oldKeys :=
  ((HI.spec_stepM_adv (X := ctxS s) c dt (fun _ _ _ _ => trivial)).step
    { HI.inv_trivial (s, []) with sess := fun e he => ⟨e, he, rfl, rfl, rfl⟩ }).sess

/-- `HandlerIn::Response(node_address, response)` → `send_response`: the branch of `stepM`. -/
def sendResponse (c : Cfg) (na : NA) (rid : Nat) (rb : RespBody) : M Unit := do
  match ← sessGetMut c na with
  | some sess =>
    let (sess', p) ← encryptMessage c sess (.response rid rb)
    sessPut na sess'
    send na p
  | none => pure ()

theorem stepM_appResponse (c : Cfg) (na : NA) (rid : Nat) (rb : RespBody) :
    stepM c (.appResponse na rid rb) = sendResponse c na rid rb := rfl

/-- `sessPut` right after a hit of `sessGetMut`. -/
theorem map_put_touch (l : List (NA × Session × Nat)) (na : NA) (sess sess' : Session) (rt : Nat) :
    (l.filter (·.1 != na) ++ [(na, sess, rt)]).map (fun e => if e.1 == na then (na, sess', e.2.2) else e) =
      l.filter (·.1 != na) ++ [(na, sess', rt)] := by
  rw [List.map_append]
  congr 1
  · rw [List.map_congr_left (g := id), List.map_id]
    intro e he
    have hne : (e.1 == na) = false := by simpa using (List.mem_filter.1 he).2
    simp [hne]
  · simp

theorem queuedFor_pushPending (s : HState) (contact : Contact) (rid : Nat) (internal : Bool) (body : Nat) :
    queuedFor { s with pending := pushPending s.pending contact rid internal body } contact.na =
      queuedFor s contact.na ++ [{ contact := contact, rid := rid, internal := internal, body := body }] := by
  unfold queuedFor pushPending
  simp only []
  cases hf : s.pending.find? (·.1 == contact.na) with
  | none =>
    have ha : ¬ s.pending.any (·.1 == contact.na) = true := fun ha =>
      have ⟨x, hx, hxe⟩ := List.any_eq_true.1 ha
      List.find?_eq_none.1 hf x hx hxe
    rw [if_neg ha, List.find?_append, hf]
    simp
  | some e =>
    have hk := List.find?_some hf
    rw [if_pos (List.any_eq_true.2 ⟨e, List.mem_of_find?_eq_some hf, hk⟩),
      find?_map_key _ _ (fun e => by split <;> rfl), hf]
    simp only [Option.map_some, hk, if_true]

end Discv5.H.SU
