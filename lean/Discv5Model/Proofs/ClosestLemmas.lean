/-
The closest-node iteration (`Model/Closest.lean`): `bucketOrder` in closed form, a permutation of
`range 256` ordered by `Before`; buckets visited earlier hold strictly closer nodes (XOR metric); the
fold of `Table.closest` leaves visited buckets final and outputs them sorted, in visiting order; the
collection loop of `nodes_by_distances` is `take`.
-/
import Mathlib.Data.Nat.Bitwise
import Discv5Model.Proofs.KBucketLemmas
namespace Discv5.KB

def zin (d i : Nat) : List Nat := (List.range i).reverse.filter (fun j => d.testBit j)
def zout (d i : Nat) : List Nat :=
  (List.range' (i + 1) (256 - (i + 1))).filter (fun j => !d.testBit j)
def ztail (d : Nat) : List Nat := if (d.testBit 0 || d = 0) then zout d 0 else 0 :: zout d 0
def startIdx (d : Nat) : Nat := if d = 0 then 0 else d.log2
/-- The visiting order of `ClosestBucketsIter` for distance `d`: the top bit (`startIdx`), the set bits
below it downwards (`zin`), then the clear bits upwards (`ztail`: `zout`, with bucket 0 in front if
it has not been visited yet). -/
def closedOrder (d : Nat) : List Nat := startIdx d :: (zin d (startIdx d) ++ ztail d)

theorem find_range'_some (p : Nat → Bool) : ∀ k a j, (List.range' a k).find? p = some j →
    a ≤ j ∧ j < a + k ∧
      (List.range' a k).filter p = j :: (List.range' (j + 1) (a + k - (j + 1))).filter p := by
  intro k
  induction k with
  | zero => intro a j h; simp at h
  | succ k ih =>
    intro a j h
    rw [List.range'_succ] at h ⊢
    by_cases hp : p a = true
    · rw [List.find?_cons_of_pos hp] at h
      injection h with h
      subst h
      refine ⟨Nat.le_refl _, by omega, ?_⟩
      rw [List.filter_cons_of_pos hp]
      have : a + (k + 1) - (a + 1) = k := by omega
      rw [this]
    · rw [List.find?_cons_of_neg hp] at h
      obtain ⟨h1, h2, h3⟩ := ih (a + 1) j h
      refine ⟨by omega, by omega, ?_⟩
      rw [List.filter_cons_of_neg hp, h3]
      have : a + 1 + k - (j + 1) = a + (k + 1) - (j + 1) := by omega
      rw [this]

theorem find_none_filter (p : α → Bool) (l : List α) (h : l.find? p = none) : l.filter p = [] := by
  rw [List.find?_eq_none] at h
  rw [List.filter_eq_nil_iff]
  exact h

theorem find_revrange_some (p : Nat → Bool) : ∀ i j, (List.range i).reverse.find? p = some j →
    j < i ∧ (List.range i).reverse.filter p = j :: (List.range j).reverse.filter p := by
  intro i
  induction i with
  | zero => intro j h; simp at h
  | succ i ih =>
    intro j h
    rw [List.range_succ, List.reverse_append] at h ⊢
    simp only [List.reverse_cons, List.reverse_nil, List.nil_append, List.cons_append] at h ⊢
    by_cases hp : p i = true
    · rw [List.find?_cons_of_pos hp] at h
      injection h with h
      subst h
      exact ⟨Nat.lt_succ_self _, by rw [List.filter_cons_of_pos hp]⟩
    · rw [List.find?_cons_of_neg hp] at h
      obtain ⟨h1, h2⟩ := ih j h
      exact ⟨by omega, by rw [List.filter_cons_of_neg hp, h2]⟩

theorem cRun_some (d fuel : Nat) (s s' : CState) (i : Nat) (h : cNext d s = (some i, s')) :
    cRun d (fuel + 1) s = i :: cRun d fuel s' := by
  simp only [cRun, h]

theorem cRun_none (d fuel : Nat) (s s' : CState) (h : cNext d s = (none, s')) :
    cRun d (fuel + 1) s = [] := by
  simp only [cRun, h]

theorem cRun_zoomOut (d : Nat) : ∀ fuel i, (zout d i).length + 1 ≤ fuel →
    cRun d fuel (.zoomOut i) = zout d i := by
  intro fuel
  induction fuel with
  | zero => intro i h; omega
  | succ fuel ih =>
    intro i h
    cases hn : nextOut d i with
    | none =>
      rw [cRun_none d fuel _ .done (by simp only [cNext, hn])]
      unfold nextOut at hn
      simp only [numBuckets, Consts.NUM_BUCKETS] at hn
      exact (find_none_filter _ _ hn).symm
    | some j =>
      rw [cRun_some d fuel _ (.zoomOut j) j (by simp only [cNext, hn])]
      unfold nextOut at hn
      simp only [numBuckets, Consts.NUM_BUCKETS] at hn
      obtain ⟨h1, h2, h3⟩ := find_range'_some _ _ _ _ hn
      have e : i + 1 + (256 - (i + 1)) = 256 := by omega
      rw [e] at h3
      have hz : zout d i = j :: zout d j := h3
      rw [hz] at h ⊢
      rw [ih j (by simpa using h)]

theorem cRun_zoomIn (d : Nat) : ∀ fuel i, (zin d i ++ ztail d).length + 1 ≤ fuel →
    cRun d fuel (.zoomIn i) = zin d i ++ ztail d := by
  intro fuel
  induction fuel with
  | zero => intro i h; omega
  | succ fuel ih =>
    intro i h
    cases hn : nextIn d i with
    | some j =>
      rw [cRun_some d fuel _ (.zoomIn j) j (by simp only [cNext, hn])]
      unfold nextIn at hn
      obtain ⟨h1, h2⟩ := find_revrange_some _ _ _ hn
      have hz : zin d i = j :: zin d j := h2
      rw [hz] at h ⊢
      rw [ih j (by simpa using h)]
      rfl
    | none =>
      have hz : zin d i = [] := by
        unfold nextIn at hn
        exact find_none_filter _ _ hn
      rw [hz] at h ⊢
      simp only [List.nil_append] at h ⊢
      by_cases hc : (d.testBit 0 || decide (d = 0)) = true
      · have ht : ztail d = zout d 0 := by unfold ztail; rw [if_pos hc]
        rw [ht] at h ⊢
        rw [← cRun_zoomOut d (fuel + 1) 0 h]
        have e : cNext d (.zoomIn i) = cNext d (.zoomOut 0) := by
          simp only [cNext, hn, if_pos hc]
        simp only [cRun, e]
      · have ht : ztail d = 0 :: zout d 0 := by unfold ztail; rw [if_neg hc]
        rw [ht] at h ⊢
        rw [cRun_some d fuel _ (.zoomOut 0) 0 (by simp only [cNext, hn, if_neg hc])]
        rw [cRun_zoomOut d fuel 0 (by simpa using h)]

/-- `i` is visited before `j` for distance `d`: either the decisive bit is `i` (set in `d`, `j`
below) or it is `j` (clear in `d`, `i` below). -/
def Before (d i j : Nat) : Prop := (j < i ∧ d.testBit i = true) ∨ (i < j ∧ d.testBit j = false)

theorem mem_zin {d i j : Nat} : j ∈ zin d i ↔ j < i ∧ d.testBit j = true := by
  simp [zin]

theorem mem_zout {d i j : Nat} : j ∈ zout d i ↔ i < j ∧ j < 256 ∧ d.testBit j = false := by
  simp only [zout, List.mem_filter, List.mem_range'_1, Bool.not_eq_true']
  constructor
  · rintro ⟨⟨h1, h2⟩, h3⟩
    exact ⟨by omega, by omega, h3⟩
  · rintro ⟨h1, h2, h3⟩
    exact ⟨⟨by omega, by omega⟩, h3⟩

theorem mem_ztail {d j : Nat} :
    j ∈ ztail d ↔ j < 256 ∧ d.testBit j = false ∧ ¬(d = 0 ∧ j = 0) := by
  unfold ztail
  by_cases hc : (d.testBit 0 || decide (d = 0)) = true
  · rw [if_pos hc, mem_zout]
    simp only [Bool.or_eq_true, decide_eq_true_eq] at hc
    constructor
    · rintro ⟨h1, h2, h3⟩
      exact ⟨h2, h3, by omega⟩
    · rintro ⟨h1, h2, h3⟩
      refine ⟨?_, h1, h2⟩
      rcases Nat.eq_zero_or_pos j with hj | hj
      · subst hj
        rcases hc with hc | hc
        · rw [hc] at h2; cases h2
        · exact absurd ⟨hc, rfl⟩ h3
      · exact hj
  · rw [if_neg hc, List.mem_cons, mem_zout]
    simp only [Bool.or_eq_true, decide_eq_true_eq, not_or, Bool.not_eq_true] at hc
    constructor
    · rintro (h | ⟨h1, h2, h3⟩)
      · subst h; exact ⟨by omega, hc.1, fun h => hc.2 h.1⟩
      · exact ⟨h2, h3, by omega⟩
    · rintro ⟨h1, h2, _⟩
      rcases Nat.eq_zero_or_pos j with hj | hj
      · exact Or.inl hj
      · exact Or.inr ⟨hj, h1, h2⟩

theorem zin_pairwise (d i : Nat) : (zin d i).Pairwise (fun a b => b < a) := by
  unfold zin
  apply List.Pairwise.filter
  rw [List.pairwise_reverse]
  exact List.pairwise_lt_range

theorem zout_pairwise (d i : Nat) : (zout d i).Pairwise (fun a b => a < b) := by
  unfold zout
  apply List.Pairwise.filter
  exact List.pairwise_lt_range'

theorem ztail_pairwise (d : Nat) : (ztail d).Pairwise (fun a b => a < b) := by
  unfold ztail
  split
  · exact zout_pairwise d 0
  · rw [List.pairwise_cons]
    exact ⟨fun j hj => (mem_zout.1 hj).1, zout_pairwise d 0⟩

theorem testBit_lt_256 {d j : Nat} (h : d < 2 ^ 256) (hb : d.testBit j = true) : j < 256 := by
  apply Decidable.byContradiction
  intro hj
  have : d < 2 ^ j := Nat.lt_of_lt_of_le h (Nat.pow_le_pow_right (by omega) (by omega))
  rw [Nat.testBit_lt_two_pow this] at hb
  cases hb

theorem testBit_le_log2 {d j : Nat} (hb : d.testBit j = true) : j ≤ d.log2 := by
  apply Decidable.byContradiction
  intro hj
  have hd : d ≠ 0 := by
    intro h; subst h; simp at hb
  have : d < 2 ^ j := (Nat.log2_lt hd).1 (by omega)
  rw [Nat.testBit_lt_two_pow this] at hb
  cases hb

theorem Before.of_bits {d a b : Nat} (ha : d.testBit a = true) (hb : d.testBit b = false) :
    Before d a b := by
  have hne : a ≠ b := by
    intro e; rw [e, hb] at ha; cases ha
  rcases Nat.lt_or_gt_of_ne hne with h | h
  · exact Or.inr ⟨h, hb⟩
  · exact Or.inl ⟨h, ha⟩

theorem closedOrder_pairwise (d : Nat) : (closedOrder d).Pairwise (Before d) := by
  unfold closedOrder
  rw [List.pairwise_cons, List.pairwise_append]
  refine ⟨?_, ?_, ?_, ?_⟩
  · intro j hj
    rw [List.mem_append, mem_zin, mem_ztail] at hj
    unfold startIdx at hj ⊢
    by_cases hd : d = 0
    · rw [if_pos hd] at hj ⊢
      rcases hj with ⟨h, _⟩ | ⟨h1, h2, h3⟩
      · omega
      · exact Or.inr ⟨by omega, h2⟩
    · rw [if_neg hd] at hj ⊢
      rcases hj with ⟨h, _⟩ | ⟨_, h2, _⟩
      · exact Or.inl ⟨h, Nat.testBit_log2 hd⟩
      · exact .of_bits (Nat.testBit_log2 hd) h2
  · apply (zin_pairwise d _).imp_of_mem
    intro a b ha _ hab
    exact Or.inl ⟨hab, (mem_zin.1 ha).2⟩
  · apply (ztail_pairwise d).imp_of_mem
    intro a b _ hb hab
    exact Or.inr ⟨hab, (mem_ztail.1 hb).2.1⟩
  · exact fun a ha b hb => .of_bits (mem_zin.1 ha).2 (mem_ztail.1 hb).2.1

theorem Before.ne {d i j : Nat} (h : Before d i j) : i ≠ j := by
  rcases h with ⟨h, _⟩ | ⟨h, _⟩ <;> omega

theorem mem_closedOrder {d i : Nat} (h : d < 2 ^ 256) : i ∈ closedOrder d ↔ i < 256 := by
  unfold closedOrder
  rw [List.mem_cons, List.mem_append, mem_zin, mem_ztail]
  unfold startIdx
  by_cases hd : d = 0
  · rw [if_pos hd]
    subst hd
    simp only [Nat.zero_testBit, true_and]
    constructor
    · rintro (h | h | h)
      · omega
      · cases h.2
      · exact h.1
    · intro hi
      rcases Nat.eq_zero_or_pos i with h0 | h0
      · exact Or.inl h0
      · exact Or.inr (Or.inr ⟨hi, by omega⟩)
  · rw [if_neg hd]
    constructor
    · rintro (h1 | h1 | h1)
      · rw [h1]; exact (Nat.log2_lt hd).2 h
      · exact testBit_lt_256 h h1.2
      · exact h1.1
    · intro hi
      cases hb : d.testBit i with
      | true =>
        have := testBit_le_log2 hb
        rcases Nat.lt_or_eq_of_le this with h1 | h1
        · exact Or.inr (Or.inl ⟨h1, rfl⟩)
        · exact Or.inl h1
      | false =>
        exact Or.inr (Or.inr ⟨hi, rfl, fun h => hd h.1⟩)

theorem closedOrder_perm (d : Nat) (h : d < 2 ^ 256) : (closedOrder d).Perm (List.range 256) := by
  rw [List.perm_ext_iff_of_nodup ((closedOrder_pairwise d).imp Before.ne) List.nodup_range]
  intro i
  rw [mem_closedOrder h, List.mem_range]

theorem bucketOrder_eq_closed (d : Nat) (h : d < 2 ^ 256) : bucketOrder d = closedOrder d := by
  -- `bucketOrder` gives `cRun` fuel for more than these 256 entries
  have hlen : (closedOrder d).length = 256 := (closedOrder_perm d h).length_eq.trans List.length_range
  unfold bucketOrder cInit
  simp only [numBuckets, Consts.NUM_BUCKETS]
  rw [cRun_some _ _ _ (.zoomIn (startIdx d)) (startIdx d) rfl]
  unfold closedOrder at hlen ⊢
  rw [cRun_zoomIn d _ _ (by simp at hlen ⊢; omega)]

/-- `i` is the top bit of `x`; bucket `i` holds the keys `k` with `Msb (local ^^^ k) i`. -/
def Msb (x i : Nat) : Prop := x.testBit i = true ∧ x < 2 ^ (i + 1)

theorem Msb.above {x i j : Nat} (h : Msb x i) (hj : i < j) : x.testBit j = false :=
  Nat.testBit_lt_two_pow (Nat.lt_of_lt_of_le h.2 (Nat.pow_le_pow_right (by omega) (by omega)))

theorem xor_lt_of_before {d i j x y : Nat} (hb : Before d i j) (hx : Msb x i) (hy : Msb y j) :
    x ^^^ d < y ^^^ d := by
  rcases hb with ⟨hji, hd⟩ | ⟨hij, hd⟩
  · apply Nat.lt_of_testBit i
    · simp [Nat.testBit_xor, hx.1, hd]
    · simp [Nat.testBit_xor, hy.above hji, hd]
    · intro k hk
      simp [Nat.testBit_xor, hx.above hk, hy.above (Nat.lt_trans hji hk)]
  · apply Nat.lt_of_testBit j
    · simp [Nat.testBit_xor, hx.above hij, hd]
    · simp [Nat.testBit_xor, hy.1, hd]
    · intro k hk
      simp [Nat.testBit_xor, hy.above hk, hx.above (Nat.lt_trans hij hk)]

theorem msb_of_bucketIndex {l k i : Nat} (h : bucketIndex l k = some i) : Msb (l ^^^ k) i := by
  unfold bucketIndex at h
  simp only [] at h
  by_cases hz : l ^^^ k = 0
  · rw [if_pos hz] at h; cases h
  · rw [if_neg hz] at h
    injection h with h
    subst h
    exact ⟨Nat.testBit_log2 hz, Nat.lt_log2_self⟩

theorem xor_xor_cancel (l a t : Nat) : (l ^^^ a) ^^^ (l ^^^ t) = a ^^^ t := by
  apply Nat.eq_of_testBit_eq
  intro i
  simp only [Nat.testBit_xor]
  cases l.testBit i <;> cases a.testBit i <;> cases t.testBit i <;> rfl

theorem xor_cancel_right {a b t : Nat} (h : a ^^^ t = b ^^^ t) : a = b := by
  have := congrArg (· ^^^ t) h
  simpa [Nat.xor_assoc] using this

variable {V : Type}

theorem sortByDist_perm (target : Nat) (ns : List (Node V)) : (sortByDist target ns).Perm ns :=
  List.mergeSort_perm _ _

theorem sortByDist_nil (target : Nat) : sortByDist target ([] : List (Node V)) = [] := by
  simp [sortByDist]

theorem mem_sortByDist {target : Nat} {ns : List (Node V)} {n : Node V} :
    n ∈ sortByDist target ns ↔ n ∈ ns := (sortByDist_perm target ns).mem_iff

theorem pairwise_mergeSort_dist {α} (key : α → Nat) (target : Nat) (l : List α) :
    (l.mergeSort (fun a b => decide ((key a ^^^ target) ≤ (key b ^^^ target)))).Pairwise
      (fun a b => (key a ^^^ target) ≤ (key b ^^^ target)) := by
  have := List.pairwise_mergeSort
    (le := fun (a b : α) => decide ((key a ^^^ target) ≤ (key b ^^^ target)))
    (by intro a b c; simp only [decide_eq_true_eq]; exact Nat.le_trans)
    (by intro a b; simp only [Bool.or_eq_true, decide_eq_true_eq]; exact Nat.le_total _ _) l
  exact this.imp (by intro a b; simp only [decide_eq_true_eq]; exact id)

theorem sortByDist_le (target : Nat) (ns : List (Node V)) :
    (sortByDist target ns).Pairwise (fun a b => (a.key ^^^ target) ≤ (b.key ^^^ target)) :=
  pairwise_mergeSort_dist (·.key) target ns

theorem sortByDist_lt (target : Nat) (ns : List (Node V)) (hn : (ns.map (·.key)).Nodup) :
    (sortByDist target ns).Pairwise (fun a b => (a.key ^^^ target) < (b.key ^^^ target)) := by
  have h1 := sortByDist_le target ns
  have h2 : ((sortByDist target ns).map (·.key)).Nodup :=
    ((sortByDist_perm target ns).map _).nodup_iff.2 hn
  rw [List.nodup_iff_pairwise_ne, List.pairwise_map] at h2
  refine (h1.and h2).imp ?_
  rintro a b ⟨hle, hne⟩
  apply Nat.lt_of_le_of_ne hle
  intro e
  exact hne (xor_cancel_right e)

theorem allNodes_eq (t : Table V) (h : t.buckets.length = 256) :
    t.allNodes = (List.range 256).flatMap (fun i => (t.bucket i).nodes) := by
  have : t.buckets = (List.range 256).map (fun i => t.bucket i) := by
    apply List.ext_getElem
    · simp [h]
    · intro i h1 h2
      simp [Table.bucket, List.getD_eq_getElem?_getD, h1]
  unfold Table.allNodes
  conv => lhs; rw [this]
  rw [List.flatMap_map]

theorem perm_flatMap_left {α β : Type} (l : List α) (f g : α → List β) (h : ∀ a ∈ l, (f a).Perm (g a)) :
    (l.flatMap f).Perm (l.flatMap g) := by
  induction l with
  | nil => exact List.Perm.refl _
  | cons a l ih =>
    rw [List.flatMap_cons, List.flatMap_cons]
    exact (h a List.mem_cons_self).append (ih fun b hb => h b (List.mem_cons_of_mem _ hb))

theorem closestPred_snd (c : Cfg V) (now : Nat) (t : Table V) (target : Nat) (pred : V → Bool) :
    (t.closestPred c now target pred).2 =
      (t.closest c now target).2.map (fun n => (n, pred n.value)) := by
  unfold Table.closestPred
  generalize t.closest c now target = x
  rfl

/-! Where no bucket has a pending node, the walk of `closest_values` changes nothing but the logical
clock; the service's test vectors use this instead of evaluating the walk. -/

theorem applyAt_of_no_pending (c : Cfg V) (now : Nat) (t : Table V) (i : Nat)
    (h : ∀ b ∈ t.buckets, b.pending = none) : Table.applyAt c now t i = t := by
  have hb : (t.bucket i).pending = none := by
    unfold Table.bucket
    rw [List.getD_eq_getElem?_getD]
    cases hi : t.buckets[i]? with
    | none => rfl
    | some b => exact h b (List.mem_of_getElem? hi)
  have hs : t.buckets.set i (t.bucket i) = t.buckets := by
    unfold Table.bucket
    apply List.ext_getElem?
    intro j
    rw [List.getElem?_set]
    split
    · next hij =>
      subst hij
      split
      · next hlt => rw [List.getD_eq_getElem?_getD, List.getElem?_eq_getElem hlt]; rfl
      · next hge => rw [List.getElem?_eq_none (Nat.le_of_not_lt hge)]
    · rfl
  unfold Table.applyAt Bucket.applyPending
  simp only [hb, Table.setBucket, hs]

theorem closest_of_no_pending (c : Cfg V) (now : Nat) (t : Table V) (target : Nat)
    (h : ∀ b ∈ t.buckets, b.pending = none) :
    t.closest c now target =
      (t.bump, (bucketOrder (t.localKey ^^^ target)).flatMap fun i => sortByDist target (t.bucket i).nodes) := by
  have hf : ∀ (l : List Nat) (acc : List (Node V)),
      l.foldl (cStep c now target) (t.bump, acc) =
        (t.bump, acc ++ l.flatMap fun i => sortByDist target (t.bucket i).nodes) := by
    intro l
    induction l with
    | nil => intro acc; simp
    | cons i l ih =>
      intro acc
      rw [List.foldl_cons, cStep]
      simp only [applyAt_of_no_pending c now t.bump i h]
      rw [ih, List.flatMap_cons, List.append_assoc]
      rfl
  rw [closest_eq_fold]
  exact (hf _ []).trans (by rw [List.nil_append])

variable [DecidableEq V]

theorem foldl_cStep_spec (c : Cfg V) (now target : Nat) :
    ∀ (l : List Nat) (t : Table V) (acc : List (Node V)), l.Nodup →
      (∀ j, j ∉ l → (l.foldl (cStep c now target) (t, acc)).1.bucket j = t.bucket j) ∧
      (l.foldl (cStep c now target) (t, acc)).2 =
        acc ++ l.flatMap (fun i =>
          sortByDist target ((l.foldl (cStep c now target) (t, acc)).1.bucket i).nodes) := by
  intro l
  induction l with
  | nil =>
    intro t acc _
    exact ⟨fun _ _ => rfl, by simp⟩
  | cons i l ih =>
    intro t acc hnd
    rw [List.nodup_cons] at hnd
    rw [List.foldl_cons]
    have e : cStep c now target (t, acc) i =
        (Table.applyAt c now t i,
          acc ++ sortByDist target ((Table.applyAt c now t i).bucket i).nodes) := rfl
    rw [e]
    obtain ⟨h3, h4⟩ := ih (Table.applyAt c now t i)
      (acc ++ sortByDist target ((Table.applyAt c now t i).bucket i).nodes) hnd.2
    refine ⟨?_, ?_⟩
    · intro j hj
      rw [List.mem_cons, not_or] at hj
      rw [h3 j hj.2, Table.applyAt_bucket_ne c now t i j (Ne.symm hj.1)]
    · rw [h4, List.flatMap_cons, h3 i hnd.1, List.append_assoc]

/-- Everything the property theorems need about the fold, for an order that is duplicate-free. -/
theorem closest_core (c : Cfg V) (now : Nat) (t : Table V) (target : Nat)
    (h : TInv c t) (hnd : (bucketOrder (t.localKey ^^^ target)).Nodup) :
    TInv c (t.closest c now target).1 ∧ (t.closest c now target).1.localKey = t.localKey ∧
    (t.closest c now target).2 = (bucketOrder (t.localKey ^^^ target)).flatMap (fun i =>
      sortByDist target ((t.closest c now target).1.bucket i).nodes) := by
  refine ⟨step_tinv c t (.closest now target) h, step_localKey c t (.closest now target), ?_⟩
  rw [closest_eq_fold]
  exact (foldl_cStep_spec c now target _ t.bump [] hnd).2

omit [DecidableEq V] in
theorem collectUpTo_eq (m : Nat) : ∀ (l acc : List (Node V)), acc.length < m →
    collectUpTo m l acc = acc ++ l.take (m - acc.length) := by
  intro l
  induction l with
  | nil => intro acc _; simp [collectUpTo]
  | cons n ns ih =>
    intro acc h
    unfold collectUpTo
    simp only []
    by_cases hge : (acc ++ [n]).length ≥ m
    · rw [if_pos hge]
      simp only [List.length_append, List.length_cons, List.length_nil] at hge
      have : m - acc.length = 1 := by omega
      rw [this]
      simp
    · rw [if_neg hge, ih _ (by omega)]
      simp only [List.length_append, List.length_cons, List.length_nil] at hge ⊢
      have : m - acc.length = (m - (acc.length + 0 + 1)) + 1 := by omega
      rw [this, List.take_succ_cons]
      simp

theorem validDistances_eq (ds : List Nat) :
    validDistances ds = ds.filter (fun d => decide (1 ≤ d ∧ d ≤ 256)) := by
  unfold validDistances
  apply List.filter_congr
  intro d _
  simp only [numBuckets, Consts.NUM_BUCKETS, gt_iff_lt, Bool.decide_and]
  rfl

end Discv5.KB
