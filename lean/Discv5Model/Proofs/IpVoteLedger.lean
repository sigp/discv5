/-
The ledger of counted votes of the IP-vote model (the namespace is that of `Proofs/ServiceVotes.lean`,
which keeps the ledger along a history of the service).  A PONG's vote is `counted` when it passes
the three guards of `handle_ip_vote_from_pong`; the ledger lists the counted votes, newest first.
Every entry of the vote table is the latest counted vote of its voter in its family (`LOk`), and,
when the clock readings never go back, every such vote that has not expired is in the table (`LComp`).
-/
import Discv5Model.Proofs.IpVoteLemmas

namespace Discv5.SvcVotes

open Discv5.IpVote

variable {α : Type} [DecidableEq α]

/-- The vote of the PONG is counted: it gets past all three guards of
`handle_ip_vote_from_pong` (the connectivity state admits it, ENR updates are on, and the voter is
a connected outgoing peer or more votes of its family are needed).  This is the eligibility
condition of C17. -/
def counted (A : IpVote.Svc α) (p : Pong α) : Bool :=
  p.countable && A.votes.isSome && (p.connOut || (requireMore A p.tClear p.sock.isV6).2)

/-- The vote table just before the vote is inserted (after the pruning of `require_more_ip_votes`). -/
def tableBefore (A : IpVote.Svc α) (p : Pong α) : Option (IpVote α) :=
  (requireMore A p.tClear p.sock.isV6).1.votes

/-- A counted vote: who, for which socket, until when it is valid. -/
structure Cast (α : Type) where
  voter : Nat
  sock : Sock α
  expiry : Nat

/-- The latest counted vote of `x` in the family `fam` (`true` = IPv6); the ledger is kept newest
first. -/
def latest (L : List (Cast α)) (fam : Bool) (x : Nat) : Option (Cast α) :=
  L.find? (fun c => c.voter == x && c.sock.isV6 == fam)

/-- The ledger entry a PONG produces: one iff the vote is counted; it expires `duration` after the
clock reading of `insert`. -/
def castOf (A : IpVote.Svc α) (p : Pong α) : Option (Cast α) :=
  if counted A p then
    (tableBefore A p).map fun v => { voter := p.voter, sock := p.sock, expiry := p.tIns + v.duration }
  else none

omit [DecidableEq α] in
theorem castOf_some {A : IpVote.Svc α} {p : Pong α} {c : Cast α} (h : castOf A p = some c) :
    counted A p = true ∧ c.voter = p.voter ∧ c.sock = p.sock := by
  unfold castOf at h
  split at h
  · rename_i hc
    cases ht : tableBefore A p with
    | none => rw [ht] at h; cases h
    | some v => rw [ht] at h; cases h; exact ⟨hc, rfl, rfl⟩
  · cases h

/-- Every entry of the vote table is the latest counted vote of its voter in its family (`LOk.l`:
both tables by the family flag). -/
structure LOk (L : List (Cast α)) (v : IpVote α) : Prop where
  l4 : ∀ en, en ∈ v.v4 → latest L false en.voter = some ⟨en.voter, .v4 en.vote, en.expiry⟩
  l6 : ∀ en, en ∈ v.v6 → latest L true en.voter = some ⟨en.voter, .v6 en.vote, en.expiry⟩

/-- `LOk` of the vote table, when there is one (ENR updates on). -/
def SLOk (L : List (Cast α)) (A : IpVote.Svc α) : Prop := ∀ v, A.votes = some v → LOk L v

section
omit [DecidableEq α]

theorem LOk.l {L : List (Cast α)} {v : IpVote α} (h : LOk L v) (f : Bool) :
    ∀ en, en ∈ v.fam f → latest L f en.voter = some ⟨en.voter, Sock.of f en.vote, en.expiry⟩ := by
  cases f
  · exact h.l4
  · exact h.l6

theorem LOk.of_fam {L : List (Cast α)} {v : IpVote α}
    (h : ∀ f en, en ∈ v.fam f → latest L f en.voter = some ⟨en.voter, Sock.of f en.vote, en.expiry⟩) :
    LOk L v :=
  ⟨h false, h true⟩

theorem LOk.sub {L : List (Cast α)} {v v' : IpVote α} (h : LOk L v)
    (hsub : ∀ f en, en ∈ v'.fam f → en ∈ v.fam f) : LOk L v' :=
  LOk.of_fam fun f en he => h.l f en (hsub f en he)

theorem latest_cons_self (L : List (Cast α)) (c : Cast α) :
    latest (c :: L) c.sock.isV6 c.voter = some c := by
  unfold latest
  rw [List.find?_cons_of_pos]
  simp

theorem latest_cons_other (L : List (Cast α)) (c : Cast α) (fam : Bool) (x : Nat)
    (h : c.voter ≠ x ∨ c.sock.isV6 ≠ fam) : latest (c :: L) fam x = latest L fam x := by
  unfold latest
  rw [List.find?_cons_of_neg]
  rcases h with h | h
  · simp [h]
  · simp [h]

theorem LOk.clearOld {L : List (Cast α)} {v : IpVote α} (h : LOk L v) (now : Nat) :
    LOk L (v.clearOld now) :=
  h.sub fun f en he => by rw [clearOld_fam] at he; exact (List.mem_filter.1 he).1

end

omit [DecidableEq α] in
theorem LOk.insert {L : List (Cast α)} {v : IpVote α} (h : LOk L v) (now k : Nat) (sock : Sock α) :
    LOk (⟨k, sock, now + v.duration⟩ :: L) (v.insert now k sock) := by
  rw [sock.eq_of]
  refine LOk.of_fam fun g en he => ?_
  rw [insert_fam] at he
  split at he
  · rename_i hg
    subst hg
    rcases mem_mapInsert.1 he with ⟨he, hk⟩ | rfl
    · rw [latest_cons_other _ _ _ _ (Or.inl (Ne.symm hk))]
      exact h.l _ en he
    · have := latest_cons_self L ⟨k, Sock.of sock.isV6 sock.addr, now + v.duration⟩
      rwa [Sock.isV6_of] at this
  · rename_i hg
    rw [latest_cons_other _ _ _ _ (Or.inr (by rw [Sock.isV6_of]; exact Ne.symm hg))]
    exact h.l g en he

theorem LOk.majority {L : List (Cast α)} {v : IpVote α} (h : LOk L v) (thr : Nat → Nat) (now : Nat)
    {sh4 sh6 : List (Entry α) → List (Entry α)} (h4 : IsShuffle sh4) (h6 : IsShuffle sh6) :
    LOk L (v.majority thr now sh4 sh6).1 := by
  refine h.sub fun f en he => ?_
  rw [majority_fam] at he
  have hsh : IsShuffle (bif f then sh6 else sh4) := by cases f <;> assumption
  exact (hsh _).mem_iff.1 (List.mem_filter.1 he).1

/-- One PONG and its ledger entry.  A relation `P` between ledger and vote table that survives
pruning holds after the PONG, for the ledger extended by the vote iff it is counted, once it
survives the insertion of a counted vote followed by `majority()` (`Q` is what is left of `P`
then, e.g. at a later clock reading). -/
theorem pongStep_ledger {P Q : List (Cast α) → IpVote α → Prop} (thr : Nat → Nat) {L : List (Cast α)}
    {A : IpVote.Svc α} (p : Pong α) (h : ∀ v, A.votes = some v → P L v) (hPQ : ∀ v, P L v → Q L v)
    (hclear : ∀ v, P L v → P L (v.clearOld p.tClear))
    (hcount : ∀ v, P L v → Q (⟨p.voter, p.sock, p.tIns + v.duration⟩ :: L)
      ((v.insert p.tIns p.voter p.sock).majority thr p.tMaj p.sh4 p.sh6).1) :
    ∀ v, (pongStep thr A p).1.votes = some v → Q ((castOf A p).toList ++ L) v := by
  have h1 := requireMore_votes p.tClear p.sock.isV6 h hclear
  have harms : if counted A p then _ else _ := pongStep_arms thr A p
  unfold castOf tableBefore
  split at harms
  · rename_i hc
    obtain ⟨v, hv, hstep⟩ := harms
    obtain ⟨_, rfl, hvotes, _⟩ := countVote_cases thr (requireMore A p.tClear p.sock.isV6).1 v p
    rw [if_pos hc, hv, hstep, hvotes]
    intro v' hv'
    cases hv'
    exact hcount v (h1 v hv)
  · rename_i hc
    rw [if_neg hc]
    rcases harms with he | he <;> rw [he]
    · exact fun v hv => hPQ v (h v hv)
    · exact fun v hv => hPQ v (h1 v hv)

theorem pongStep_lok {L : List (Cast α)} {A : IpVote.Svc α} (h : SLOk L A) (thr : Nat → Nat)
    (p : Pong α) (hp : p.Valid) : SLOk ((castOf A p).toList ++ L) (pongStep thr A p).1 :=
  pongStep_ledger (P := LOk) (Q := LOk) thr p h (fun _ hv => hv) (fun _ hv => hv.clearOld _)
    fun _ hv => (hv.insert p.tIns p.voter p.sock).majority thr p.tMaj hp.1 hp.2

/-- `IpVote.Moves thr A p false a` with the family written out: all that C17 says of a PONG that
moved the IPv4 socket of the record to `a`. -/
structure Moved4 (thr : Nat → Nat) (A : IpVote.Svc α) (p : Pong α) (a : α) : Prop where
  counted : counted A p = true
  fam : ∃ x, p.sock = .v4 x
  votes : ∃ v', (pongStep thr A p).1.votes = some v' ∧
    ClearMajority thr v'.minimum (countOf p.tMaj v'.v4) a ∧ ∀ en, en ∈ v'.v4 → p.tMaj < en.expiry
  old : A.enr.ip4 ≠ some a
  enr : (pongStep thr A p).1.enr = { A.enr with ip4 := some a, seq := A.enr.seq + 1 }
  evs : (pongStep thr A p).2 = [Ev.socketUpdated (.v4 a)]

/-- `IpVote.Moves thr A p true a` with the family written out. -/
structure Moved6 (thr : Nat → Nat) (A : IpVote.Svc α) (p : Pong α) (a : α) : Prop where
  counted : counted A p = true
  fam : ∃ x, p.sock = .v6 x
  votes : ∃ v', (pongStep thr A p).1.votes = some v' ∧
    ClearMajority thr v'.minimum (countOf p.tMaj v'.v6) a ∧ ∀ en, en ∈ v'.v6 → p.tMaj < en.expiry
  old : A.enr.ip6 ≠ some a
  enr : (pongStep thr A p).1.enr = { A.enr with ip6 := some a, seq := A.enr.seq + 1 }
  evs : (pongStep thr A p).2 = [Ev.socketUpdated (.v6 a)]

theorem pongStep_shape (thr : Nat → Nat) (A : IpVote.Svc α) (p : Pong α) :
    ((pongStep thr A p).1.enr = A.enr ∧ (pongStep thr A p).2 = []) ∨
    (∃ a, Moved4 thr A p a) ∨ (∃ a, Moved6 thr A p a) := by
  rcases pongStep_cases thr A p with h | ⟨f, a, hm⟩
  · exact Or.inl h
  · have hs := p.sock.eq_of
    rw [hm.fam] at hs
    cases f
    · exact Or.inr (Or.inl ⟨a, hm.counted, ⟨_, hs⟩, hm.votes, hm.old, hm.enr, hm.evs⟩)
    · exact Or.inr (Or.inr ⟨a, hm.counted, ⟨_, hs⟩, hm.votes, hm.old, hm.enr, hm.evs⟩)

/-- The voters behind a tally: the voters of the unexpired entries for `a`. -/
def tallyVoters (now : Nat) (l : List (Entry α)) (a : α) : List Nat :=
  (l.filter (fun e => decide (now < e.expiry) && decide (e.vote = a))).map (fun e => e.voter)

theorem tallyVoters_length (now : Nat) (l : List (Entry α)) (a : α) :
    (tallyVoters now l a).length = countOf now l a := by
  unfold tallyVoters; rw [List.length_map]; rfl

theorem tallyVoters_nodup (now : Nat) {l : List (Entry α)} (hk : KeysNodup l) (a : α) :
    (tallyVoters now l a).Nodup := by
  unfold KeysNodup at hk
  exact (List.filter_sublist.map _).nodup hk

theorem mem_tallyVoters {now : Nat} {l : List (Entry α)} {a : α} {x : Nat} :
    x ∈ tallyVoters now l a ↔ ∃ en, en ∈ l ∧ now < en.expiry ∧ en.vote = a ∧ en.voter = x := by
  simp only [tallyVoters, List.mem_map, List.mem_filter, Bool.and_eq_true, decide_eq_true_eq, and_assoc]

/-! ### Completeness of the table under monotone clocks

The table never loses a vote that is still valid: if the clock readings never go back, every
latest counted vote that has not expired by the last reading is still in the table. -/

/-- `x`'s latest counted vote in the family `fam` is for the socket `s` and unexpired at `now`. -/
def VotesFor (L : List (Cast α)) (fam : Bool) (now : Nat) (x : Nat) (s : Sock α) : Prop :=
  ∃ exp, latest L fam x = some ⟨x, s, exp⟩ ∧ now < exp

theorem tallyVoters_sound {L : List (Cast α)} {v : IpVote α} (h : LOk L v) (f : Bool) (now : Nat) (a : α)
    (x : Nat) (hx : x ∈ tallyVoters now (v.fam f) a) : VotesFor L f now x (Sock.of f a) := by
  obtain ⟨en, he, hlive, rfl, rfl⟩ := mem_tallyVoters.1 hx
  exact ⟨en.expiry, h.l f en he, hlive⟩

/-- Every latest counted vote still valid after `T` is in the table (`LComp.c`: both tables by the
family flag). -/
structure LComp (T : Nat) (L : List (Cast α)) (v : IpVote α) : Prop where
  c4 : ∀ x c, latest L false x = some c → T < c.expiry →
    ∃ en, en ∈ v.v4 ∧ en.voter = x ∧ Sock.v4 en.vote = c.sock ∧ en.expiry = c.expiry
  c6 : ∀ x c, latest L true x = some c → T < c.expiry →
    ∃ en, en ∈ v.v6 ∧ en.voter = x ∧ Sock.v6 en.vote = c.sock ∧ en.expiry = c.expiry

/-- `LComp` of the vote table, when there is one. -/
def SLComp (T : Nat) (L : List (Cast α)) (A : IpVote.Svc α) : Prop :=
  ∀ v, A.votes = some v → LComp T L v

section
omit [DecidableEq α]

theorem LComp.c {T : Nat} {L : List (Cast α)} {v : IpVote α} (h : LComp T L v) (f : Bool) :
    ∀ x c, latest L f x = some c → T < c.expiry →
      ∃ en, en ∈ v.fam f ∧ en.voter = x ∧ Sock.of f en.vote = c.sock ∧ en.expiry = c.expiry := by
  cases f
  · exact h.c4
  · exact h.c6

theorem LComp.of_fam {T : Nat} {L : List (Cast α)} {v : IpVote α}
    (h : ∀ f x c, latest L f x = some c → T < c.expiry →
      ∃ en, en ∈ v.fam f ∧ en.voter = x ∧ Sock.of f en.vote = c.sock ∧ en.expiry = c.expiry) :
    LComp T L v :=
  ⟨h false, h true⟩

theorem LComp.sub {T T' : Nat} {L : List (Cast α)} {v v' : IpVote α} (h : LComp T L v) (hT : T ≤ T')
    (hsub : ∀ f en, en ∈ v.fam f → T' < en.expiry → en ∈ v'.fam f) : LComp T' L v' := by
  refine LComp.of_fam fun f x c hl he => ?_
  obtain ⟨en, hm, h1, h2, h3⟩ := h.c f x c hl (by omega)
  exact ⟨en, hsub f en hm (by omega), h1, h2, h3⟩

theorem LComp.mono {T T' : Nat} {L : List (Cast α)} {v : IpVote α} (h : LComp T L v) (hT : T ≤ T') :
    LComp T' L v :=
  h.sub hT fun _ _ hm _ => hm

theorem LComp.clearOld {T : Nat} {L : List (Cast α)} {v : IpVote α} (h : LComp T L v) (now : Nat)
    (hT : T ≤ now) : LComp now L (v.clearOld now) :=
  h.sub hT fun f en hm hl => by
    rw [clearOld_fam]
    exact List.mem_filter.2 ⟨hm, by simpa using hl⟩

theorem requireMore_lcomp {T : Nat} {L : List (Cast α)} {A : IpVote.Svc α} (h : SLComp T L A)
    (now : Nat) (hT : T ≤ now) (b : Bool) : SLComp now L (requireMore A now b).1 :=
  requireMore_votes (P := LComp now L) now b (fun v hv => (h v hv).mono hT)
    fun _ hv => hv.clearOld now (Nat.le_refl _)

end

omit [DecidableEq α] in
theorem latest_voter {L : List (Cast α)} {fam : Bool} {x : Nat} {c : Cast α}
    (h : latest L fam x = some c) : c.voter = x ∧ c.sock.isV6 = fam := by
  unfold latest at h
  have := List.find?_some h
  simpa using this

omit [DecidableEq α] in
theorem LComp.insert {T : Nat} {L : List (Cast α)} {v : IpVote α} (h : LComp T L v)
    (now k : Nat) (sock : Sock α) :
    LComp T (⟨k, sock, now + v.duration⟩ :: L) (v.insert now k sock) := by
  rw [sock.eq_of]
  generalize sock.isV6 = f
  generalize sock.addr = a
  refine LComp.of_fam fun g x c hl he => ?_
  rw [insert_fam]
  by_cases hx : k = x ∧ f = g
  · -- the new vote is the latest of its voter and family
    obtain ⟨rfl, rfl⟩ := hx
    have := latest_cons_self L ⟨k, Sock.of f a, now + v.duration⟩
    rw [Sock.isV6_of] at this
    rw [this] at hl
    cases hl
    exact ⟨⟨k, a, now + v.duration⟩, by rw [if_pos rfl]; exact mem_mapInsert.2 (Or.inr rfl), rfl, rfl, rfl⟩
  · have hne : k ≠ x ∨ f ≠ g := by
      by_cases h1 : k = x
      · exact Or.inr fun h2 => hx ⟨h1, h2⟩
      · exact Or.inl h1
    rw [latest_cons_other _ _ _ _ (by rw [Sock.isV6_of]; exact hne)] at hl
    obtain ⟨en, hm, h1, h2, h3⟩ := h.c g x c hl he
    refine ⟨en, ?_, h1, h2, h3⟩
    split
    · rename_i hg
      subst hg
      refine mem_mapInsert.2 (Or.inl ⟨hm, ?_⟩)
      rw [h1]
      exact fun hxk => hne.elim (fun h => h hxk.symm) (fun h => h rfl)
    · exact hm

theorem LComp.majority {T : Nat} {L : List (Cast α)} {v : IpVote α} (h : LComp T L v)
    (thr : Nat → Nat) (now : Nat) (hT : T ≤ now)
    {sh4 sh6 : List (Entry α) → List (Entry α)} (h4 : IsShuffle sh4) (h6 : IsShuffle sh6) :
    LComp now L (v.majority thr now sh4 sh6).1 :=
  h.sub hT fun f en hm hl => by
    have hsh : IsShuffle (bif f then sh6 else sh4) := by cases f <;> assumption
    rw [majority_fam]
    exact List.mem_filter.2 ⟨(hsh _).mem_iff.2 hm, by simpa using hl⟩

theorem pongStep_lcomp {T : Nat} {L : List (Cast α)} {A : IpVote.Svc α} (h : SLComp T L A)
    (thr : Nat → Nat) (p : Pong α) (hp : p.Valid)
    (h1 : T ≤ p.tClear) (h2 : p.tClear ≤ p.tIns) (h3 : p.tIns ≤ p.tMaj) :
    SLComp p.tMaj ((castOf A p).toList ++ L) (pongStep thr A p).1 :=
  pongStep_ledger (P := LComp p.tClear) (Q := LComp p.tMaj) thr p (fun v hv => (h v hv).mono h1)
    (fun _ hv => hv.mono (by omega)) (fun _ hv => hv.clearOld _ (Nat.le_refl _))
    fun _ hv => (hv.insert p.tIns p.voter p.sock).majority thr p.tMaj (by omega) hp.1 hp.2

theorem tallyVoters_complete {T : Nat} {L : List (Cast α)} {v : IpVote α} (h : LComp T L v) (f : Bool)
    (a : α) (x : Nat) (hx : VotesFor L f T x (Sock.of f a)) : x ∈ tallyVoters T (v.fam f) a := by
  obtain ⟨exp, hl, hlive⟩ := hx
  obtain ⟨en, hm, h1, h2, h3⟩ := h.c f x _ hl hlive
  exact mem_tallyVoters.2 ⟨en, hm, by rw [h3]; exact hlive, Sock.of_inj h2, h1⟩

theorem voters_le_tally {T : Nat} {L : List (Cast α)} {v : IpVote α} (h : LComp T L v) (f : Bool)
    (b : α) (ws : List Nat) (hnd : ws.Nodup) (hws : ∀ x, x ∈ ws → VotesFor L f T x (Sock.of f b)) :
    ws.length ≤ countOf T (v.fam f) b := by
  rw [← tallyVoters_length]
  exact List.Nodup.length_le_of_subset hnd fun x hx => tallyVoters_complete h f b x (hws x hx)

/-! ### One step around the vote table

Besides PONGs the service calls `require_more_ip_votes` from a second place, which prunes the
table.  `absStep` is a step of either kind (or none); the facts about `pongStep` extend to it. -/

/-- The PONG `vp` reaches `handle_ip_vote_from_pong`, or else `require_more_ip_votes` is called
from elsewhere at `now` for the family `pa` (`true` = IPv6), or neither. -/
def absStep (thr : Nat → Nat) (A : IpVote.Svc α) (now : Nat) :
    Option (Pong α) → Option Bool → IpVote.Svc α × List (Ev α)
  | some p, _ => pongStep thr A p
  | none, some b => ((requireMore A now b).1, [])
  | none, none => (A, [])

theorem absStep_cases (thr : Nat → Nat) (A : IpVote.Svc α) (now : Nat) (vp : Option (Pong α))
    (pa : Option Bool) :
    ((absStep thr A now vp pa).1.enr = A.enr ∧ (absStep thr A now vp pa).2 = []) ∨
    ∃ p f a, vp = some p ∧ Moves thr A p f a := by
  cases vp with
  | some p =>
    rcases pongStep_cases thr A p with h | ⟨f, a, hm⟩
    · exact Or.inl h
    · exact Or.inr ⟨p, f, a, rfl, hm⟩
  | none =>
    cases pa with
    | some b => exact Or.inl ⟨requireMore_enr .., rfl⟩
    | none => exact Or.inl ⟨rfl, rfl⟩

theorem absStep_keeps (thr : Nat → Nat) (A : IpVote.Svc α) (now : Nat) (vp : Option (Pong α))
    (pa : Option Bool) :
    (absStep thr A now vp pa).1.dual = A.dual ∧
    (absStep thr A now vp pa).1.votes.isSome = A.votes.isSome := by
  cases vp with
  | some p => exact pongStep_keeps ..
  | none =>
    cases pa with
    | some b => exact requireMore_keeps ..
    | none => exact ⟨rfl, rfl⟩

theorem absStep_inv {minimum : Nat} {hist : List (Pong α)} {L : List (Cast α)} {A : IpVote.Svc α}
    (h1 : SOk minimum hist A) (h2 : SLOk L A) (thr : Nat → Nat) (now : Nat) {vp : Option (Pong α)}
    (hv : ∀ p, vp = some p → p.Valid) (pa : Option Bool) :
    SOk minimum (hist ++ vp.toList) (absStep thr A now vp pa).1 ∧
    SLOk ((vp.bind (castOf A)).toList ++ L) (absStep thr A now vp pa).1 := by
  cases vp with
  | some p => exact ⟨pongStep_ok h1 thr p (hv p rfl), pongStep_lok h2 thr p (hv p rfl)⟩
  | none =>
    rw [Option.toList, List.append_nil]
    cases pa with
    | some b => exact ⟨requireMore_ok h1 now b, requireMore_votes now b h2 fun _ hv => hv.clearOld now⟩
    | none => exact ⟨h1, h2⟩

theorem absStep_few_liars {minimum : Nat} {hist : List (Pong α)} {A : IpVote.Svc α}
    (h : SOk minimum hist A) (thr : Nat → Nat) (now : Nat) {vp : Option (Pong α)}
    (hv : ∀ p, vp = some p → p.Valid) (pa : Option Bool) (f : Bool) (a : α) (liars : List Nat)
    (hl : ∀ q, q ∈ hist ++ vp.toList → q.sock = Sock.of f a → q.voter ∈ liars)
    (hfew : liars.length < minimum) (hnew : (absStep thr A now vp pa).1.enr.ip f = some a) :
    A.enr.ip f = some a := by
  cases vp with
  | some p => exact pongStep_few_liars thr minimum hist A h p (hv p rfl) f a liars hl hfew hnew
  | none =>
    cases pa with
    | some b => rwa [show (absStep thr A now none (some b)).1.enr = A.enr from requireMore_enr ..] at hnew
    | none => exact hnew

theorem absStep_lcomp {T T' : Nat} {L : List (Cast α)} {A : IpVote.Svc α} (h : SLComp T L A)
    (thr : Nat → Nat) (now : Nat) {vp : Option (Pong α)} (hv : ∀ p, vp = some p → p.Valid)
    (pa : Option Bool) (h1 : T ≤ now) (h2 : now ≤ T')
    (hp : ∀ p, vp = some p → p.tClear = now ∧ now ≤ p.tIns ∧ p.tIns ≤ p.tMaj ∧ p.tMaj = T') :
    SLComp T' ((vp.bind (castOf A)).toList ++ L) (absStep thr A now vp pa).1 := by
  cases vp with
  | some p =>
    obtain ⟨e1, e2, e3, e4⟩ := hp p rfl
    rw [← e4]
    exact pongStep_lcomp h thr p (hv p rfl) (by omega) (by omega) e3
  | none =>
    cases pa with
    | some b => exact fun v hv' => (requireMore_lcomp h now h1 b v hv').mono h2
    | none => exact fun v hv' => (h v hv').mono (by omega)

end Discv5.SvcVotes
