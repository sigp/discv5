/-
C16 (IP-diversity limits), bucket level.  The filter is specified by counting; the invariants are
stated as counts of (key, value) predicates over the stored nodes and the pending slot of a bucket,
and what a bucket operation does to such counts is read off its case analysis in `KBucketLemmas`:
an operation either only loses entries (`Mono`) or adds at most the entry it files (`MonoEx`).
-/
import Discv5Model.Proofs.KBucketLemmas
namespace Discv5.KB.Ip

theorem ipCountLoop_spec (limit : Nat) (v : Val) (s : Nat) (l : List Val) (cnt : Nat)
    (hc : cnt < limit) :
    ipCountLoop limit v s l cnt = decide (cnt + subnetCount s (l.filter (· ≠ v)) < limit) := by
  induction l generalizing cnt with
  | nil => simp [ipCountLoop, subnetCount, hc]
  | cons o rest ih =>
    unfold ipCountLoop
    by_cases hov : o = v
    · rw [if_pos hov, ih cnt hc]; simp [hov]
    · rw [if_neg hov]
      have hf : (o :: rest).filter (· ≠ v) = o :: rest.filter (· ≠ v) := by simp [hov]
      rw [hf]
      by_cases hs : o.subnet = some s
      · simp only [hs, if_true]
        by_cases hge : cnt + 1 ≥ limit
        · rw [if_pos hge]; simp [subnetCount, hs]; omega
        · rw [if_neg hge, ih (cnt + 1) (by omega)]
          simp [subnetCount, hs]; omega
      · simp only [hs, if_false]
        rw [if_neg (by omega), ih cnt hc]
        simp [subnetCount, hs]

/-- Predicates on (key, value) pairs. -/
abbrev KV := Nat → Val → Bool

def bit (b : Bool) : Nat := if b = true then 1 else 0

def W (p : KV) (l : List (Node Val)) : Nat := l.countP (fun n => p n.key n.value)

def PW (p : KV) : Option (Pending Val) → Nat
  | some q => bit (p q.node.key q.node.value)
  | none => 0

/-- The number of entries of `b`, the pending one included, that satisfy `p`: `W` counts the stored
nodes, `PW` the pending slot (`bit`: 0 or 1).  The invariants of C16 are bounds on such counts. -/
def A (p : KV) (b : Bucket Val) : Nat := W p b.nodes + PW p b.pending

theorem bit_le_one (b : Bool) : bit b ≤ 1 := by unfold bit; split <;> omega

@[simp] theorem W_nil (p : KV) : W p [] = 0 := rfl
theorem W_cons (p : KV) (x : Node Val) (l) : W p (x :: l) = W p l + bit (p x.key x.value) := by
  simp only [W, List.countP_cons, bit]
theorem W_perm {p : KV} {l l' : List (Node Val)} (h : l'.Perm l) : W p l' = W p l :=
  h.countP_eq _
theorem W_removeAt (p : KV) (l : List (Node Val)) (i : Nat) (x : Node Val) (h : l[i]? = some x) :
    W p (removeAt l i) + bit (p x.key x.value) = W p l := by
  rw [W_perm (removeAt_perm h), W_cons]
theorem W_removeAt_le (p : KV) (l : List (Node Val)) (i : Nat) : W p (removeAt l i) ≤ W p l :=
  (removeAt_sublist l i).countP_le
theorem W_set (p : KV) (l : List (Node Val)) (i : Nat) (x y : Node Val) (h : l[i]? = some x) :
    W p (l.set i y) = W p (removeAt l i) + bit (p y.key y.value) := by
  rw [← insertAt_removeAt y (List.getElem?_eq_some_iff.1 h).1, W_perm (insertAt_perm _ i y), W_cons]

theorem mem_insertAt {α} (l : List α) (i : Nat) (x y : α) : y ∈ insertAt l i x ↔ y = x ∨ y ∈ l := by
  rw [(insertAt_perm l i x).mem_iff, List.mem_cons]

theorem W_eq_zero (p : KV) (l : List (Node Val)) : W p l = 0 ↔ ∀ n ∈ l, p n.key n.value = false := by
  simp [W, List.countP_eq_zero]

theorem W_mono (p q : KV) (l : List (Node Val)) (h : ∀ n ∈ l, p n.key n.value = true → q n.key n.value = true) :
    W p l ≤ W q l := by
  unfold W
  exact List.countP_mono_left (by simpa using h)

theorem W_pos_of_mem (p : KV) (l : List (Node Val)) (n) (hn : n ∈ l) (hp : p n.key n.value = true) : 1 ≤ W p l := by
  unfold W
  exact List.countP_pos_iff.mpr ⟨n, hn, hp⟩

theorem countP_split {α} (p q : α → Bool) (l : List α) :
    l.countP p = l.countP (fun a => p a && q a) + l.countP (fun a => p a && !q a) := by
  rw [List.countP_eq_countP_filter_add l p q, List.countP_filter, List.countP_filter]

theorem W_split (p q : KV) (l : List (Node Val)) :
    W p l = W (fun k v => p k v && q k v) l + W (fun k v => p k v && !q k v) l :=
  countP_split (fun n : Node Val => p n.key n.value) (fun n => q n.key n.value) l

@[simp] theorem PW_none (p : KV) : PW p none = 0 := rfl
@[simp] theorem PW_some (p : KV) (q) : PW p (some q) = bit (p q.node.key q.node.value) := rfl
theorem PW_le_one (p : KV) (o) : PW p o ≤ 1 := by
  cases o <;> simp [bit]; split <;> omega

theorem PW_le_of {p : KV} {o o' : Option (Pending Val)} (h : ∀ q, o' = some q → o = some q) :
    PW p o' ≤ PW p o := by
  cases o' with
  | none => exact Nat.zero_le _
  | some q => rw [h q rfl]; exact Nat.le_refl _

/-- The (key, value) pairs of a bucket, the pending one last: `A` counts these. -/
def ents (b : Bucket Val) : List (Nat × Val) :=
  b.nodes.map (fun n => (n.key, n.value)) ++
    (match b.pending with | some q => [(q.node.key, q.node.value)] | none => [])

theorem A_eq_countP (p : KV) (b : Bucket Val) : A p b = (ents b).countP (fun e => p e.1 e.2) := by
  unfold A W ents
  rw [List.countP_append, List.countP_map]
  cases b.pending with
  | none => rfl
  | some q => simp only [PW_some, List.countP_cons, List.countP_nil, bit, Nat.zero_add]; rfl

/-- the value lies in the /24 numbered `s` -/
def inS (s : Nat) : KV := fun _ v => decide (v.subnet = some s)
def keyIs (k : Nat) : KV := fun k' _ => k' == k
def valIs (v : Val) : KV := fun _ v' => decide (v' = v)
def badKey (keyOf : Val → Nat) : KV := fun k v => k != keyOf v

/-- The invariants of one bucket as counts: every key at most once (`UB`), no entry under a key other
than `keyOf` of its value (`VB`), at most 2 stored nodes of one /24 (`NB`). -/
def UB (b : Bucket Val) : Prop := ∀ k, A (keyIs k) b ≤ 1
def VB (keyOf : Val → Nat) (b : Bucket Val) : Prop := A (badKey keyOf) b = 0
def NB (b : Bucket Val) : Prop := ∀ s, W (inS s) b.nodes ≤ 2
/-- `b'` holds, with multiplicity, only entries of `b`. -/
def Mono (b b' : Bucket Val) : Prop := ∀ p, A p b' ≤ A p b
/-- `b'` holds only entries of `b` and, if `f = some v`, possibly `(k, v)`. -/
def MonoEx (k : Nat) (f : Option Val) (b b' : Bucket Val) : Prop :=
  ∀ p : KV, (∀ v, f = some v → p k v = false) → A p b' ≤ A p b

theorem Mono.refl (b : Bucket Val) : Mono b b := fun _ => Nat.le_refl _
theorem Mono.trans {a b c : Bucket Val} (h1 : Mono a b) (h2 : Mono b c) : Mono a c :=
  fun p => Nat.le_trans (h2 p) (h1 p)
theorem Mono.ex {a b : Bucket Val} (h : Mono a b) (k f) : MonoEx k f a b := fun p _ => h p
theorem MonoEx.trans {k f} {a b c : Bucket Val} (h1 : MonoEx k f a b) (h2 : MonoEx k f b c) :
    MonoEx k f a c := fun p hp => Nat.le_trans (h2 p hp) (h1 p hp)
theorem MonoEx.vb {keyOf k f} {a b : Bucket Val} (h : MonoEx k f a b)
    (hk : ∀ v, f = some v → k = keyOf v) (hv : VB keyOf a) : VB keyOf b :=
  Nat.le_zero.mp (hv ▸ h (badKey keyOf) (fun v hf => by simp [badKey, hk v hf]))

theorem VB_iff (keyOf : Val → Nat) (b : Bucket Val) :
    VB keyOf b ↔ (∀ n ∈ b.nodes, n.key = keyOf n.value) ∧
      (∀ p, b.pending = some p → p.node.key = keyOf p.node.value) := by
  unfold VB A
  rw [Nat.add_eq_zero_iff, W_eq_zero]
  constructor
  · rintro ⟨h1, h2⟩
    refine ⟨fun n hn => by simpa [badKey] using h1 n hn, fun p hp => ?_⟩
    rw [hp] at h2
    simpa [badKey, bit] using h2
  · rintro ⟨h1, h2⟩
    refine ⟨fun n hn => by simpa [badKey] using h1 n hn, ?_⟩
    cases hp : b.pending with
    | none => rfl
    | some p => simpa [badKey, bit] using h2 p hp

/-- Under `VB`, distinct keys carry distinct values: a value stored under a key that does not
occur among `l` does not occur among the values of `l`. -/
theorem value_fresh {keyOf : Val → Nat} {l : List (Node Val)} {k : Nat} {v : Val}
    (hv : ∀ n ∈ l, n.key = keyOf n.value) (hk : k = keyOf v) (hf : k ∉ l.map (·.key)) :
    ∀ n ∈ l, n.value ≠ v :=
  fun n hn e => hf (List.mem_map.2 ⟨n, hn, by rw [hv n hn, e, hk]⟩)

theorem subnetCount_map_filter (s : Nat) (v : Val) (l : List (Node Val)) :
    subnetCount s ((l.map (·.value)).filter (· ≠ v)) = W (fun k x => inS s k x && !valIs v k x) l := by
  induction l with
  | nil => rfl
  | cons x l ih =>
    rw [W_cons, ← ih]
    by_cases h1 : x.value = v <;> by_cases h2 : x.value.subnet = some s <;>
      simp [subnetCount, h1, h2, inS, valIs, bit]

theorem subnetCount_values (s : Nat) (l : List (Node Val)) :
    subnetCount s (l.map (·.value)) = W (inS s) l := by
  induction l with
  | nil => rfl
  | cons x l ih =>
    rw [W_cons, ← ih]
    by_cases h2 : x.value.subnet = some s <;> simp [subnetCount, h2, inS, bit]

theorem ipFilter_count (limit : Nat) (hl : 1 ≤ limit) (v : Val) (s : Nat) (hs : v.subnet = some s)
    (l : List (Node Val)) (h : ipFilter limit v (l.map (·.value)) = true) :
    W (fun k x => inS s k x && !valIs v k x) l < limit := by
  unfold ipFilter at h
  rw [hs] at h
  simp only [] at h
  rw [ipCountLoop_spec limit v s _ 0 hl] at h
  rw [subnetCount_map_filter] at h
  simpa using h

theorem count_after_add (limit : Nat) (hl : 1 ≤ limit) (v : Val) (l : List (Node Val))
    (h : ipFilter limit v (l.map (·.value)) = true) (hfresh : ∀ n ∈ l, n.value ≠ v)
    (hle : ∀ s, W (inS s) l ≤ limit) (k : Nat) (s : Nat) :
    W (inS s) l + bit (inS s k v) ≤ limit := by
  by_cases hs : v.subnet = some s
  · have h1 := ipFilter_count limit hl v s hs l h
    have h2 := W_split (inS s) (valIs v) l
    have h3 : W (fun k x => inS s k x && valIs v k x) l = 0 := by
      rw [W_eq_zero]; intro n hn; simp [valIs, hfresh n hn]
    have := bit_le_one (inS s k v)
    omega
  · have : bit (inS s k v) = 0 := by simp [inS, hs, bit]
    have := hle s
    omega

section ops
variable {c : Cfg Val} {now tick : Nat} {b : Bucket Val}

theorem insert_A (node : Node Val) (p : KV) :
    A p (b.insert c now node).1 ≤ A p b + bit (p node.key node.value) := by
  rcases insert_cases c now b node with ⟨h, _⟩ | ⟨n0, h, _, _, hp⟩ | ⟨_, _, _, _, hpend, hshape⟩
  · rw [h]; omega
  · rw [h]; unfold A; rw [hp]; exact Nat.le_refl _
  · unfold A
    rw [W_perm hshape.perm, W_cons]
    have := PW_le_of (p := p) (fun q hq => (hpend q hq).1)
    omega

theorem insert_ex (node : Node Val) :
    MonoEx node.key (some node.value) b (b.insert c now node).1 := by
  intro q hq
  have := insert_A (c := c) (now := now) (b := b) node q
  rw [hq _ rfl] at this
  exact this

theorem insert_nodes (node : Node Val) : (b.insert c now node).1.nodes = b.nodes ∨
    (c.bucketFilter node.value b.values = true ∧ b.position node.key = none ∧
      (b.insert c now node).1.nodes.Perm (node :: b.nodes)) := by
  rcases insert_cases c now b node with ⟨h, _⟩ | ⟨n0, h, _⟩ | ⟨_, hpos, _, hadm, _, hshape⟩
  · rw [h]; exact Or.inl rfl
  · rw [h]; exact Or.inl rfl
  · exact Or.inr ⟨hadm.1, hpos, hshape.perm⟩

theorem insert_W (node : Node Val) (p : KV) :
    W p (b.insert c now node).1.nodes ≤ W p b.nodes + bit (p node.key node.value) := by
  rcases insert_nodes (c := c) (now := now) (b := b) node with h | ⟨_, _, h⟩
  · rw [h]; omega
  · rw [W_perm h, W_cons]; omega

theorem insert_NB (hc : c.bucketFilter = ipFilter 2) (node : Node Val) (hnb : NB b)
    (hfresh : b.position node.key = none → ∀ n ∈ b.nodes, n.value ≠ node.value) :
    NB (b.insert c now node).1 := by
  intro s
  rcases insert_nodes (c := c) (now := now) (b := b) node with h | ⟨hf, hpos, h⟩
  · rw [h]; exact hnb s
  · rw [W_perm h, W_cons]
    rw [hc] at hf
    exact count_after_add 2 (by omega) node.value b.nodes hf (hfresh hpos) hnb node.key s

theorem applyPending_mono : Mono b (b.applyPending c now tick).1 := by
  intro q
  rcases applyPending_cases c now tick b with ⟨h, _⟩ | ⟨p, _, _, h⟩ |
    ⟨p, n0, rest, hp, _, _, hnodes, _, _, _, hpend, hperm, _⟩ | ⟨p, hp, _, _, h, _⟩
  · rw [h]; exact Nat.le_refl _
  · rw [h]; exact Nat.le_add_right _ _
  · unfold A
    rw [hpend, W_perm hperm, hnodes, hp, W_cons, W_cons]
    show W q rest + bit (q p.node.key p.node.value) + 0 ≤
      W q rest + bit (q n0.key n0.value) + bit (q p.node.key p.node.value)
    omega
  · rw [h]
    have := insert_A (c := c) (now := now) (b := { b with pending := none })
      { p.node with stamp := tick } q
    unfold A at this ⊢
    rw [hp]
    exact this

theorem applyPending_NB (hc : c.bucketFilter = ipFilter 2) (hnb : NB b)
    (hfresh : ∀ p, b.pending = some p → ∀ n ∈ b.nodes, n.value ≠ p.node.value) :
    NB (b.applyPending c now tick).1 := by
  rcases applyPending_cases c now tick b with ⟨h, _⟩ | ⟨p, _, _, h⟩ |
    ⟨p, n0, rest, hp, _, _, hnodes, _, hadm, _, _, hperm, _⟩ | ⟨p, hp, _, _, h, _⟩
  · rw [h]; exact hnb
  · rw [h]; exact hnb
  · intro s
    have hf := hadm.1
    rw [hc] at hf
    have := count_after_add 2 (by omega) p.node.value b.nodes hf (hfresh p hp) hnb p.node.key s
    rw [hnodes, W_cons] at this
    rw [W_perm hperm, W_cons]
    show W (inS s) rest + bit (inS s p.node.key p.node.value) ≤ 2
    omega
  · rw [h]
    exact insert_NB hc _ hnb (fun _ => hfresh p hp)

theorem updateStatus_mono (key : Nat) (conn : Bool) (dir : Option Bool) :
    Mono b (b.updateStatus c now tick key conn dir).1 ∧
      ∀ q, W q (b.updateStatus c now tick key conn dir).1.nodes ≤ W q b.nodes := by
  cases hpos : b.position key with
  | none =>
    rcases (updateStatus_none c now tick conn dir hpos).1 with h | ⟨p, st', hp, h⟩
    · rw [h]; exact ⟨Mono.refl b, fun _ => Nat.le_refl _⟩
    · rw [h]; exact ⟨fun q => by unfold A; rw [hp]; exact Nat.le_refl _, fun _ => Nat.le_refl _⟩
  | some pos =>
    obtain ⟨old, hold, _⟩ := Bucket.position_some hpos
    rw [(updateStatus_some hpos hold).1]
    have e : (usBucket b pos old conn).nodes = removeAt b.nodes pos := rfl
    have e' : ∀ q : KV, bit (q (usNode tick old conn dir).key (usNode tick old conn dir).value) =
        bit (q old.key old.value) := fun _ => rfl
    refine ⟨fun q => ?_, fun q => ?_⟩
    · have h1 := insert_A (c := c) (now := now) (b := usBucket b pos old conn) (usNode tick old conn dir) q
      have h2 := W_removeAt q b.nodes pos old hold
      have h3 : PW q (usBucket b pos old conn).pending ≤ PW q b.pending :=
        PW_le_of (fun p hp => by unfold usBucket at hp; split at hp <;> first | cases hp | exact hp)
      unfold A at h1 ⊢
      rw [e, e'] at h1
      omega
    · have h1 := insert_W (c := c) (now := now) (b := usBucket b pos old conn)
        (usNode tick old conn dir) q
      have h2 := W_removeAt q b.nodes pos old hold
      rw [e, e'] at h1
      omega

theorem removed_mono (pos : Nat) :
    Mono b (Bucket.fcpForRemoval { b with nodes := removeAt b.nodes pos } pos) :=
  fun q => Nat.add_le_add_right (W_removeAt_le q b.nodes pos) _

theorem removed_NB (pos : Nat) (hnb : NB b) :
    NB (Bucket.fcpForRemoval { b with nodes := removeAt b.nodes pos } pos) :=
  fun s => Nat.le_trans (W_removeAt_le _ b.nodes pos) (hnb s)

theorem updateValue_ex (key : Nat) (value : Val) :
    MonoEx key (some value) b (b.updateValue c key value).1 := by
  intro q hq
  have hq := hq value rfl
  rcases updateValue_cases c b key value with ⟨h, _⟩ | ⟨pos, node, _, h⟩ |
    ⟨pos, node, hn, hk, _, h⟩ | ⟨p, hp, hk, h⟩
  · rw [h]; exact Nat.le_refl _
  · rw [h]; exact removed_mono pos q
  · rw [h]
    unfold A
    show W q (b.nodes.set pos { node with value := value }) + PW q b.pending ≤ _
    rw [W_set q b.nodes pos node _ hn]
    show _ + bit (q node.key value) + _ ≤ _
    rw [hk, hq]
    exact Nat.add_le_add_right (W_removeAt_le q b.nodes pos) _
  · rw [h]
    unfold A
    rw [hp]
    show _ + bit (q p.node.key value) ≤ _
    rw [hk, hq]
    exact Nat.le_add_right _ _

theorem updateValue_NB (hc : c.bucketFilter = ipFilter 2) (key : Nat) (value : Val) (hnb : NB b)
    (hfresh : ∀ pos node, b.nodes[pos]? = some node → node.key = key →
      ∀ n ∈ removeAt b.nodes pos, n.value ≠ value) :
    NB (b.updateValue c key value).1 := by
  intro s
  rcases updateValue_cases c b key value with ⟨h, _⟩ | ⟨pos, node, _, h⟩ |
    ⟨pos, node, hn, hk, hf, h⟩ | ⟨p, _, _, h⟩
  · rw [h]; exact hnb s
  · rw [h]; exact removed_NB pos hnb s
  · rw [h]
    show W (inS s) (b.nodes.set pos { node with value := value }) ≤ 2
    rw [W_set _ b.nodes pos node _ hn]
    rw [hc] at hf
    exact count_after_add 2 (by omega) value (removeAt b.nodes pos) hf (hfresh pos node hn hk)
      (fun s => Nat.le_trans (W_removeAt_le _ _ _) (hnb s)) node.key s
  · rw [h]; exact hnb s

theorem remove_mono (key : Nat) : Mono b (b.remove c now tick key).1 := by
  rcases remove_cases c now tick b key with h | ⟨pos, _, _, _, h⟩
  · rw [h]; exact Mono.refl b
  · rw [h]; exact (removed_mono pos).trans applyPending_mono

theorem remove_NB (hc : c.bucketFilter = ipFilter 2) (key : Nat) (hnb : NB b)
    (hfresh : ∀ p, b.pending = some p → ∀ n ∈ b.nodes, n.value ≠ p.node.value) :
    NB (b.remove c now tick key).1 := by
  rcases remove_cases c now tick b key with h | ⟨pos, _, _, _, h⟩
  · rw [h]; exact hnb
  · rw [h]
    exact applyPending_NB hc (removed_NB pos hnb)
      (fun p hp n hn => hfresh p hp n ((removeAt_sublist _ _).subset hn))

end ops

/-- What the steps of a keyed table operation do to the counts of one bucket: nothing is added
except possibly the filed `(key, v)`, and the per-bucket subnet limit is kept.  Key uniqueness,
which makes "fresh key" mean "fresh value", comes from the structural invariant. -/
theorem _root_.Discv5.KB.BStep.ip {keyOf : Val → Nat} {c : Cfg Val} (hc : c.bucketFilter = ipFilter 2)
    {now tick key : Nat} {f : Option Val} {b b' : Bucket Val} (h : BStep c now tick key f b b')
    (hb : BInv c tick b) (hv : VB keyOf b) (hn : NB b) (hk : ∀ v, f = some v → key = keyOf v) :
    NB b' ∧ MonoEx key f b b' := by
  have pend : ∀ {b : Bucket Val} {tick}, BInv c tick b → VB keyOf b →
      ∀ p, b.pending = some p → ∀ n ∈ b.nodes, n.value ≠ p.node.value := fun hb hv p hp =>
    value_fresh ((VB_iff keyOf _).1 hv).1 (((VB_iff keyOf _).1 hv).2 p hp) (hb.pendingFresh p hp)
  induction h with
  | apply b => exact ⟨applyPending_NB hc hn (pend hb hv), applyPending_mono.ex _ _⟩
  | remove b => exact ⟨remove_NB hc key hn (pend hb hv), (remove_mono key).ex _ _⟩
  | status b conn dir =>
    have := updateStatus_mono (c := c) (now := now) (tick := tick) (b := b) key conn dir
    exact ⟨fun s => Nat.le_trans (this.2 (inS s)) (hn s), this.1.ex _ _⟩
  | insert b v st hpos =>
    refine ⟨insert_NB hc _ hn (fun _ => ?_),
      insert_ex { key := key, value := v, st := st, stamp := tick }⟩
    exact value_fresh ((VB_iff keyOf _).1 hv).1 (hk v rfl) (position_none_iff.1 hpos)
  | value b v =>
    refine ⟨updateValue_NB hc key v hn (fun pos node hn hkey => ?_), updateValue_ex key v⟩
    have hsub := removeAt_sublist b.nodes pos
    refine value_fresh (fun n hn => ((VB_iff keyOf _).1 hv).1 n (hsub.subset hn)) (hk v rfl) ?_
    rw [← hkey]
    exact key_not_mem_removeAt hb.keysNodup hn
  | weaken v _ ih =>
    obtain ⟨h1, h2⟩ := ih hb hv hn nofun
    exact ⟨h1, fun p _ => h2 p nofun⟩
  | comp s1 _ ih1 ih2 =>
    obtain ⟨a1, a2⟩ := ih1 hb hv hn hk
    obtain ⟨b1, b2⟩ := ih2 (s1.binv hb) (a2.vb hk hv) a1 hk
    exact ⟨b1, a2.trans b2⟩

end Discv5.KB.Ip
