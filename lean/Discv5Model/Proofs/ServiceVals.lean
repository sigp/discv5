/-
Value-level effect of the routing-table operations (`Model/KBucket.lean`, `Model/Closest.lean`):
a predicate `P key value` that holds of every stored and pending node is preserved by every
operation, provided it holds of the (key, value) the operation is asked to file.  Instantiating
`P` gives at once invariants ("every value is contactable") and provenance statements ("every
(key, value) of the new table is an old one or the inserted one").  The bucket-level half
(`BVals`) is in `KBucketLemmas`; `step_vals` is the table-level statement.
-/
import Discv5Model.Proofs.KBucketLemmas

namespace Discv5.KB

variable {V : Type} [DecidableEq V]
set_option linter.unusedSectionVars false

/-- every stored and pending node of the table satisfies `P key value` -/
def TVals (P : Nat → V → Prop) (t : Table V) : Prop := ∀ b ∈ t.buckets, BVals P b

theorem TVals.bucket {P : Nat → V → Prop} {t : Table V} (h : TVals P t) (i : Nat) :
    BVals P (t.bucket i) := by
  rcases t.bucket_mem_or_empty i with hm | he
  · exact h _ hm
  · rw [he]; exact bvals_empty P

theorem tvals_init (P : Nat → V → Prop) (localKey : Nat) : TVals P (Table.init localKey : Table V) := by
  intro b hb
  rw [List.eq_of_mem_replicate hb]
  exact bvals_empty P

theorem TVals.setBucket {P : Nat → V → Prop} {t : Table V} {i : Nat} {b : Bucket V}
    (h : TVals P t) (hb : BVals P b) : TVals P (t.setBucket i b) := by
  intro b' hb'
  rcases List.mem_or_eq_of_mem_set hb' with h1 | h1
  · exact h b' h1
  · rw [h1]; exact hb

theorem TVals.congr {P : Nat → V → Prop} {t t' : Table V} (h : TVals P t)
    (h2 : t'.buckets = t.buckets) : TVals P t' := by
  intro b hb; rw [h2] at hb; exact h b hb

theorem TVals.bump {P : Nat → V → Prop} {t : Table V} (h : TVals P t) : TVals P t.bump :=
  h.congr rfl

theorem TVals.mono {P Q : Nat → V → Prop} {t : Table V} (h : TVals P t)
    (hpq : ∀ k v, P k v → Q k v) : TVals Q t :=
  fun b hb => ⟨fun n hn => hpq _ _ ((h b hb).1 n hn), fun p hp => hpq _ _ ((h b hb).2 p hp)⟩

theorem applyAt_vals {P : Nat → V → Prop} {c : Cfg V} {now : Nat} {t : Table V} {i : Nat}
    (h : TVals P t) : TVals P (Table.applyAt c now t i) :=
  (h.setBucket (applyPending_vals (h.bucket i))).congr (Table.applyAt_buckets c now t i)

theorem bucketIndex_ne {localKey key i : Nat} (h : bucketIndex localKey key = some i) :
    key ≠ localKey := by
  intro e; subst e; rw [bucketIndex_self] at h; cases h

theorem Touch.vals {P : Nat → V → Prop} {c : Cfg V} {now key : Nat} {f : Option V} {i : Nat}
    {t t' : Table V} (ht : Touch c now key f i t t') (h : TVals P t)
    (hf : ∀ v, f = some v → P key v) : TVals P t' := by
  obtain ⟨b', hb, hs⟩ := ht.step
  exact (h.setBucket (hs.bvals hf (h.bucket i))).congr hb

/-- Every operation keeps `TVals P`, provided `P` holds of the (key, value) it is asked to file
(the local key is never filed). -/
theorem step_vals {P : Nat → V → Prop} {c : Cfg V} {t : Table V} {op : Op V} (h : TVals P t)
    (hop : ∀ key v, op.Files key v → key ≠ t.localKey → P key v) : TVals P (t.step c op) := by
  refine (Table.step_preserves (c := c) (op := op)
    (R := fun t' => t'.localKey = t.localKey ∧ TVals P t') ?_ ?_ ⟨rfl, h⟩).2
  · exact fun _ _ h h1 h2 _ => ⟨h1.trans h.1, h.2.congr h2⟩
  · intro t1 t' now key f i h ht hf
    exact ⟨ht.localKey.trans h.1, ht.vals h.2 fun v hv =>
      hop key v (hf v hv).1 (h.1 ▸ bucketIndex_ne (hf v hv).2.1)⟩

theorem closest_out_vals {P : Nat → V → Prop} {c : Cfg V} {now : Nat} {t : Table V} {target : Nat}
    (h : TVals P t) : ∀ n ∈ (t.closest c now target).2, P n.key n.value := by
  unfold Table.closest
  generalize bucketOrder (t.localKey ^^^ target) = l
  have : ∀ (l : List Nat) (acc : Table V × List (Node V)), TVals P acc.1 →
      (∀ n ∈ acc.2, P n.key n.value) →
      ∀ n ∈ (l.foldl (fun (acc : Table V × List (Node V)) i =>
        let t1 := Table.applyAt c now acc.1 i
        (t1, acc.2 ++ sortByDist target (t1.bucket i).nodes)) acc).2, P n.key n.value := by
    intro l
    induction l with
    | nil => intro acc _ h2; exact h2
    | cons i l ih =>
      intro acc h1 h2
      rw [List.foldl_cons]
      have h1' : TVals P (Table.applyAt c now acc.1 i) := applyAt_vals h1
      refine ih _ h1' ?_
      intro n hn
      rcases List.mem_append.mp hn with hn | hn
      · exact h2 n hn
      · have hm : n ∈ ((Table.applyAt c now acc.1 i).bucket i).nodes :=
          (List.mergeSort_perm _ _).mem_iff.mp hn
        exact (h1'.bucket i).1 n hm
  exact this l _ h.bump (by intro n hn; cases hn)

/-- `(key, value)` occurs in the table as a stored or pending node -/
def HasPair (t : Table V) (k : Nat) (v : V) : Prop :=
  ∃ b ∈ t.buckets, (∃ n ∈ b.nodes, n.key = k ∧ n.value = v) ∨
    (∃ p, b.pending = some p ∧ p.node.key = k ∧ p.node.value = v)

theorem tvals_hasPair (t : Table V) : TVals (HasPair t) t :=
  fun b hb => ⟨fun n hn => ⟨b, hb, Or.inl ⟨n, hn, rfl, rfl⟩⟩,
    fun p hp => ⟨b, hb, Or.inr ⟨p, hp, rfl, rfl⟩⟩⟩

theorem TVals.of_hasPair {P : Nat → V → Prop} {t : Table V} (h : TVals P t) {k : Nat} {v : V}
    (hp : HasPair t k v) : P k v := by
  obtain ⟨b, hb, ⟨n, hn, rfl, rfl⟩ | ⟨p, hp, rfl, rfl⟩⟩ := hp
  · exact (h b hb).1 n hn
  · exact (h b hb).2 p hp

theorem hasPair_key_mem {t : Table V} {k : Nat} {v : V} (h : HasPair t k v) : k ∈ t.allKeys := by
  obtain ⟨b, hb, h⟩ := h
  unfold Table.allKeys
  refine List.mem_flatMap.2 ⟨b, hb, ?_⟩
  rcases h with ⟨n, hn, rfl, _⟩ | ⟨p, hp, rfl, _⟩
  · exact List.mem_append_left _ (List.mem_map_of_mem hn)
  · rw [hp]; exact List.mem_append_right _ (List.mem_singleton.2 rfl)

theorem mem_allKeys_hasPair {t : Table V} {k : Nat} (h : k ∈ t.allKeys) : ∃ v, HasPair t k v := by
  unfold Table.allKeys at h
  obtain ⟨b, hb, hk⟩ := List.mem_flatMap.1 h
  rcases List.mem_append.1 hk with hk | hk
  · obtain ⟨n, hn, rfl⟩ := List.mem_map.1 hk
    exact ⟨n.value, b, hb, Or.inl ⟨n, hn, rfl, rfl⟩⟩
  · cases hp : b.pending with
    | none => rw [hp] at hk; cases hk
    | some p =>
      rw [hp] at hk
      simp only [List.mem_singleton] at hk
      exact ⟨p.node.value, b, hb, Or.inr ⟨p, hp, hk.symm, rfl⟩⟩

end Discv5.KB
