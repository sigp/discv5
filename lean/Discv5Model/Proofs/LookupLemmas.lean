/-
`Model/Lookup.lean`: the state of the running lookup is always the state of a `Model/Query.lean` history
(so every theorem about query histories applies to it), and the service component of a composed step is a
run of the service model on its own.  Both come from one description of the service loop, `pumpLoop_spec`:
the lookup moves along a history of `next` / `on_failure` calls, the service along inputs it generates
itself, and a result is `finishLookup` of where the two arrived.
-/
import Discv5Model.Model.Lookup
import Discv5Model.Proofs.QueryLemmas
import Discv5Model.Proofs.ServiceRun

namespace Discv5.Lookup

open Discv5.KB
open Discv5.Svc
open Discv5.Svc.Svc
open Discv5.Query (runQ stepQ withConfig Variant runQ_append requests emittedOf)

/-- The lookup's configuration under the static parameters `c`. -/
def qcfg (c : LCfg) (n : Nat) : Query.Config :=
  { parallelism := c.parallelism, numResults := n, peerTimeout := c.peerTimeout }

/-- `q` is the state a query reaches from its constructor along some history of `next` /
`on_success` / `on_failure` calls. -/
def IsHistory (c : LCfg) (q : Q) : Prop :=
  ∃ v n target known evs, q = runQ (withConfig v (qcfg c n) target known) evs

theorem IsHistory.init (c : LCfg) (v : Variant) (n target : Nat) (known : List (Nat × Bool)) :
    IsHistory c (withConfig v (qcfg c n) target known) := ⟨v, n, target, known, [], rfl⟩

theorem IsHistory.run {c : LCfg} {q : Q} (h : IsHistory c q) (evs' : List Query.Ev) : IsHistory c (runQ q evs') := by
  obtain ⟨v, n, target, known, evs, rfl⟩ := h
  exact ⟨v, n, target, known, evs ++ evs', (runQ_append _ _ _).symm⟩

theorem IsHistory.applyEffect {c : LCfg} {q : Q} (h : IsHistory c q) (e : QEffect) :
    IsHistory c (applyEffect c q e) := by
  cases e with
  | success src kept => exact h.run [.success src _]
  | failure p => exact h.run [.failure p]

theorem applyEffect_const (c : LCfg) (q : Q) (e : QEffect) :
    (applyEffect c q e).cfg = q.cfg ∧ (applyEffect c q e).variant = q.variant ∧
      (applyEffect c q e).target = q.target := by
  cases e with
  | success src kept => exact Query.stepQ_const q (.success src _)
  | failure p => exact Query.stepQ_const q (.failure p)

theorem IsHistory.parallelism {c : LCfg} {q : Q} (h : IsHistory c q) : q.cfg.parallelism = c.parallelism := by
  obtain ⟨v, n, target, known, evs, rfl⟩ := h
  rw [(Query.runQ_init_const v (qcfg c n) target known evs).1]; rfl

/-- In-flight requests of a history never exceed `max parallelism num_results`
(`Query.parallelism_bound` re-stated for the state itself). -/
theorem IsHistory.inflight {c : LCfg} {q : Q} (h : IsHistory c q) :
    q.peers.countP (fun e => e.state.isWaiting) ≤ max c.parallelism q.cfg.numResults := by
  obtain ⟨v, n, target, known, evs, rfl⟩ := h
  rw [(Query.runQ_init_const v (qcfg c n) target known evs).1]
  exact Query.inflight_le v (qcfg c n) target known evs

/-- The lookup `LSvc.step` constructs on `.lookup target numResults`, `qq` being the service's record of it. -/
def newQ (c : LCfg) (target : Nat) (numResults : Option Nat) (qq : Svc.Query) : Q :=
  let known := qq.untrusted.map fun r => (r.id, c.pred r)
  match numResults with
  | none => Query.withConfig .closest
      { parallelism := c.parallelism, numResults := Consts.MAX_NODES_PER_BUCKET, peerTimeout := c.peerTimeout }
      target known
  | some n => Query.withConfig .predicate
      { parallelism := c.parallelism, numResults := n, peerTimeout := c.peerTimeout } target known

theorem step_lookup_running (c : LCfg) (now : Nat) (k : LSvc) (target : Nat) (n : Option Nat)
    (h : k.q.isSome = true) : k.step c now (.lookup target n) = (k, [], none) := by
  simp only [LSvc.step, h, if_true]

theorem step_lookup_empty (c : LCfg) (now : Nat) (k : LSvc) (target : Nat) (n : Option Nat)
    (h : k.q.isSome = false) (hs : (k.svc.startQuery target).query = none) :
    k.step c now (.lookup target n) = ({ svc := k.svc.startQuery target, q := none }, [], some []) := by
  simp only [LSvc.step, h, hs, Bool.false_eq_true, if_false]

theorem step_lookup_start (c : LCfg) (now : Nat) (k : LSvc) (target : Nat) (n : Option Nat) (qq : Svc.Query)
    (h : k.q.isSome = false) (hs : (k.svc.startQuery target).query = some qq) :
    k.step c now (.lookup target n) = pump now { svc := k.svc.startQuery target, q := some (newQ c target n qq) } := by
  simp only [LSvc.step, h, hs, newQ, Bool.false_eq_true, if_false]
  cases n <;> rfl

theorem step_svc (c : LCfg) (now : Nat) (k : LSvc) (o : Oracle) (inp : Input) :
    k.step c now (.svc o inp) =
      ((pump now { svc := (k.svc.step o inp).1, q := match k.q, effectOf k.svc inp with
          | some q, some e => some (applyEffect c q e)
          | q, _ => q }).1,
       (k.svc.step o inp).2 ++ (pump now { svc := (k.svc.step o inp).1, q := match k.q, effectOf k.svc inp with
          | some q, some e => some (applyEffect c q e)
          | q, _ => q }).2.1,
       (pump now { svc := (k.svc.step o inp).1, q := match k.q, effectOf k.svc inp with
          | some q, some e => some (applyEffect c q e)
          | q, _ => q }).2.2) := rfl

/-- The lookup a step hands to the service loop and the service state the loop starts from: the
running lookup - after what the step's input means to it, if anything - or the lookup the step starts. -/
inductive Handed (c : LCfg) (k : LSvc) : LInput → Svc → Q → Prop
  | running (o : Oracle) (inp : Svc.Input) {q : Q} : k.q = some q →
      Handed c k (.svc o inp) (k.svc.step o inp).1 q
  | effect (o : Oracle) (inp : Svc.Input) {q : Q} (e : QEffect) : k.q = some q →
      Handed c k (.svc o inp) (k.svc.step o inp).1 (applyEffect c q e)
  | start (target : Nat) (n : Option Nat) {qq : Svc.Query} : k.q.isSome = false →
      (k.svc.startQuery target).query = some qq →
      Handed c k (.lookup target n) (k.svc.startQuery target) (newQ c target n qq)

/-- A step hands over a result only out of the service loop run on the lookup handed to it - or it is
the empty result of a lookup started on an empty table. -/
theorem step_result (c : LCfg) (now : Nat) (k : LSvc) (i : LInput) (found : List Rec)
    (h : (k.step c now i).2.2 = some found) :
    ((∃ t n, i = .lookup t n) ∧ found = [] ∧ (k.step c now i).1.q = none) ∨
    ∃ s0 q0, Handed c k i s0 q0 ∧ (k.step c now i).1 = (pump now { svc := s0, q := some q0 }).1 ∧
      (pump now { svc := s0, q := some q0 }).2.2 = some found := by
  cases i with
  | svc o inp =>
    rw [step_svc] at h ⊢
    cases hk : k.q with
    | none => rw [hk] at h; cases h
    | some q =>
      rw [hk] at h
      cases he : effectOf k.svc inp with
      | none => rw [he] at h; exact Or.inr ⟨_, _, .running o inp hk, rfl, h⟩
      | some e => rw [he] at h; exact Or.inr ⟨_, _, .effect o inp e hk, rfl, h⟩
  | lookup target n =>
    cases hr : k.q.isSome with
    | true => rw [step_lookup_running c now k target n hr] at h; cases h
    | false =>
      cases hs : (k.svc.startQuery target).query with
      | none =>
        rw [step_lookup_empty c now k target n hr hs] at h ⊢
        cases h
        exact Or.inl ⟨⟨target, n, rfl⟩, rfl, rfl⟩
      | some qq =>
        rw [step_lookup_start c now k target n qq hr hs] at h ⊢
        exact Or.inr ⟨_, _, .start target n hr hs, rfl, h⟩

/-- Where `find_enr` finds a record: in the routing table (a stored entry), or among the untrusted
records of the running lookup. -/
theorem findEnr_some {s : Svc} {id : Nat} {r : Rec} (h : (s.findEnr id).2 = some r) :
    (∃ st, (s.entry id).2 = .present r st) ∨
    (∃ q, (s.findEnr id).1.query = some q ∧ r ∈ q.untrusted ∧ r.id = id) := by
  unfold findEnr at h ⊢
  generalize s.entry id = x at h ⊢
  obtain ⟨s1, l⟩ := x
  cases l with
  | present v st => cases h; exact Or.inl ⟨st, rfl⟩
  | _ =>
    right
    simp only at h ⊢
    cases hq : s1.query with
    | none => rw [hq] at h; cases h
    | some q =>
      rw [hq] at h
      exact ⟨q, hq, List.mem_of_find?_eq_some h, by simpa using List.find?_some h⟩

/-- Inputs the service loop generates itself while it serves a lookup: the start of the lookup, a request
for a peer it selected, its end, a look-up of a record by id (`find_enr`, which is what the `WhoAreYou`
arm does to the state as well). -/
def IsInternal : Svc.Input → Prop
  | .queryEmit _ => True
  | .queryFinished => True
  | .whoAreYou _ _ => True
  | .startQuery _ => True
  | _ => False

/-- The service after a run of such inputs (they come with the empty oracle). -/
def internalRun (s : Svc) (l : List Svc.Input) : Svc := (s.run (l.map fun i => (({} : Oracle), i))).1

theorem internalRun_append (s : Svc) (a b : List Svc.Input) :
    internalRun s (a ++ b) = internalRun (internalRun s a) b := by
  unfold internalRun
  rw [List.map_append, Svc.run_append]

theorem internalRun_cons (s : Svc) (i : Svc.Input) (l : List Svc.Input) :
    internalRun s (i :: l) = internalRun (s.step {} i).1 l := rfl

theorem collect_spec : ∀ (ids : List Nat) (s : Svc) (u found : List Rec),
    (collect s u ids found).2.length ≤ found.length + ids.length ∧
    ∃ l : List Svc.Input, (∀ i ∈ l, IsInternal i) ∧ (collect s u ids found).1 = internalRun s l := by
  intro ids
  induction ids with
  | nil => intro s u found; exact ⟨by simp [collect], [], by simp, rfl⟩
  | cons id ids ih =>
    intro s u found
    unfold collect
    have hlen : ∀ {n : Nat} {r : Rec}, n ≤ (found ++ [r]).length + ids.length → n ≤ found.length + (id :: ids).length := by
      intro n r h; simp only [List.length_append, List.length_cons, List.length_nil] at h ⊢; omega
    have hlen' : ∀ {n : Nat}, n ≤ found.length + ids.length → n ≤ found.length + (id :: ids).length := by
      intro n h; simp only [List.length_cons]; omega
    split
    · split
      · exact ⟨hlen (ih s _ _).1, (ih s _ _).2⟩
      · exact ⟨hlen' (ih s _ _).1, (ih s _ _).2⟩
    · have h1 : (s.findEnr id).1 = (s.step {} (.whoAreYou id { v6 := false, sock := 0 })).1 := rfl
      generalize hz : s.findEnr id = z at h1
      obtain ⟨s1, known⟩ := z
      have hint : ∀ found', ∃ l : List Svc.Input, (∀ i ∈ l, IsInternal i) ∧
          (collect s1 u ids found').1 = internalRun s l := by
        intro found'
        obtain ⟨l, hl, he⟩ := (ih s1 u found').2
        exact ⟨.whoAreYou id { v6 := false, sock := 0 } :: l, List.forall_mem_cons.mpr ⟨trivial, hl⟩,
          by rw [internalRun_cons, ← h1]; exact he⟩
      cases known with
      | some r => exact ⟨hlen (ih s1 _ _).1, hint _⟩
      | none => exact ⟨hlen' (ih s1 _ _).1, hint _⟩

theorem finishLookup_length (s : Svc) (q : Q) : (finishLookup s q).2.length ≤ q.cfg.numResults := by
  have h := (collect_spec (Query.intoResult q) (s.step {} .queryFinished).1
    (match s.query with | some qq => qq.untrusted | none => []) []).1
  have hl : (Query.intoResult q).length ≤ q.cfg.numResults := by
    rw [Query.intoResult_length]; exact Nat.min_le_left _ _
  simp only [List.length_nil, Nat.zero_add] at h
  exact Nat.le_trans h hl

theorem finishLookup_internal (s : Svc) (q : Q) :
    ∃ l : List Svc.Input, (∀ i ∈ l, IsInternal i) ∧ (finishLookup s q).1 = internalRun s l := by
  obtain ⟨l, hl, he⟩ := (collect_spec (Query.intoResult q) (s.step {} .queryFinished).1
    (match s.query with | some qq => qq.untrusted | none => []) []).2
  exact ⟨.queryFinished :: l, List.forall_mem_cons.mpr ⟨trivial, hl⟩, by rw [internalRun_cons]; exact he⟩

/-- The peers `next` hands out while the service loop serves the lookup (whether or not the request
could then be sent). -/
def pumpPeers (now : Nat) : Nat → Svc → Q → List Nat
  | 0, _, _ => []
  | fuel + 1, s, q =>
    match Query.next q now with
    | (q1, .waiting (some p)) =>
      p :: (if (s.sendRpcQuery p).2.isEmpty then pumpPeers now fuel (s.sendRpcQuery p).1 (Query.onFailure q1 p)
            else pumpPeers now fuel (s.sendRpcQuery p).1 q1)
    | _ => []

/-- What the service loop does for the lookup in one go.  The lookup advances along a history `evs`
of `next` and `on_failure` calls that hands out `pumpPeers`, the service along inputs `l` it generates
itself; then either the lookup goes on, or it has finished and its result is collected. -/
theorem pumpLoop_spec (now : Nat) : ∀ (fuel : Nat) (s : Svc) (q : Q) (outs : List Out),
    ∃ (evs : List Query.Ev) (l : List Svc.Input), (∀ i ∈ l, IsInternal i) ∧
      requests q evs = pumpPeers now fuel s q ∧
      (((pumpLoop now fuel s q outs).1 = internalRun s l ∧
        (pumpLoop now fuel s q outs).2.1 = some (runQ q evs) ∧ (pumpLoop now fuel s q outs).2.2.2 = none) ∨
       ((pumpLoop now fuel s q outs).1 = (finishLookup (internalRun s l) (runQ q evs)).1 ∧
        (pumpLoop now fuel s q outs).2.1 = none ∧
        (pumpLoop now fuel s q outs).2.2.2 = some (finishLookup (internalRun s l) (runQ q evs)).2)) := by
  intro fuel
  induction fuel with
  | zero => intro s q outs; exact ⟨[], [], by simp, rfl, Or.inl ⟨rfl, rfl, rfl⟩⟩
  | succ fuel ih =>
    intro s q outs
    unfold pumpLoop pumpPeers
    have hq : ∀ evs, runQ q (.next now :: evs) = runQ (Query.next q now).1 evs := fun _ => rfl
    have hr : ∀ evs, requests q (.next now :: evs) =
        (emittedOf (some (Query.next q now).2)).toList ++ requests (Query.next q now).1 evs := fun _ => rfl
    generalize Query.next q now = r at hq hr
    obtain ⟨q1, st⟩ := r
    have hreq : requests q [.next now] = (emittedOf (some st)).toList := by rw [hr]; exact List.append_nil _
    cases st with
    | waiting op =>
      cases op with
      | none => exact ⟨[.next now], [], by simp, hreq, Or.inl ⟨rfl, by rw [hq]; rfl, rfl⟩⟩
      | some p =>
        dsimp only
        have h1 : (s.sendRpcQuery p).1 = (s.step {} (.queryEmit p)).1 := rfl
        by_cases he : (s.sendRpcQuery p).2.isEmpty = true
        · rw [if_pos he, if_pos he]
          obtain ⟨evs, l, hl, hreq, h⟩ := ih (s.sendRpcQuery p).1 (Query.onFailure q1 p) outs
          refine ⟨.next now :: .failure p :: evs, .queryEmit p :: l, List.forall_mem_cons.mpr ⟨trivial, hl⟩, ?_, ?_⟩
          · rw [hr, ← hreq]; rfl
          · rw [hq, internalRun_cons, ← h1]; exact h
        · rw [if_neg he, if_neg he]
          obtain ⟨evs, l, hl, hreq, h⟩ := ih (s.sendRpcQuery p).1 q1 (outs ++ (s.sendRpcQuery p).2)
          refine ⟨.next now :: evs, .queryEmit p :: l, List.forall_mem_cons.mpr ⟨trivial, hl⟩, ?_, ?_⟩
          · rw [hr, ← hreq]; rfl
          · rw [hq, internalRun_cons, ← h1]; exact h
    | waitingAtCapacity => exact ⟨[.next now], [], by simp, hreq, Or.inl ⟨rfl, by rw [hq]; rfl, rfl⟩⟩
    | finished => exact ⟨[.next now], [], by simp, hreq, Or.inr (by rw [hq]; exact ⟨rfl, rfl, rfl⟩)⟩

/-- `num_results` is that of the lookup handed to the loop: `next` / `on_failure` do not change it. -/
theorem pumpLoop_result (now : Nat) (fuel : Nat) (s : Svc) (q : Q) (outs : List Out) (found : List Rec)
    (h : (pumpLoop now fuel s q outs).2.2.2 = some found) :
    (pumpLoop now fuel s q outs).2.1 = none ∧ found.length ≤ q.cfg.numResults := by
  obtain ⟨evs, _, _, _, ⟨_, _, h3⟩ | ⟨_, h2, h3⟩⟩ := pumpLoop_spec now fuel s q outs <;> rw [h3] at h <;> cases h
  exact ⟨h2, by rw [← (Query.runQ_const q evs).1]; exact finishLookup_length _ _⟩

theorem pumpLoop_internal (now : Nat) (fuel : Nat) (s : Svc) (q : Q) (outs : List Out) :
    ∃ l : List Svc.Input, (∀ i ∈ l, IsInternal i) ∧ (pumpLoop now fuel s q outs).1 = internalRun s l := by
  obtain ⟨evs, l, hl, _, ⟨h1, _⟩ | ⟨h1, _⟩⟩ := pumpLoop_spec now fuel s q outs
  · exact ⟨l, hl, h1⟩
  · obtain ⟨l2, hl2, he⟩ := finishLookup_internal (internalRun s l) (runQ q evs)
    refine ⟨l ++ l2, fun i hi => ?_, by rw [h1, he, internalRun_append]⟩
    rcases List.mem_append.mp hi with h | h
    · exact hl i h
    · exact hl2 i h

theorem pump_internal (now : Nat) (k : LSvc) :
    ∃ l : List Svc.Input, (∀ i ∈ l, IsInternal i) ∧ (pump now k).1.svc = internalRun k.svc l := by
  unfold pump
  cases hq : k.q with
  | none => exact ⟨[], by simp, rfl⟩
  | some q => exact pumpLoop_internal now _ k.svc q []

theorem step_svc_internal (c : LCfg) (now : Nat) (k : LSvc) (o : Oracle) (inp : Svc.Input) :
    ∃ l : List Svc.Input, (∀ i ∈ l, IsInternal i) ∧
      (k.step c now (.svc o inp)).1.svc = internalRun (k.svc.step o inp).1 l := by
  rw [step_svc]
  exact pump_internal now _

theorem step_lookup_internal (c : LCfg) (now : Nat) (k : LSvc) (target : Nat) (n : Option Nat) :
    ∃ l : List Svc.Input, (∀ i ∈ l, IsInternal i) ∧
      (k.step c now (.lookup target n)).1.svc = internalRun k.svc l := by
  cases hr : k.q.isSome with
  | true => rw [step_lookup_running c now k target n hr]; exact ⟨[], by simp, rfl⟩
  | false =>
    have h0 : k.svc.startQuery target = (k.svc.step {} (.startQuery target)).1 := rfl
    have key : ∀ q, ∃ l : List Svc.Input, (∀ i ∈ l, IsInternal i) ∧
        (pump now { svc := k.svc.startQuery target, q := q }).1.svc = internalRun k.svc l := by
      intro q
      obtain ⟨l, hl, he⟩ := pump_internal now { svc := k.svc.startQuery target, q := q }
      exact ⟨.startQuery target :: l, List.forall_mem_cons.mpr ⟨trivial, hl⟩,
        by rw [internalRun_cons, ← h0]; exact he⟩
    cases hs : (k.svc.startQuery target).query with
    | none => rw [step_lookup_empty c now k target n hr hs]; exact key none
    | some qq => rw [step_lookup_start c now k target n qq hr hs]; exact key _

end Discv5.Lookup
