/-
One walk through all handler functions up to `stepM`, for any invariant of the monad state that each
primitive mutation keeps on its own.  Invariants that relate a value in hand to the state (a removed
call still to be re-armed) need their own walk.
-/
import Discv5Model.Proofs.HandlerBasics

namespace Discv5.H.RQ

/-- What an invariant `I` owes at the primitives of the handler; a field left out: `I` does not read
what the primitive writes.

`Emits`: what this use of the walk may report, at least (`plain`) all but `failed _ timeout` and
`response`; the timer path and `handleResponse` ask for those.  `GC`: what `I` says of one active
request: true of those found in the state, kept by what the handler does to a request between
removing and re-arming it (`gc_*`), all `activeInsert` may assume.  `GR`: what `I` asks of a request
to be made: true of the queued ones, owed by whoever makes a new one. -/
structure Leaves (c : Cfg) (Emits : Out → Prop) (I : St → Prop) (GC : Call → Prop)
    (GR : Contact → Nat → Prop := fun _ _ => True) : Prop where
  emit : ∀ o, Emits o → Ho I (emit o) (fun _ => I) := by exact fun _ _ => ⟨fun _ h => h⟩
  plain : ∀ o, (∀ rid, o ≠ .failed rid .timeout) → (∀ na rid rb, o ≠ .response na rid rb) → Emits o := by
    exact fun _ _ _ => trivial
  fresh : ∀ st f, I st → I ({ st.1 with fresh := f }, st.2) := by exact fun _ _ h => h
  exempt : ∀ st x, I st → I ({ st.1 with exempt := x }, st.2) := by exact fun _ _ h => h
  sessGetMut : ∀ na, Ho I (sessGetMut c na) (fun _ => I) := by
    exact fun _ => sessGetMut_elim (fun _ h => ⟨fun _ => h, fun _ _ _ _ => ⟨fun _ => h, fun _ => h⟩⟩)
  sessPut : ∀ na sess, Ho I (sessPut na sess) (fun _ => I) := by exact fun _ _ => ⟨fun _ h => h⟩
  found : ∀ st call, I st → call ∈ st.1.active → GC call := by exact fun _ _ _ _ => trivial
  activeInsert : ∀ call, GC call → Ho I (activeInsert c call) (fun _ => I) := by
    exact fun _ _ => ⟨fun _ h => h⟩
  erase : ∀ st call, call ∈ st.1.active → I st →
    I ({ st.1 with active := st.1.active.erase call }, st.2) := by exact fun _ _ _ h => h
  activeRemoveRequests : ∀ na, Ho I (activeRemoveRequests na) (fun _ => I) := by
    exact fun _ => ⟨fun _ h => h⟩
  replay : ∀ st old p, I st → I (replayStep c old p st.1, st.2) := by exact fun _ _ _ h => h
  push : ∀ st ct rid i b, GR ct rid → I st →
    I ({ st.1 with pending := SU.pushPending st.1.pending ct rid i b }, st.2) := by
    exact fun _ _ _ _ _ _ h => h
  queued : ∀ st e pr, I st → e ∈ st.1.pending → pr ∈ e.2 → GR pr.contact pr.rid := by
    exact fun _ _ _ _ _ _ => trivial
  take : ∀ st na, I st → I ({ st.1 with pending := st.1.pending.filter (·.1 != na) }, st.2) := by
    exact fun _ _ h => h
  chAdd : ∀ st na ch, I st → I ({ st.1 with
    challenges := st.1.challenges ++ [(na, ch, st.1.now + c.requestTimeout, st.1.tctr)],
    tctr := st.1.tctr + 1 }, st.2) := by exact fun _ _ _ h => h
  chDrop : ∀ st na, I st →
    I ({ st.1 with challenges := st.1.challenges.filter (·.1 != na) }, st.2) := by exact fun _ _ h => h
  gc_new : ∀ ct pkt rid i b ini, GR ct rid →
    GC { contact := ct, pkt := pkt, rid := rid, internal := i, body := b, initiating := ini } := by
    exact fun _ _ _ _ _ _ _ => trivial
  gc_retry : ∀ call, GC call → ¬ call.retries ≥ c.requestRetries →
    GC { call with retries := call.retries + 1 } := by exact fun _ _ _ => trivial
  gc_hs : ∀ call pkt ini, GC call → GC { call with pkt := pkt, hsSent := true, initiating := ini } := by
    exact fun _ _ _ _ => trivial
  gc_remaining : ∀ call r, GC call → GC { call with remaining := r } := by exact fun _ _ _ => trivial

/-- The cache primitives the timer path never reaches. -/
structure LeavesSess (c : Cfg) (I : St → Prop) : Prop where
  sessInsert : ∀ na sess, Ho I (sessInsert c na sess) (fun _ => I) := by exact fun _ _ => ⟨fun _ h => h⟩
  sessRemove : ∀ na, Ho I (sessRemove na) (fun _ => I) := by exact fun _ => ⟨fun _ h => h⟩
  sweep : ∀ st, I st →
    I ({ st.1 with sessions := (popExpired c.sessionTtl st.1.rt st.1.sessions).2 }, st.2) := by
    exact fun _ h => h

namespace Leaves
variable {c : Cfg} {Emits : Out → Prop} {I : St → Prop} {GC : Call → Prop}
  {GR : Contact → Nat → Prop} (L : Leaves c Emits I GC GR)
include L

theorem ho_emit (o : Out) (h1 : ∀ rid, o ≠ .failed rid .timeout) (h2 : ∀ na rid rb, o ≠ .response na rid rb) :
    Ho I (H.emit o) (fun _ => I) := L.emit o (L.plain o h1 h2)

theorem failed_ne {e : Err} (he : e ≠ .timeout) (rid : Nat) : Emits (.failed rid e) :=
  L.plain _ (fun _ h => he (Out.failed.inj h).2) nofun

theorem ho_freshNonce : Ho I (freshNonce c) (fun _ => I) := ⟨fun st h => L.fresh st _ h⟩
theorem ho_freshCd : Ho I (freshCd c) (fun _ => I) := ⟨fun st h => L.fresh st _ h⟩
theorem ho_freshEph : Ho I (freshEph c) (fun _ => I) := ⟨fun st h => L.fresh st _ h⟩
theorem ho_freshRid : Ho I (freshRid c) (fun _ => I) := ⟨fun st h => L.fresh st _ h⟩
theorem ho_encryptMessage (sess : Session) (m : Msg) : Ho I (encryptMessage c sess m) (fun _ => I) :=
  ⟨fun st h => L.fresh st _ h⟩
theorem ho_addExpected (a : Addr) : Ho I (addExpected a) (fun _ => I) :=
  Ho.modS _ (fun st h => by split <;> exact L.exempt st _ h)
theorem ho_removeExpected (a : Addr) : Ho I (removeExpected a) (fun _ => I) := ⟨fun st h => L.exempt st _ h⟩
theorem ho_send (na : NA) (p : Pkt) : Ho I (send na p) (fun _ => I) := L.ho_emit _ nofun nofun

theorem ho_removeExpiredSessions (S : LeavesSess c I) : Ho I (removeExpiredSessions c) (fun _ => I) :=
  ⟨fun st h => by
    rw [removeExpiredSessions_run]
    dsimp only
    split
    · exact S.sweep st h
    · exact (L.ho_emit (.expired _) nofun nofun).out _ (S.sweep st h)⟩

theorem ho_activeRemove {m : M (Option Call)} {p : Call → Bool}
    (elim : ∀ {Q : Option Call → St → Prop}, (∀ st, I st →
      (st.1.active.find? p = none → Q none st) ∧
      (∀ call, st.1.active.find? p = some call →
        Q (some call) ({ st.1 with active := st.1.active.erase call }, st.2))) → Ho I m Q) :
    Ho I m (fun r st => I st ∧ ∀ call, r = some call → GC call) :=
  elim (fun st h => ⟨fun _ => ⟨h, fun _ e => nomatch e⟩, fun call hf =>
    have hm := List.mem_of_find?_eq_some hf
    ⟨L.erase st call hm h, fun _ e => Option.some.inj e ▸ L.found st _ h hm⟩⟩)

theorem ho_activeRemoveByNonce (n : Nat) :
    Ho I (activeRemoveByNonce n) (fun r st => I st ∧ ∀ call, r = some call → GC call) :=
  L.ho_activeRemove activeRemoveByNonce_elim

theorem ho_activeRemoveRequest (na : NA) (rid : Nat) :
    Ho I (activeRemoveRequest na rid) (fun r st => I st ∧ ∀ call, r = some call → GC call) :=
  L.ho_activeRemove activeRemoveRequest_elim

theorem ho_replay (old : Nat) (p : Pkt) : Ho I (modS (replayStep c old p)) (fun _ => I) :=
  Ho.modS _ (fun st h => L.replay st old p h)

theorem ho_take (s0 : HState) (na : NA) :
    Ho (Pin s0 I) (setS { s0 with pending := s0.pending.filter (·.1 != na) }) (fun _ => I) :=
  Ho.setS_pin (fun s => { s with pending := s.pending.filter (·.1 != na) }) (fun st h => L.take st na h)

theorem ho_chDrop (s0 : HState) (na : NA) :
    Ho (Pin s0 I) (setS { s0 with challenges := s0.challenges.filter (·.1 != na) }) (fun _ => I) :=
  Ho.setS_pin (fun s => { s with challenges := s.challenges.filter (·.1 != na) })
    (fun st h => L.chDrop st na h)

theorem ho_chAdd (na : NA) (ch : Challenge) : Ho I (modS fun s => { s with
    challenges := s.challenges ++ [(na, ch, s.now + c.requestTimeout, s.tctr)], tctr := s.tctr + 1 })
    (fun _ => I) := Ho.modS _ (fun st h => L.chAdd st na ch h)

theorem ho_isAwaitingSession (na : NA) : Ho I (isAwaitingSession c na) (fun _ => I) := by
  unfold H.isAwaitingSession
  refine Ho.bind (L.sessGetMut _) (fun r => ?_)
  cases r with
  | some _ => exact Ho.pureI _
  | none => exact Ho.getS_pin (fun s => Ho.unpin (Ho.pureI _))

theorem ho_queueRequest (ct : Contact) (rid : Nat) (i : Bool) (b : Nat) (hg : GR ct rid) :
    Ho I (queueRequest ct rid i b) (fun r st => I st ∧ r = none) :=
  ⟨fun st h => by rw [queueRequest_run]; exact ⟨L.push st ct rid i b hg h, rfl⟩⟩

theorem ho_sendTail (ct : Contact) (rid : Nat) (i : Bool) (b : Nat) (pkt : Pkt) (ini : Bool)
    (hg : GR ct rid) : Ho I (sendTail c ct rid i b pkt ini) (fun r st => I st ∧ r = none) := by
  unfold sendTail
  exact Ho.bind (L.ho_addExpected _) (fun _ => Ho.bind (L.ho_send _ _) (fun _ =>
    Ho.bind (L.activeInsert _ (L.gc_new _ _ _ _ _ _ hg)) (fun _ => Ho.pure _ (fun _ h => ⟨h, rfl⟩))))

theorem ho_sendNow (ct : Contact) (rid : Nat) (i : Bool) (b : Nat) (hg : GR ct rid) :
    Ho I (sendNow c ct rid i b) (fun r st => I st ∧ r = none) := by
  unfold sendNow
  refine Ho.bind (L.sessGetMut _) (fun r => ?_)
  cases r with
  | some sess =>
    exact Ho.bind (L.ho_encryptMessage _ _) (fun _ => Ho.bind (L.sessPut _ _) (fun _ =>
      L.ho_sendTail _ _ _ _ _ _ hg))
  | none => exact Ho.bind L.ho_freshNonce (fun _ => L.ho_sendTail _ _ _ _ _ _ hg)

/-- The only error `sendRequest` returns is `selfRequest`. -/
theorem ho_sendRequest (ct : Contact) (rid : Nat) (i : Bool) (b : Nat) (hg : GR ct rid) :
    Ho I (sendRequest c ct rid i b) (fun r st => I st ∧ r ≠ some .timeout) := by
  rw [sendRequest_split]
  have weak : ∀ (r : Option Err) (st : St), I st ∧ r = none → I st ∧ r ≠ some .timeout :=
    fun r _ h => ⟨h.1, fun e => nomatch h.2.symm.trans e⟩
  have hq := (L.ho_queueRequest ct rid i b hg).post weak
  refine Ho.ite (fun _ => Ho.pure _ (fun _ h => ⟨h, fun e => nomatch e⟩))
    (fun _ => Ho.getS_pin (fun s => Ho.unpin (Ho.ite (fun _ => hq) (fun _ => ?_))))
  exact Ho.bind (L.ho_isAwaitingSession _) (fun _ => Ho.ite (fun _ => hq)
    (fun _ => (L.ho_sendNow ct rid i b hg).post weak))

theorem ho_sendPendingRequests (na : NA) : Ho I (sendPendingRequests c na) (fun _ => I) := by
  unfold H.sendPendingRequests
  refine Ho.getS_pin (fun s => ?_)
  -- `queued` is read off before the queue leaves the state
  refine Ho.pre (P' := fun st => (∀ e ∈ s.pending, ∀ pr ∈ e.2, GR pr.contact pr.rid) ∧ Pin s I st)
    (Ho.pre_pure (fun hs => ?_)) (fun st hp => ⟨fun e he pr => L.queued st e pr hp.2 (hp.1 ▸ he), hp⟩)
  refine Ho.bind (Q := fun _ => I) (L.ho_take s na)
    (fun _ => ⟨forEach_keeps _ _ (fun pr hpr => Ho.out (Q := fun _ => I) ?_)⟩)
  have hg : GR pr.contact pr.rid := by
    cases hf : s.pending.find? (·.1 == na) with
    | none => rw [hf] at hpr; nomatch hpr
    | some e => rw [hf] at hpr; exact hs e (List.mem_of_find?_eq_some hf) pr hpr
  refine Ho.bind (L.ho_sendRequest _ _ _ _ hg) (fun r => Ho.pre_pure_right (fun hr => ?_))
  cases r with
  | none => exact Ho.pureI _
  | some e =>
    exact Ho.iteI (L.emit _ (L.failed_ne (fun he => hr (congrArg some he)) _)) (Ho.pureI _)

theorem ho_failPending (na : NA) (e : Err) (he : ∀ rid, Emits (.failed rid e)) :
    Ho I (failPending na e) (fun _ => I) := by
  unfold failPending
  refine Ho.getS_pin (fun s => ?_)
  split
  · exact Ho.bind (L.ho_take s na)
      (fun _ => Ho.forEachI _ _ (fun pr => Ho.iteI (L.emit _ (he _)) (Ho.pureI _)))
  · exact Ho.unpin (Ho.pureI _)

theorem ho_failActive (na : NA) (e : Err) (he : ∀ rid, Emits (.failed rid e)) :
    Ho I (failActive na e) (fun _ => I) := by
  unfold failActive
  exact Ho.bind (L.activeRemoveRequests na) (fun calls => Ho.forEachI _ _ (fun call => Ho.ite
    (fun _ => Ho.bind (L.emit _ (he _)) (fun _ => L.ho_removeExpected _))
    (fun _ => L.ho_removeExpected _)))

theorem ho_failSession (na : NA) (e : Err) (rm : Bool) (he : ∀ rid, Emits (.failed rid e))
    (S : rm = true → LeavesSess c I) : Ho I (failSession c na e rm) (fun _ => I) := by
  rw [failSession_eq]
  exact Ho.bind (Ho.ite (fun h => Ho.bind (L.ho_removeExpiredSessions (S h)) (fun _ => (S h).sessRemove _))
      (fun _ => Ho.pureI _))
    (fun _ => Ho.bind (L.ho_failPending na e he) (fun _ => L.ho_failActive na e he))

theorem ho_failRequest (call : Call) (e : Err) (rm : Bool) (he : ∀ rid, Emits (.failed rid e))
    (S : rm = true → LeavesSess c I) : Ho I (failRequest c call e rm) (fun _ => I) := by
  unfold H.failRequest
  exact Ho.iteI (Ho.bind (L.emit _ (he _)) (fun _ => L.ho_failSession _ _ _ he S))
    (L.ho_failSession _ _ _ he S)

theorem ho_handleRequestTimeout (call : Call) (ht : ∀ rid, Emits (.failed rid .timeout)) (hc : GC call) :
    Ho I (handleRequestTimeout c call) (fun _ => I) := by
  unfold H.handleRequestTimeout
  exact Ho.ite
    (fun _ => Ho.bind (L.ho_removeExpected _) (fun _ => L.ho_failRequest call _ _ ht nofun))
    (fun hlt => Ho.bind (L.ho_send _ _) (fun _ => L.activeInsert _ (L.gc_retry call hc hlt)))

theorem ho_reencryptAll (l : List Call) (sess : Session) (acc : List (Nat × Pkt)) :
    Ho I (reencryptAll c l sess acc) (fun _ => I) := by
  induction l generalizing sess acc with
  | nil => exact Ho.pureI _
  | cons x xs ih => exact Ho.bind (L.ho_encryptMessage _ _) (fun _ => ih _ _)

theorem ho_replayActiveRequests (na : NA) (skip : Option Nat) :
    Ho I (replayActiveRequests c na skip) (fun _ => I) := by
  rw [replayActiveRequests_eq]
  refine Ho.bind (L.sessGetMut na) (fun r => ?_)
  cases r with
  | none => exact Ho.pureI _
  | some sess0 =>
    exact Ho.getS_pin (fun s => Ho.unpin (Ho.bind (L.ho_reencryptAll ..) (fun x => Ho.bind (L.sessPut ..)
      (fun _ => Ho.forEachI _ _ (fun y => Ho.bind (L.ho_replay ..) (fun _ => L.ho_send ..))))))

theorem ho_newSession (S : LeavesSess c I) (na : NA) (sess : Session) (skip : Option Nat) :
    Ho I (newSession c na sess skip) (fun _ => I) := by
  unfold H.newSession
  refine Ho.bind (L.ho_removeExpiredSessions S) (fun _ => Ho.bind (L.sessGetMut na) (fun r => ?_))
  cases r with
  | some cur =>
    exact Ho.bind (L.sessPut ..) (fun _ => Ho.bind (L.ho_replayActiveRequests ..) (fun _ =>
      L.ho_sendPendingRequests ..))
  | none => exact Ho.bind (S.sessInsert ..) (fun _ => L.ho_sendPendingRequests ..)

theorem ho_sendChallenge (na : NA) (nonce : Nat) (known : Option Rec) :
    Ho I (sendChallenge c na nonce known) (fun _ => I) := by
  unfold H.sendChallenge
  refine Ho.getS_pin (fun s => Ho.unpin (Ho.ite (fun _ => Ho.pureI _) (fun _ => ?_)))
  exact Ho.bind L.ho_freshCd (fun cd => Ho.bind (L.ho_addExpected _) (fun _ => Ho.bind (L.ho_send ..)
    (fun _ => L.ho_chAdd ..)))

theorem ho_handleChallenge (S : LeavesSess c I) (hq : ∀ ct rid, GR ct rid) (src : Addr) (nonce cd enrSeq : Nat) :
    Ho I (handleChallenge c src nonce cd enrSeq) (fun _ => I) := by
  unfold H.handleChallenge
  refine Ho.bind (L.ho_activeRemoveByNonce nonce) (fun r => Ho.pre_pure_right (fun hc => ?_))
  cases r with
  | none => exact Ho.pureI _
  | some call0 =>
    have hg := hc _ rfl
    have fail : Ho I (do H.removeExpected src; H.failRequest c call0 .invalidRemotePacket true; return ())
        (fun _ => I) :=
      Ho.bind (L.ho_removeExpected _) (fun _ => Ho.bind (L.ho_failRequest _ _ _ (L.failed_ne nofun) (fun _ => S))
        (fun _ => Ho.pureI _))
    refine Ho.ite (fun _ => Ho.bind (L.activeInsert _ hg) (fun _ => Ho.pureI _))
      (fun _ => Ho.ite (fun _ => fail) (fun _ => Ho.ite (fun _ => fail) (fun _ => ?_)))
    refine Ho.bind L.ho_freshEph (fun eph => Ho.bind L.ho_freshNonce (fun hsNonce => ?_))
    dsimp only
    split
    · exact Ho.bind (L.activeInsert _ (L.gc_hs _ _ _ hg)) (fun _ => Ho.bind (L.ho_send ..) (fun _ =>
        Ho.bind (L.ho_emit _ nofun nofun) (fun _ => L.ho_newSession S ..)))
    · exact Ho.bind (L.activeInsert _ (L.gc_hs _ _ _ hg)) (fun _ => Ho.bind (L.ho_send ..) (fun _ =>
        Ho.bind L.ho_freshRid (fun _ => Ho.bind (L.ho_sendRequest _ _ _ _ (hq ..)) (fun _ =>
          Ho.pre (L.ho_newSession S ..) (fun _ h => h.1)))))

theorem ho_handleResponse (na : NA) (rid : Nat) (rb : RespBody) (hr : Emits (.response na rid rb)) :
    Ho I (handleResponse c na rid rb) (fun _ => I) := by
  unfold H.handleResponse
  refine Ho.bind (L.ho_activeRemoveRequest na rid) (fun r => Ho.pre_pure_right (fun hc => ?_))
  cases r with
  | none => exact Ho.pureI _
  | some call =>
    have fin : Ho I (do H.removeExpected na.addr; H.emit (Out.response na rid rb)) (fun _ => I) :=
      Ho.bind (L.ho_removeExpected _) (fun _ => L.emit _ hr)
    have again : ∀ r, Ho I (do H.activeInsert c { call with remaining := r }; H.emit (Out.response na rid rb); pure ())
        (fun _ => I) :=
      fun r => Ho.bind (L.activeInsert _ (L.gc_remaining _ r (hc _ rfl))) (fun _ =>
        Ho.bind (L.emit _ hr) (fun _ => Ho.pureI _))
    dsimp only
    split
    · refine Ho.ite (fun _ => ?_) (fun _ => fin)
      split
      · exact Ho.ite (fun _ => again _) (fun _ => fin)
      · exact again _
    · exact fin

theorem ho_verifyLast (na : NA) (rb : RespBody) : Ho I (verifyLast na rb) (fun _ => I) := by
  unfold verifyLast
  split
  · split
    · exact Ho.iteI (Ho.bind (L.ho_emit _ nofun nofun) (fun _ => Ho.pureI _))
        (Ho.bind (L.ho_emit _ nofun nofun) (fun _ => Ho.pureI _))
    · exact Ho.pureI _
  · exact Ho.pureI _

theorem ho_verifyAwaited (S : LeavesSess c I) (na : NA) (rb : RespBody) :
    Ho I (verifyAwaited c na rb) (fun _ => I) :=
  Ho.bind (L.ho_verifyLast ..) (fun _ =>
    Ho.iteI (L.ho_failSession _ _ _ (L.failed_ne nofun) (fun _ => S)) (Ho.pureI _))

theorem ho_finishEnr (S : LeavesSess c I) (na : NA) (sess : Session) (rid : Nat) (rb : RespBody) :
    Ho I (finishEnr c na sess rid rb) (fun _ => I) := by
  unfold finishEnr
  refine Ho.bind (L.sessPut ..) (fun _ => Ho.bind (L.ho_activeRemoveRequest na rid) (fun r =>
    Ho.pre (P' := I) ?_ (fun _ hp => hp.1)))
  cases r with
  | none => exact L.ho_verifyAwaited S na rb
  | some _ => exact Ho.bind (L.ho_removeExpected _) (fun _ => L.ho_verifyAwaited S na rb)

theorem ho_handleMessage (S : LeavesSess c I) (na : NA) (nonce : Nat) (ct : Ct)
    (hr : ∀ rid rb, Emits (.response na rid rb)) : Ho I (handleMessage c na nonce ct) (fun _ => I) := by
  rw [handleMessage_eq]
  refine Ho.bind (L.sessGetMut na) (fun r => ?_)
  cases r with
  | none => exact L.ho_emit _ nofun nofun
  | some sess =>
    refine Ho.bind (L.sessPut ..) (fun _ => ?_)
    split
    · exact Ho.bind (L.ho_failSession _ _ _ (L.failed_ne nofun) (fun _ => S)) (fun _ =>
        Ho.getS_pin (fun s => Ho.unpin (Ho.iteI (L.ho_emit _ nofun nofun) (Ho.pureI _))))
    · exact Ho.pureI _
    · exact L.ho_emit _ nofun nofun
    · exact Ho.iteI (L.ho_finishEnr S ..) (L.ho_handleResponse _ _ _ (hr _ _))

theorem ho_handleAuthMessage (S : LeavesSess c I) (na : NA) (nonce : Nat) (sig : Sig) (eph : Nat)
    (record : Option Rec) (ct : Ct) (hr : ∀ rid rb, Emits (.response na rid rb)) :
    Ho I (handleAuthMessage c na nonce sig eph record ct) (fun _ => I) := by
  unfold H.handleAuthMessage
  refine Ho.getS_pin (fun s0 => ?_)
  split
  · exact Ho.unpin (Ho.pureI _)
  · refine Ho.bind (L.ho_chDrop s0 na) (fun _ => ?_)
    split
    · refine Ho.bind (L.ho_removeExpected _) (fun _ => Ho.ite (fun _ => ?_) (fun _ => ?_)) <;>
        exact Ho.bind (L.ho_emit _ nofun nofun) (fun _ =>
          Ho.bind (L.ho_newSession S ..) (fun _ => L.ho_handleMessage S _ _ _ hr))
    · exact L.ho_chAdd ..
    · exact Ho.bind (L.ho_removeExpected _) (fun _ => L.ho_failSession _ _ _ (L.failed_ne nofun) (fun _ => S))

theorem ho_fireTimers (ht : ∀ rid, Emits (.failed rid .timeout)) (target : Nat)
    (hclock : ∀ st d, d ≤ target → I st → I ({ st.1 with now := max st.1.now d }, st.2)) (fuel : Nat) :
    Ho I (fireTimers c target fuel) (fun _ => I) :=
  ⟨fireTimers_inv c target
    (fun st d call hp hnd =>
      have ⟨hd, hm, _⟩ := nextDue_spec hnd
      (L.ho_handleRequestTimeout call ht (L.found st call hp hm)).out _ (hclock _ d hd (L.erase st call hm hp)))
    (fun st d na hp hnd =>
      (Ho.bind (L.ho_removeExpected _) (fun _ => L.ho_sendPendingRequests na)).out _
        (hclock _ d (nextDue_spec hnd).1 (L.chDrop st na hp)))
    fuel⟩

theorem ho_stepM (S : LeavesSess c I) (hg : ∀ ct rid, GR ct rid) (e : Ev) (ht : ∀ dt, e = .adv dt → ∀ rid, Emits (.failed rid .timeout))
    (hr : ∀ src p, e = .dgram src p → (∀ n cd s, p ≠ .whoareyou n cd s) → ∀ na rid rb, Emits (.response na rid rb))
    (hnow : ∀ dt, e = .adv dt → ∀ st n, I st → I ({ st.1 with now := n }, st.2))
    (hrt : ∀ dt, e = .rtAdv dt → ∀ st, I st → I ({ st.1 with rt := st.1.rt + dt }, st.2)) :
    Ho I (stepM c e) (fun _ => I) := by
  cases e with
  | appRequest ct rid b =>
    refine Ho.bind (L.ho_sendRequest _ _ _ _ (hg ..)) (fun r => Ho.pre_pure_right (fun hr => ?_))
    cases r with
    | none => exact Ho.pureI _
    | some e => exact L.emit _ (L.failed_ne (fun he => hr (congrArg some he)) _)
  | appResponse na rid rb =>
    refine Ho.bind (L.sessGetMut na) (fun r => ?_)
    cases r with
    | none => exact Ho.pureI _
    | some sess =>
      exact Ho.bind (L.ho_encryptMessage ..) (fun _ => Ho.bind (L.sessPut ..) (fun _ => L.ho_send ..))
  | appWru na nonce known => exact L.ho_sendChallenge ..
  | dgram src p =>
    cases p with
    | whoareyou nonce cd enrSeq => exact L.ho_handleChallenge S hg ..
    | handshake srcId nonce sig eph record ct =>
      exact L.ho_handleAuthMessage S _ _ _ _ _ _ (hr _ _ rfl nofun _)
    | message srcId nonce ct => exact L.ho_handleMessage S _ _ _ (hr _ _ rfl nofun _)
  | adv dt =>
    have hn := hnow dt rfl
    exact Ho.getS_pin (fun s => Ho.unpin (Ho.bind
      (L.ho_fireTimers (ht dt rfl) _ (fun st _ _ h => hn st _ h) _) (fun _ => ⟨fun st h => hn st _ h⟩)))
  | rtAdv dt => exact ⟨fun st h => hrt dt rfl st h⟩

end Leaves

end Discv5.H.RQ
