/-
Lemmas about the RLP model.  `Header.decode` gets a slice-free form and a characterisation of the
inputs it accepts; the item decoders are described through those: never a panic, what an accepted
item looks like, and the round trip with the encoders.
-/
import Discv5Model.Model.Rlp
import Discv5Model.Proofs.BytesLemmas

namespace Discv5

/-! ### minimal big-endian encodings -/

theorem beMin_zero : beMin 0 = [] := by rw [beMin]; simp

theorem beMin_pos (n : Nat) (h : 0 < n) :
    beMin n = beMin (n / 256) ++ [UInt8.ofNat (n % 256)] := by
  rw [beMin]; simp [Nat.ne_of_gt h]

theorem beNat_beMin (n : Nat) : beNat (beMin n) = n := by
  induction n using Nat.strongRecOn with
  | _ n ih =>
    by_cases h : n = 0
    · subst h; rw [beMin_zero]; rfl
    · rw [beMin_pos n (by omega), beNat_append_singleton, ih (n / 256) (by omega), ofNat_mod_toNat]
      omega

theorem beMin_length_le (k n : Nat) (h : n < 256 ^ k) : (beMin n).length ≤ k := by
  induction k generalizing n with
  | zero =>
    have : n = 0 := by simpa using h
    subst this; rw [beMin_zero]; simp
  | succ k ih =>
    by_cases h0 : n = 0
    · subst h0; rw [beMin_zero]; simp
    · rw [beMin_pos n (by omega)]
      have : n / 256 < 256 ^ k := by
        rw [Nat.pow_succ] at h
        exact Nat.div_lt_of_lt_mul (by omega)
      have := ih _ this
      simp; omega

theorem beMin_length_pos (n : Nat) (h : 0 < n) : 0 < (beMin n).length := by
  rw [beMin_pos n h]; simp

theorem beMin_length_ge_two (n : Nat) (h : 256 ≤ n) : 2 ≤ (beMin n).length := by
  rw [beMin_pos n (by omega)]
  have := beMin_length_pos (n / 256) (by omega)
  simp; omega

theorem beMin_lt_256 (n : Nat) (h0 : 0 < n) (h : n < 256) : beMin n = [UInt8.ofNat n] := by
  rw [beMin_pos n h0, show n / 256 = 0 by omega, beMin_zero, show n % 256 = n by omega]; rfl

theorem beMin_head (n : Nat) (h : 0 < n) : ∃ d tl, beMin n = d :: tl ∧ d ≠ 0 := by
  induction n using Nat.strongRecOn with
  | _ n ih =>
    by_cases hlt : n < 256
    · refine ⟨UInt8.ofNat n, [], beMin_lt_256 n h hlt, ?_⟩
      intro hz
      have := congrArg UInt8.toNat hz
      rw [UInt8.toNat_ofNat_of_lt' hlt] at this
      simp at this; omega
    · obtain ⟨d, tl, he, hd⟩ := ih (n / 256) (by omega) (by omega)
      exact ⟨d, tl ++ [UInt8.ofNat (n % 256)], by rw [beMin_pos n h, he]; rfl, hd⟩

namespace Rlp

@[simp] theorem getNextByte_nil : getNextByte [] = .err .inputTooShort := rfl
@[simp] theorem getNextByte_cons (b : UInt8) (tl : Bytes) : getNextByte (b :: tl) = .ok b := rfl

theorem advance_ok (buf : Bytes) (n : Nat) (h : n ≤ buf.length) :
    advance buf n = .ok (buf.drop n) := sliceFrom_ok _ _ h

@[simp] theorem advance_cons_one (b : UInt8) (tl : Bytes) : advance (b :: tl) 1 = .ok tl := by
  rw [advance_ok _ _ (by simp)]; rfl

theorem staticLeftPad_eq (n : Nat) (data : Bytes) :
    staticLeftPad n data =
      if data.length > n then .err .overflow else
      match data with
      | [] => .ok 0
      | d :: _ => if d = 0 then .err .leadingZero else .ok (beNat data) := by
  unfold staticLeftPad
  cases data with
  | nil => simp
  | cons d tl => simp [index]

theorem staticLeftPad_ne_panic (n : Nat) (data : Bytes) : staticLeftPad n data ≠ .panic := by
  rw [staticLeftPad_eq]
  split
  · simp
  · split
    · simp
    · split <;> simp

theorem staticLeftPad_beMin (k x : Nat) (h : x < 256 ^ k) : staticLeftPad k (beMin x) = .ok x := by
  rw [staticLeftPad_eq, if_neg (by have := beMin_length_le k x h; omega)]
  by_cases h0 : x = 0
  · subst h0; rw [beMin_zero]
  · obtain ⟨d, tl, he, hd⟩ := beMin_head x (by omega)
    have := beNat_beMin x
    rw [he] at this ⊢
    simp [hd, this]

theorem staticLeftPad_lt (k : Nat) (data : Bytes) (v : Nat) (h : staticLeftPad k data = .ok v) :
    v < 256 ^ k := by
  rw [staticLeftPad_eq] at h
  by_cases hl : data.length > k
  · rw [if_pos hl] at h; simp at h
  · rw [if_neg hl] at h
    cases data with
    | nil =>
      simp at h; subst h; exact Nat.pow_pos (by omega)
    | cons d tl =>
      simp only at h
      by_cases hd : d = 0
      · rw [if_pos hd] at h; simp at h
      · rw [if_neg hd] at h
        simp only [Res.ok.injEq] at h
        subst h
        have h1 := beNat_lt (d :: tl)
        have h2 : 256 ^ (d :: tl).length ≤ 256 ^ k := Nat.pow_le_pow_right (by omega) (by omega)
        omega

theorem Header.finish_ne_panic (h : Header) (buf : Bytes) : Header.finish h buf ≠ .panic :=
  Res.ite_ne_panic (Res.err_ne_panic _) (Res.ok_ne_panic _)

theorem Header.finish_ok (h : Header) (buf : Bytes) (hfit : h.len ≤ buf.length) :
    Header.finish h buf = .ok (h, buf) :=
  if_neg (by omega)

theorem Header.finish_inv (h : Header) (buf : Bytes) (x : Header × Bytes)
    (hx : Header.finish h buf = .ok x) : x = (h, buf) ∧ h.len ≤ buf.length := by
  obtain ⟨hl, hx⟩ := Res.ite_err_eq_ok hx
  cases hx
  exact ⟨rfl, by omega⟩

/-! ### `Header::decode` without checked slices -/

/-- The long-form branch of `Header::decode`: `lol` bytes hold the payload length. -/
def longHeader (list : Bool) (lol : Nat) (tl : Bytes) : Res Err (Header × Bytes) :=
  if tl.length < lol then .err .inputTooShort else do
  let pl ← staticLeftPad 8 (tl.take lol)
  if pl < 56 then .err .nonCanonicalSize else Header.finish ⟨list, pl⟩ (tl.drop lol)

/-- The single-byte-string branch (`0x81`). -/
def oneHeader (tl : Bytes) : Res Err (Header × Bytes) :=
  match tl with
  | [] => .err .inputTooShort
  | nb :: _ => if nb.toNat < 0x80 then .err .nonCanonicalSingleByte else Header.finish ⟨false, 1⟩ tl

theorem Header.decode_nil : Header.decode [] = .err .inputTooShort := rfl

theorem Header.decode_cons (b : UInt8) (tl : Bytes) :
    Header.decode (b :: tl) =
      if b.toNat < 0x80 then Header.finish ⟨false, 1⟩ (b :: tl)
      else if b.toNat ≤ 0xB7 then
        (if b.toNat - 0x80 = 1 then oneHeader tl else Header.finish ⟨false, b.toNat - 0x80⟩ tl)
      else if b.toNat ≤ 0xBF ∨ 0xF8 ≤ b.toNat then
        longHeader (decide (0xF8 ≤ b.toNat))
          (b.toNat - (if decide (0xF8 ≤ b.toNat) then 0xF7 else 0xB7)) tl
      else Header.finish ⟨true, b.toNat - 0xC0⟩ tl := by
  unfold Header.decode
  simp only [getNextByte_cons, Res.ok_bind, advance_cons_one]
  by_cases h1 : b.toNat < 0x80
  · rw [if_pos h1, if_pos h1]
  rw [if_neg h1, if_neg h1]
  by_cases h2 : b.toNat ≤ 0xB7
  · rw [if_pos h2, if_pos h2]
    by_cases h3 : b.toNat - 0x80 = 1
    · rw [if_pos h3, if_pos h3, h3]
      cases tl <;> rfl
    · rw [if_neg h3, if_neg h3]
  rw [if_neg h2, if_neg h2]
  by_cases h3 : b.toNat ≤ 0xBF ∨ 0xF8 ≤ b.toNat
  · rw [if_pos h3, if_pos h3]
    unfold longHeader
    generalize b.toNat - (if decide (0xF8 ≤ b.toNat) then 0xF7 else 0xB7) = lol
    by_cases hl : tl.length < lol
    · rw [if_pos hl, if_pos hl]
    · rw [if_neg hl, if_neg hl, slice_ok _ _ _ (Nat.zero_le _) (by omega), Res.ok_bind,
        advance_ok _ _ (by omega), Res.ok_bind]
      rfl
  · rw [if_neg h3, if_neg h3]

theorem oneHeader_ne_panic (tl : Bytes) : oneHeader tl ≠ .panic := by
  cases tl with
  | nil => exact Res.err_ne_panic _
  | cons nb tl' => exact Res.ite_ne_panic (Res.err_ne_panic _) (Header.finish_ne_panic _ _)

theorem longHeader_ne_panic (list : Bool) (lol : Nat) (tl : Bytes) :
    longHeader list lol tl ≠ .panic :=
  Res.ite_ne_panic (Res.err_ne_panic _) <|
    Res.bind_ne_panic (staticLeftPad_ne_panic _ _) fun _ _ =>
      Res.ite_ne_panic (Res.err_ne_panic _) (Header.finish_ne_panic _ _)

theorem Header.decode_ne_panic (buf : Bytes) : Header.decode buf ≠ .panic := by
  cases buf with
  | nil => exact Res.err_ne_panic _
  | cons b tl =>
    rw [Header.decode_cons]
    exact Res.ite_ne_panic (Header.finish_ne_panic _ _) <|
      Res.ite_ne_panic (Res.ite_ne_panic (oneHeader_ne_panic _) (Header.finish_ne_panic _ _)) <|
      Res.ite_ne_panic (longHeader_ne_panic _ _ _) (Header.finish_ne_panic _ _)

/-! ### the inputs `Header::decode` accepts -/

/-- The inputs `Header::decode` accepts, with the header and the buffer it returns for each:
* a single byte below `0x80`: a one-byte string, nothing consumed;
* `code + len` with `len < 56`, where `code` is `0x80` for a string and `0xC0` for a list (a string
  of one byte below `0x80` must not use this form);
* `code' + |lenB| ‖ lenB`, where `code'` is `0xB7` resp. `0xF7` and `lenB` holds the payload
  length `pl ≥ 56` in 1 to 8 big-endian bytes without a leading zero (`static_left_pad::<8>`).
In every case the payload fits the returned buffer. -/
inductive Header.Accepts : Bytes → Header → Bytes → Prop
  | single (b : UInt8) (tl : Bytes) (hb : b.toNat < 0x80) : Accepts (b :: tl) ⟨false, 1⟩ (b :: tl)
  | short (list : Bool) (b : UInt8) (len : Nat) (rest : Bytes)
      (hb : b.toNat = (if list then 0xC0 else 0x80) + len) (hlen : len < 56)
      (hfit : len ≤ rest.length)
      (h1 : list = false → len = 1 → ∃ x tl, rest = x :: tl ∧ 0x80 ≤ x.toNat) :
      Accepts (b :: rest) ⟨list, len⟩ rest
  | long (list : Bool) (b : UInt8) (lenB : Bytes) (pl : Nat) (rest : Bytes)
      (hb : b.toNat = (if list then 0xF7 else 0xB7) + lenB.length) (h0 : 0 < lenB.length)
      (h8 : lenB.length ≤ 8) (hpad : staticLeftPad 8 lenB = .ok pl) (h56 : 56 ≤ pl)
      (hfit : pl ≤ rest.length) :
      Accepts (b :: (lenB ++ rest)) ⟨list, pl⟩ rest

theorem Header.decode_eq_ok (buf : Bytes) (h : Header) (rest : Bytes) :
    Header.decode buf = .ok (h, rest) ↔ Header.Accepts buf h rest := by
  constructor
  · intro hd
    cases buf with
    | nil => exact nomatch hd
    | cons b tl =>
      rw [Header.decode_cons] at hd
      by_cases h1 : b.toNat < 0x80
      · rw [if_pos h1] at hd
        cases (Header.finish_inv _ _ _ hd).1
        exact .single b tl h1
      rw [if_neg h1] at hd
      by_cases h2 : b.toNat ≤ 0xB7
      · rw [if_pos h2] at hd
        have hb : b.toNat = (if false = true then 0xC0 else 0x80) + (b.toNat - 0x80) := by
          rw [if_neg (by decide)]; omega
        by_cases h3 : b.toNat - 0x80 = 1
        · rw [if_pos h3] at hd
          cases tl with
          | nil => exact nomatch hd
          | cons nb tl' =>
            obtain ⟨hnb, hd⟩ := Res.ite_err_eq_ok hd
            cases (Header.finish_inv _ _ _ hd).1
            exact .short false b 1 _ (h3 ▸ hb) (by omega) (by simp)
              fun _ _ => ⟨nb, tl', rfl, by omega⟩
        · rw [if_neg h3] at hd
          obtain ⟨hx, hf⟩ := Header.finish_inv _ _ _ hd
          cases hx
          exact .short false b _ _ hb (by omega) hf fun _ h => absurd h h3
      rw [if_neg h2] at hd
      by_cases h3 : b.toNat ≤ 0xBF ∨ 0xF8 ≤ b.toNat
      · rw [if_pos h3] at hd
        generalize hlist : decide (0xF8 ≤ b.toNat) = list at hd
        have hblt := b.toNat_lt
        have hlol : b.toNat = (if list then 0xF7 else 0xB7) +
            (b.toNat - (if list then 0xF7 else 0xB7)) ∧
            0 < b.toNat - (if list then 0xF7 else 0xB7) ∧
            b.toNat - (if list then 0xF7 else 0xB7) ≤ 8 := by
          subst hlist
          by_cases hF : 0xF8 ≤ b.toNat
          · simp only [hF, decide_true, if_true]; omega
          · simp only [hF, decide_false, Bool.false_eq_true, if_false]; omega
        generalize b.toNat - (if list then 0xF7 else 0xB7) = lol at hd hlol
        obtain ⟨hl, hd⟩ := Res.ite_err_eq_ok hd
        obtain ⟨pl, hpad, hd⟩ := Res.bind_eq_ok.mp hd
        obtain ⟨h56, hd⟩ := Res.ite_err_eq_ok hd
        obtain ⟨hx, hf⟩ := Header.finish_inv _ _ _ hd
        cases hx
        have hlen : (tl.take lol).length = lol := by rw [List.length_take]; omega
        have := Header.Accepts.long list b (tl.take lol) pl (tl.drop lol) (by rw [hlen]; exact hlol.1)
          (by omega) (by omega) hpad (by omega) hf
        rwa [List.take_append_drop] at this
      · rw [if_neg h3] at hd
        obtain ⟨hx, hf⟩ := Header.finish_inv _ _ _ hd
        cases hx
        exact .short true b (b.toNat - 0xC0) _ (by rw [if_pos rfl]; omega) (by omega) hf
          (fun h => nomatch h)
  · intro ha
    cases ha with
    | single b tl hb => rw [Header.decode_cons, if_pos hb]; exact Header.finish_ok _ _ (by simp)
    | short list b len rest hb hlen hfit h1 =>
      rw [Header.decode_cons]
      cases list with
      | false =>
        have hb : b.toNat = 0x80 + len := hb
        rw [if_neg (by omega), if_pos (by omega), hb, Nat.add_sub_cancel_left]
        by_cases hone : len = 1
        · obtain ⟨x, tl, rfl, hx⟩ := h1 rfl hone
          rw [if_pos hone, oneHeader, if_neg (by omega), hone]
          exact Header.finish_ok _ _ (by simp)
        · rw [if_neg hone]; exact Header.finish_ok _ _ hfit
      | true =>
        have hb : b.toNat = 0xC0 + len := hb
        rw [if_neg (by omega), if_neg (by omega), if_neg (by omega), hb, Nat.add_sub_cancel_left]
        exact Header.finish_ok _ _ hfit
    | long list b lenB pl rest hb h0 h8 hpad h56 hfit =>
      have hcode : decide (0xF8 ≤ b.toNat) = list ∧ ¬ b.toNat ≤ 0xB7 ∧
          (b.toNat ≤ 0xBF ∨ 0xF8 ≤ b.toNat) := by
        cases list with
        | false => have hb : b.toNat = 0xB7 + lenB.length := hb; simp; omega
        | true => have hb : b.toNat = 0xF7 + lenB.length := hb; simp; omega
      rw [Header.decode_cons, if_neg (by omega), if_neg hcode.2.1, if_pos hcode.2.2, hcode.1, hb,
        Nat.add_sub_cancel_left, longHeader, if_neg (by simp), List.take_left, hpad, Res.ok_bind,
        if_neg (by omega), List.drop_left]
      exact Header.finish_ok _ _ hfit

/-- `0 < k + h.len`: header and payload take at least one byte, so every item consumes input. -/
theorem Header.decode_spec (buf : Bytes) (h : Header) (rest : Bytes)
    (hd : Header.decode buf = .ok (h, rest)) :
    h.len ≤ rest.length ∧ ∃ k, rest = buf.drop k ∧ k ≤ buf.length ∧ 0 < k + h.len := by
  cases (Header.decode_eq_ok _ _ _).mp hd with
  | single b tl hb => exact ⟨by simp, 0, rfl, by simp, by simp⟩
  | short list b len rest hb hlen hfit h1 => exact ⟨hfit, 1, rfl, by simp, by omega⟩
  | long list b lenB pl rest hb h0 h8 hpad h56 hfit =>
    exact ⟨hfit, 1 + lenB.length, by simp [Nat.add_comm 1], by simp; omega, by omega⟩

theorem Header.decode_list_consumes (buf : Bytes) (h : Header) (rest : Bytes)
    (hd : Header.decode buf = .ok (h, rest)) (hl : h.list = true) : rest.length < buf.length := by
  cases (Header.decode_eq_ok _ _ _).mp hd with
  | single b tl hb => exact nomatch hl
  | short list b len rest hb hlen hfit h1 => simp
  | long list b lenB pl rest hb h0 h8 hpad h56 hfit => simp; omega

theorem Header.decode_append (buf t : Bytes) (h : Header) (rest : Bytes)
    (hd : Header.decode buf = .ok (h, rest)) :
    Header.decode (buf ++ t) = .ok (h, rest ++ t) := by
  refine (Header.decode_eq_ok _ _ _).mpr ?_
  cases (Header.decode_eq_ok _ _ _).mp hd with
  | single b tl hb => exact .single b (tl ++ t) hb
  | short list b len rest hb hlen hfit h1 =>
    refine .short list b len (rest ++ t) hb hlen (by simp; omega) fun hl h => ?_
    obtain ⟨x, tl, rfl, hx⟩ := h1 hl h
    exact ⟨x, tl ++ t, rfl, hx⟩
  | long list b lenB pl rest hb h0 h8 hpad h56 hfit =>
    rw [List.cons_append, List.append_assoc]
    exact .long list b lenB pl (rest ++ t) hb h0 h8 hpad h56 (by simp; omega)

/-! ### `Header::encode` / `length_of_length` -/

theorem encodeHeader_length (list : Bool) (len : Nat) :
    (encodeHeader list len).length = lengthOfLength len := by
  unfold encodeHeader lengthOfLength
  split <;> simp <;> omega

theorem encodeHeader_ne_nil (list : Bool) (len : Nat) : encodeHeader list len ≠ [] := by
  unfold encodeHeader; split <;> simp

/-- `Header::decode` inverts `Header::encode` (for a single-byte string the byte that follows must
not be below `0x80`: such a byte is encoded without a header). -/
theorem Header.decode_encodeHeader (list : Bool) (len : Nat) (rest : Bytes) (hlen : len < 2 ^ 64)
    (hfit : len ≤ rest.length)
    (h1 : list = false → len = 1 → ∃ x tl, rest = x :: tl ∧ 0x80 ≤ x.toNat) :
    Header.decode (encodeHeader list len ++ rest) = .ok (⟨list, len⟩, rest) := by
  refine (Header.decode_eq_ok _ _ _).mpr ?_
  unfold encodeHeader
  by_cases hs : len < 56
  · rw [if_pos hs]
    refine .short list _ len rest (UInt8.toNat_ofNat_of_lt' (show _ < 256 from ?_)) hs hfit h1
    cases list <;> simp <;> omega
  · rw [if_neg hs]
    have hk8 : (beMin len).length ≤ 8 := beMin_length_le 8 len hlen
    exact .long list _ (beMin len) len rest
      (UInt8.toNat_ofNat_of_lt' (show _ < 256 by cases list <;> simp <;> omega))
      (beMin_length_pos len (by omega)) hk8 (staticLeftPad_beMin 8 len hlen) (by omega) hfit

/-! ### byte strings -/

/-- `decode_bytes` without the checked slices: `Header::decode` has already checked that the
payload fits the buffer. -/
theorem decodeBytes_eq (buf : Bytes) (isList : Bool) :
    decodeBytes buf isList = (do
      let (h, r) ← Header.decode buf
      if h.list ≠ isList then .err (if isList then .unexpectedString else .unexpectedList)
      else .ok (r.take h.len, r.drop h.len)) := by
  unfold decodeBytes
  cases hd : Header.decode buf with
  | err e => rfl
  | panic => rfl
  | ok x =>
    obtain ⟨h, r⟩ := x
    have hfit := (Header.decode_spec _ _ _ hd).1
    simp only [Res.ok_bind]
    by_cases hl : h.list ≠ isList
    · rw [if_pos hl, if_pos hl]
    · rw [if_neg hl, if_neg hl, slice_ok _ _ _ (Nat.zero_le _) hfit, Res.ok_bind,
        advance_ok _ _ hfit, Res.ok_bind]
      rfl

theorem decodeBytes_ne_panic (buf : Bytes) (isList : Bool) : decodeBytes buf isList ≠ .panic := by
  rw [decodeBytes_eq]
  refine Res.bind_ne_panic (Header.decode_ne_panic buf) ?_
  rintro ⟨h, r⟩ _
  exact Res.ite_ne_panic (Res.err_ne_panic _) (Res.ok_ne_panic _)

theorem decodeBytes_inv (buf : Bytes) (isList : Bool) (bytes rest : Bytes)
    (hd : decodeBytes buf isList = .ok (bytes, rest)) :
    ∃ h r, Header.decode buf = .ok (h, r) ∧ h.list = isList ∧ h.len ≤ r.length ∧
      bytes = r.take h.len ∧ rest = r.drop h.len := by
  rw [decodeBytes_eq] at hd
  obtain ⟨⟨h, r⟩, hh, hd⟩ := Res.bind_eq_ok.mp hd
  obtain ⟨hl, hd⟩ := Res.ite_err_eq_ok hd
  cases hd
  exact ⟨h, r, hh, Decidable.not_not.mp hl, (Header.decode_spec _ _ _ hh).1, rfl, rfl⟩

theorem decodeBytes_of_header (buf : Bytes) (isList : Bool) (h : Header) (r : Bytes)
    (hh : Header.decode buf = .ok (h, r)) (hl : h.list = isList) :
    decodeBytes buf isList = .ok (r.take h.len, r.drop h.len) := by
  rw [decodeBytes_eq, hh]
  exact if_neg (fun hn => hn hl)

/-- Every decoded item consumes at least one byte (termination of the item loops). -/
theorem decodeBytes_consumes (buf : Bytes) (isList : Bool) (bytes rest : Bytes)
    (hd : decodeBytes buf isList = .ok (bytes, rest)) : rest.length < buf.length := by
  obtain ⟨h, r, hh, _, hfit, _, rfl⟩ := decodeBytes_inv _ _ _ _ hd
  obtain ⟨_, k, rfl, hk, hpos⟩ := Header.decode_spec _ _ _ hh
  simp only [List.length_drop] at hfit ⊢
  omega

theorem decodeBytes_append (buf t : Bytes) (isList : Bool) (bytes rest : Bytes)
    (hd : decodeBytes buf isList = .ok (bytes, rest)) :
    decodeBytes (buf ++ t) isList = .ok (bytes, rest ++ t) := by
  obtain ⟨h, r, hh, hl, hfit, rfl, rfl⟩ := decodeBytes_inv _ _ _ _ hd
  rw [decodeBytes_of_header _ _ _ _ (Header.decode_append _ t _ _ hh) hl,
    List.take_append_of_le_length hfit, List.drop_append_of_le_length hfit]

theorem encodeBytes_length_pos (b : Bytes) : 0 < (encodeBytes b).length := by
  unfold encodeBytes
  split
  · split <;> simp
  · have := encodeHeader_ne_nil false b.length
    have := List.length_pos_iff.mpr this
    simp; omega

theorem encodeBytes_ne_nil (b : Bytes) : encodeBytes b ≠ [] :=
  List.length_pos_iff.mp (encodeBytes_length_pos b)

theorem encodeBytes_length_ge (b : Bytes) : b.length ≤ (encodeBytes b).length := by
  unfold encodeBytes
  split
  · split <;> simp
  · simp

theorem encodeBytes_eq (b : Bytes) :
    encodeBytes b =
      if b.length = 1 ∧ (∀ x ∈ b, x.toNat < 0x80) then b else encodeHeader false b.length ++ b := by
  unfold encodeBytes
  split
  · rename_i x
    by_cases hx : x.toNat ≥ 0x80
    · rw [if_pos hx, if_neg (by simp; omega)]; rfl
    · rw [if_neg hx, if_pos (by simp; omega)]
  · rename_i hne
    rw [if_neg]
    rintro ⟨h1, _⟩
    match b, h1 with
    | [x], _ => exact hne x rfl

theorem decodeBytes_encodeBytes (b rest : Bytes) (hlen : b.length < 2 ^ 64) :
    decodeBytes (encodeBytes b ++ rest) false = .ok (b, rest) := by
  rw [encodeBytes_eq]
  by_cases h1 : b.length = 1 ∧ (∀ x ∈ b, x.toNat < 0x80)
  · rw [if_pos h1]
    obtain ⟨hl, hx⟩ := h1
    match b, hl with
    | [x], _ =>
      exact decodeBytes_of_header (x :: rest) false _ _
        ((Header.decode_eq_ok _ _ _).mpr (.single x rest (hx x (by simp)))) rfl
  · rw [if_neg h1, List.append_assoc]
    have : Header.decode (encodeHeader false b.length ++ (b ++ rest)) =
        .ok (⟨false, b.length⟩, b ++ rest) := by
      apply Header.decode_encodeHeader _ _ _ hlen (by simp)
      intro _ hl
      match b, hl with
      | [x], _ =>
        refine ⟨x, rest, rfl, ?_⟩
        by_cases hx : 0x80 ≤ x.toNat
        · exact hx
        · exact absurd ⟨rfl, by simp; omega⟩ h1
    rw [decodeBytes_of_header _ _ _ _ this rfl]
    simp

theorem decodeBytes_list (payload rest : Bytes) (hlen : payload.length < 2 ^ 64) :
    decodeBytes (encodeHeader true payload.length ++ payload ++ rest) true = .ok (payload, rest) := by
  rw [List.append_assoc]
  have : Header.decode (encodeHeader true payload.length ++ (payload ++ rest)) =
      .ok (⟨true, payload.length⟩, payload ++ rest) :=
    Header.decode_encodeHeader _ _ _ hlen (by simp) (by simp)
  rw [decodeBytes_of_header _ _ _ _ this rfl]
  simp

/-! ### integers -/

theorem decodeUint_ne_panic (n : Nat) (buf : Bytes) : decodeUint n buf ≠ .panic := by
  refine Res.bind_ne_panic (decodeBytes_ne_panic buf false) ?_
  rintro ⟨b, rest⟩ _
  exact Res.bind_ne_panic (staticLeftPad_ne_panic n b) fun _ _ => Res.ok_ne_panic _

theorem decodeUint_inv (n : Nat) (buf : Bytes) (v : Nat) (rest : Bytes)
    (hd : decodeUint n buf = .ok (v, rest)) :
    ∃ b, decodeBytes buf false = .ok (b, rest) ∧ staticLeftPad n b = .ok v := by
  obtain ⟨⟨b, r⟩, hb, hd⟩ := Res.bind_eq_ok.mp hd
  obtain ⟨v', hv, hd⟩ := Res.bind_eq_ok.mp hd
  cases hd
  exact ⟨b, hb, hv⟩

theorem decodeUint_consumes (n : Nat) (buf : Bytes) (v : Nat) (rest : Bytes)
    (hd : decodeUint n buf = .ok (v, rest)) : rest.length < buf.length := by
  obtain ⟨b, hb, _⟩ := decodeUint_inv _ _ _ _ hd
  exact decodeBytes_consumes _ _ _ _ hb

theorem decodeUint_lt (n : Nat) (buf : Bytes) (v : Nat) (rest : Bytes)
    (hd : decodeUint n buf = .ok (v, rest)) : v < 256 ^ n := by
  obtain ⟨b, _, hv⟩ := decodeUint_inv _ _ _ _ hd
  exact staticLeftPad_lt _ _ _ hv

theorem encodeUint_eq (x : Nat) (hx : x < 2 ^ 64) : encodeUint x = encodeBytes (beMin x) := by
  unfold encodeUint
  by_cases h0 : x = 0
  · subst h0; rw [if_pos rfl, beMin_zero]; rfl
  · rw [if_neg h0]
    by_cases h1 : x < 0x80
    · rw [if_pos h1, beMin_lt_256 x (by omega) (by omega)]
      unfold encodeBytes
      simp only
      rw [if_neg (by rw [UInt8.toNat_ofNat_of_lt' (show x < 256 by omega)]; omega)]
    · rw [if_neg h1]
      simp only []
      have hk8 : (beMin x).length ≤ 8 := beMin_length_le 8 x (by simpa using hx)
      by_cases h2 : x < 256
      · rw [beMin_lt_256 x (by omega) h2]
        unfold encodeBytes
        simp only
        rw [if_pos (by rw [UInt8.toNat_ofNat_of_lt' h2]; omega)]
        rfl
      · have h2' := beMin_length_ge_two x (by omega)
        rw [encodeBytes_eq, if_neg (by omega)]
        unfold encodeHeader
        rw [if_pos (by omega)]
        rfl

theorem pow_256_8 : (256 : Nat) ^ 8 = 2 ^ 64 := by decide

theorem decodeUint_encodeUint (n x : Nat) (rest : Bytes) (hn : n ≤ 8) (hx : x < 256 ^ n) :
    decodeUint n (encodeUint x ++ rest) = .ok (x, rest) := by
  have hx64 : x < 2 ^ 64 := by
    have : 256 ^ n ≤ 256 ^ 8 := Nat.pow_le_pow_right (by omega) hn
    have := pow_256_8
    omega
  have hk8 : (beMin x).length ≤ 8 := beMin_length_le 8 x (by simpa using hx64)
  unfold decodeUint
  rw [encodeUint_eq x hx64, decodeBytes_encodeBytes _ _ (by omega), Res.ok_bind]
  simp only
  rw [staticLeftPad_beMin n x hx, Res.ok_bind]

theorem decodeU64_encode (x : Nat) (rest : Bytes) (hx : x < 2 ^ 64) :
    decodeU64 (encodeUint x ++ rest) = .ok (x, rest) :=
  decodeUint_encodeUint 8 x rest (by omega) (by rw [pow_256_8]; exact hx)

theorem decodeU16_encode (x : Nat) (rest : Bytes) (hx : x ≤ 65535) :
    decodeU16 (encodeUint x ++ rest) = .ok (x, rest) :=
  decodeUint_encodeUint 2 x rest (by omega) (by omega)

theorem decodeU64_lt (buf : Bytes) (v : Nat) (rest : Bytes) (h : decodeU64 buf = .ok (v, rest)) :
    v < 2 ^ 64 := by
  have := decodeUint_lt 8 buf v rest h
  rw [pow_256_8] at this; exact this

theorem uintLength_eq (x : Nat) : uintLength x = (encodeUint x).length := by
  unfold uintLength encodeUint
  by_cases h0 : x = 0
  · subst h0; simp
  · by_cases h1 : x < 0x80
    · rw [if_pos h1, if_neg h0, if_pos h1]; rfl
    · rw [if_neg h1, if_neg h0, if_neg h1]; simp; omega

theorem encodeUint_ne_nil (x : Nat) : encodeUint x ≠ [] := by
  unfold encodeUint
  split
  · simp
  · split <;> simp

/-! ### lists of integers -/

theorem decodeU64Items_ne_panic (fuel : Nat) (payload : Bytes) (h : payload.length ≤ fuel) :
    decodeU64Items fuel payload ≠ .panic := by
  induction fuel generalizing payload with
  | zero =>
    cases List.length_eq_zero_iff.mp (Nat.le_zero.mp h)
    exact Res.ok_ne_panic _
  | succ fuel ih =>
    unfold decodeU64Items
    refine Res.ite_ne_panic (Res.ok_ne_panic _) (Res.bind_ne_panic (decodeUint_ne_panic 8 payload) ?_)
    rintro ⟨v, rest⟩ hd
    have := decodeUint_consumes _ _ _ _ hd
    exact Res.bind_ne_panic (ih rest (by omega)) fun _ _ => Res.ok_ne_panic _

theorem decodeU64List_ne_panic (buf : Bytes) : decodeU64List buf ≠ .panic := by
  refine Res.bind_ne_panic (decodeBytes_ne_panic buf true) ?_
  rintro ⟨payload, rest⟩ _
  exact Res.bind_ne_panic (decodeU64Items_ne_panic _ _ (Nat.le_refl _)) fun _ _ =>
    Res.ok_ne_panic _

theorem flatten_encodeUint_length (xs : List Nat) :
    ((xs.map encodeUint).flatten).length = (xs.map uintLength).sum := by
  induction xs with
  | nil => rfl
  | cons x xs ih => simp [uintLength_eq, ih]

theorem decodeU64Items_encode (xs : List Nat) (fuel : Nat) (hx : ∀ x ∈ xs, x < 2 ^ 64)
    (hf : ((xs.map encodeUint).flatten).length ≤ fuel) :
    decodeU64Items fuel ((xs.map encodeUint).flatten) = .ok xs := by
  induction xs generalizing fuel with
  | nil => unfold decodeU64Items; simp
  | cons x xs ih =>
    simp only [List.map_cons, List.flatten_cons] at hf ⊢
    have hne := encodeUint_ne_nil x
    have hpos : 0 < (encodeUint x).length := List.length_pos_iff.mpr hne
    cases fuel with
    | zero => simp only [List.length_append] at hf; omega
    | succ fuel =>
      unfold decodeU64Items
      rw [if_neg (by simp [hne])]
      simp only
      have hx0 : x < 256 ^ 8 := pow_256_8 ▸ hx x (by simp)
      rw [show decodeU64 = decodeUint 8 from rfl, decodeUint_encodeUint 8 x _ (by omega) hx0,
        Res.ok_bind]
      simp only
      rw [ih fuel (fun y hy => hx y (by simp [hy])) (by simp only [List.length_append] at hf; omega), Res.ok_bind]

theorem decodeU64List_encode (xs : List Nat) (rest : Bytes) (hx : ∀ x ∈ xs, x < 2 ^ 64)
    (hlen : ((xs.map encodeUint).flatten).length < 2 ^ 64) :
    decodeU64List (encodeU64List xs ++ rest) = .ok (xs, rest) := by
  unfold decodeU64List encodeU64List
  rw [← flatten_encodeUint_length, decodeBytes_list _ _ hlen, Res.ok_bind]
  simp only
  rw [decodeU64Items_encode xs _ hx (Nat.le_refl _), Res.ok_bind]

theorem decodeU64Items_inv_lt (fuel : Nat) (payload : Bytes) (vs : List Nat)
    (h : decodeU64Items fuel payload = .ok vs) : ∀ v ∈ vs, v < 2 ^ 64 := by
  induction fuel generalizing payload vs with
  | zero =>
    unfold decodeU64Items at h
    by_cases he : payload.isEmpty
    · rw [if_pos he] at h; cases h; simp
    · rw [if_neg he] at h; exact nomatch h
  | succ fuel ih =>
    unfold decodeU64Items at h
    by_cases he : payload.isEmpty
    · rw [if_pos he] at h; cases h; simp
    · rw [if_neg he] at h
      obtain ⟨⟨v, rest⟩, hv, h⟩ := Res.bind_eq_ok.mp h
      obtain ⟨vs', hvs, h⟩ := Res.bind_eq_ok.mp h
      cases h
      have hlt : v < 256 ^ 8 := decodeUint_lt _ _ _ _ hv
      exact List.forall_mem_cons.mpr ⟨hlt, ih _ _ hvs⟩

end Rlp
end Discv5
