/-
What `send_nodes_response` serves (C11, C14): the nodes `nodes_by_distances` returns sit in the
buckets of the table it leaves behind, so they inherit every predicate on stored and pending values;
the model's `sort_unstable` + `dedup` normalise the distance list; `nodesToSend` in closed form; the
packet count of the split.  Also the other reading of the table through `ClosestLemmas`: the lookup
`start_findnode_query` starts on a table without pending nodes.
-/
import Discv5Model.Model.Service
import Discv5Model.Proofs.ClosestLemmas
import Discv5Model.Proofs.ServiceVals

namespace Discv5.KB

variable {V : Type} [DecidableEq V]

namespace Serve

/-- Unfolds to `KB.BVals (fun _ v => P v) b`. -/
def BVals (P : V → Prop) (b : Bucket V) : Prop :=
  (∀ n ∈ b.nodes, P n.value) ∧ ∀ p, b.pending = some p → P p.node.value

/-- Unfolds to `KB.TVals (fun _ v => P v) t` (`Serve.tvals_iff`). -/
def TVals (P : V → Prop) (t : Table V) : Prop := ∀ b ∈ t.buckets, BVals P b

omit [DecidableEq V] in
theorem TVals.bucket {P : V → Prop} {t : Table V} (h : TVals P t) (i : Nat) : BVals P (t.bucket i) := by
  unfold Table.bucket
  rw [List.getD_eq_getElem?_getD]
  cases hi : t.buckets[i]? with
  | none => exact (And.intro (fun _ hn => nomatch hn) (fun _ hp => nomatch hp) : BVals P {})
  | some b => exact h b (List.mem_of_getElem? hi)

end Serve

omit [DecidableEq V] in
theorem Serve.tvals_iff {P : V → Prop} {t : Table V} :
    Serve.TVals P t ↔ KB.TVals (fun _ v => P v) t := Iff.rfl

omit [DecidableEq V] in
theorem mem_collectUpTo (m : Nat) (n : Node V) :
    ∀ (l acc : List (Node V)), n ∈ collectUpTo m l acc → n ∈ acc ∨ n ∈ l := by
  intro l
  induction l with
  | nil => intro acc h; exact Or.inl (by simpa [collectUpTo] using h)
  | cons x xs ih =>
    intro acc h
    unfold collectUpTo at h
    simp only [] at h
    have hacc : n ∈ acc ++ [x] → n ∈ acc ∨ n ∈ x :: xs := by
      intro h'
      rcases List.mem_append.1 h' with h' | h'
      · exact Or.inl h'
      · exact Or.inr (by rw [List.mem_singleton.1 h']; exact List.mem_cons_self ..)
    by_cases hge : (acc ++ [x]).length ≥ m
    · rw [if_pos hge] at h
      exact hacc h
    · rw [if_neg hge] at h
      rcases ih _ h with h' | h'
      · exact hacc h'
      · exact Or.inr (List.mem_cons_of_mem _ h')

theorem nodesByDistances_mem_bucket (c : Cfg V) (now : Nat) (t : Table V) (ds : List Nat) (m : Nat) :
    ∀ n ∈ (t.nodesByDistances c now ds m).2, ∃ d ∈ validDistances ds,
      n ∈ ((t.nodesByDistances c now ds m).1.bucket (d - 1)).nodes := by
  intro n hn
  rcases mem_collectUpTo m n _ _ hn with hn | hn
  · cases hn
  · exact List.mem_flatMap.1 hn

theorem nodesByDistances_out_vals {P : Nat → V → Prop} {c : Cfg V} {now : Nat} {t : Table V}
    {ds : List Nat} {m : Nat} (h : TVals P t) :
    ∀ n ∈ (t.nodesByDistances c now ds m).2, P n.key n.value := by
  intro n hn
  obtain ⟨d, _, hd⟩ := nodesByDistances_mem_bucket c now t ds m n hn
  exact ((step_vals (op := .nodesByDistances now ds m) h (fun _ _ h => h.elim)).bucket (d - 1)).1 n hd

omit [DecidableEq V] in
theorem nodesByDistances_length_le (c : Cfg V) (now : Nat) (t : Table V) (ds : List Nat) (m : Nat)
    (hm : 1 ≤ m) : (t.nodesByDistances c now ds m).2.length ≤ m := by
  unfold Table.nodesByDistances
  simp only []
  rw [collectUpTo_eq _ _ _ (by simp only [List.length_nil]; omega)]
  simp only [List.length_nil, List.nil_append, List.length_take]
  omega

omit [DecidableEq V] in
theorem nodesByDistances_nil (c : Cfg V) (now : Nat) (t : Table V) (m : Nat) :
    (t.nodesByDistances c now [] m).2 = [] := by
  simp [Table.nodesByDistances, validDistances, collectUpTo]

end Discv5.KB

namespace Discv5.Svc
open Discv5.KB Discv5.Svc.Svc

theorem mem_insertSorted {x y : Nat} {l : List Nat} : y ∈ insertSorted x l ↔ y = x ∨ y ∈ l := by
  induction l with
  | nil => simp [insertSorted]
  | cons z zs ih =>
    unfold insertSorted
    by_cases h : x ≤ z
    · rw [if_pos h]; simp
    · rw [if_neg h, List.mem_cons, ih, List.mem_cons, or_left_comm]

theorem insertSorted_sorted {x : Nat} {l : List Nat} (h : l.Pairwise (· ≤ ·)) :
    (insertSorted x l).Pairwise (· ≤ ·) := by
  induction l with
  | nil => simp [insertSorted]
  | cons z zs ih =>
    unfold insertSorted
    rw [List.pairwise_cons] at h
    by_cases hx : x ≤ z
    · rw [if_pos hx]
      refine List.Pairwise.cons ?_ (List.Pairwise.cons h.1 h.2)
      intro a ha
      rcases List.mem_cons.1 ha with rfl | ha
      · exact hx
      · exact Nat.le_trans hx (h.1 a ha)
    · rw [if_neg hx]
      refine List.Pairwise.cons ?_ (ih h.2)
      intro a ha
      rcases mem_insertSorted.1 ha with rfl | ha
      · omega
      · exact h.1 a ha

theorem mem_sortNat {y : Nat} {l : List Nat} : y ∈ sortNat l ↔ y ∈ l := by
  induction l with
  | nil => simp [sortNat]
  | cons x xs ih =>
    have : sortNat (x :: xs) = insertSorted x (sortNat xs) := rfl
    rw [this, mem_insertSorted, ih, List.mem_cons]

theorem sortNat_sorted (l : List Nat) : (sortNat l).Pairwise (· ≤ ·) := by
  induction l with
  | nil => simp [sortNat]
  | cons x xs ih =>
    have : sortNat (x :: xs) = insertSorted x (sortNat xs) := rfl
    rw [this]
    exact insertSorted_sorted ih

theorem mem_dedupAdj {y : Nat} (l : List Nat) : y ∈ dedupAdj l ↔ y ∈ l := by
  fun_induction dedupAdj l with
  | case1 => simp
  | case2 x => simp
  | case3 x z rest hxz ih =>
    have : x = z := by simpa using hxz
    subst this
    rw [ih]; simp
  | case4 x z rest hxz ih =>
    simp only [List.mem_cons] at ih ⊢
    rw [ih]

theorem dedupAdj_sorted (l : List Nat) (h : l.Pairwise (· ≤ ·)) : (dedupAdj l).Pairwise (· < ·) := by
  fun_induction dedupAdj l with
  | case1 => simp
  | case2 x => simp
  | case3 x z rest hxz ih => exact ih (List.pairwise_cons.1 h).2
  | case4 x z rest hxz ih =>
    have hne : x ≠ z := by simpa using hxz
    rw [List.pairwise_cons] at h
    refine List.Pairwise.cons ?_ (ih h.2)
    intro a ha
    rw [mem_dedupAdj] at ha
    have h1 := h.1 z (by simp)
    have h2 : z ≤ a := by
      rcases List.mem_cons.1 ha with rfl | ha
      · exact Nat.le_refl _
      · exact (List.pairwise_cons.1 h.2).1 a ha
    omega

/-- The normalised distance list of a FINDNODE: strictly increasing (hence duplicate-free), with
the same members as the request. -/
theorem normDistances (ds : List Nat) :
    (dedupAdj (sortNat ds)).Pairwise (· < ·) ∧ ∀ d, d ∈ dedupAdj (sortNat ds) ↔ d ∈ ds :=
  ⟨dedupAdj_sorted _ (sortNat_sorted ds), fun d => by rw [mem_dedupAdj, mem_sortNat]⟩

theorem filter_ne_zero_of_pos {l : List Nat} (h : ∀ a ∈ l, 0 < a) : l.filter (· != 0) = l := by
  rw [List.filter_eq_self]
  intro a ha
  have := h a ha
  simp only [bne_iff_ne, ne_eq]
  omega

/-- The records `send_nodes_response` collects, in closed form. -/
theorem nodesToSend_snd (s : Svc) (requester : Nat) (ds : List Nat) :
    (s.nodesToSend requester ds).2 =
      (if ds.contains 0 then [s.localRec] else []) ++
      ((s.table.nodesByDistances s.cfg.kb s.now ((dedupAdj (sortNat ds)).filter (· != 0))
        s.cfg.maxNodesResponse).2.filter (fun n => n.key != requester)).map (·.value) := by
  obtain ⟨hs, hm⟩ := normDistances ds
  have hc : ds.contains 0 = decide (0 ∈ dedupAdj (sortNat ds)) := by
    rw [List.contains_eq_mem]
    exact decide_eq_decide.2 (hm 0).symm
  unfold nodesToSend
  rw [hc]
  generalize dedupAdj (sortNat ds) = D at hs
  cases D with
  | nil => simp [nodesByDistances_nil]
  | cons d rest =>
    rw [List.pairwise_cons] at hs
    cases d with
    | zero =>
      have hpos : ∀ a ∈ rest, 0 < a := hs.1
      have hf : (0 :: rest).filter (· != 0) = rest := by
        rw [List.filter_cons_of_neg (by simp)]
        exact filter_ne_zero_of_pos hpos
      rw [hf]
      simp only [List.mem_cons, true_or, decide_true, if_true]
      cases rest with
      | nil => simp [nodesByDistances_nil]
      | cons r rs => simp
    | succ k =>
      have hpos : ∀ a ∈ (k + 1) :: rest, 0 < a := by
        intro a ha
        rcases List.mem_cons.1 ha with rfl | ha
        · omega
        · have := hs.1 a ha; omega
      rw [filter_ne_zero_of_pos hpos]
      have h0 : ¬ (0 ∈ (k + 1) :: rest) := fun h => by have := hpos 0 h; omega
      simp [h0]

theorem splitFold_flatten (l : List Rec) : ∀ st : SplitSt,
    ((l.foldl splitStep st).done ++ [(l.foldl splitStep st).cur]).flatten =
      (st.done ++ [st.cur]).flatten ++ l := by
  induction l with
  | nil => intro st; simp
  | cons r rs ih =>
    intro st
    rw [List.foldl_cons, ih]
    unfold splitStep
    by_cases h : r.size + st.size < splitLimit
    · rw [if_pos h]; simp
    · rw [if_neg h]; simp

theorem splitPackets_flatten (recs : List Rec) : (splitPackets recs).flatten = recs := by
  unfold splitPackets
  simp only []
  rw [splitFold_flatten]
  simp

theorem splitFold_length_le (recs : List Rec) : ∀ st : SplitSt,
    (recs.foldl splitStep st).done.length ≤ st.done.length + recs.length := by
  induction recs with
  | nil => intro st; simp
  | cons r rest ih =>
    intro st
    rw [List.foldl_cons]
    refine Nat.le_trans (ih _) ?_
    unfold splitStep
    by_cases h : r.size + st.size < splitLimit
    · rw [if_pos h]; simp only [List.length_cons]; omega
    · rw [if_neg h]; simp only [List.length_append, List.length_cons, List.length_nil]; omega

theorem splitPackets_length_le (recs : List Rec) : (splitPackets recs).length ≤ recs.length + 1 := by
  unfold splitPackets
  have := splitFold_length_le recs {}
  simp only [List.length_append, List.length_cons, List.length_nil] at this ⊢
  omega

theorem nodesPackets_length_le (recs : List Rec) : (nodesPackets recs).1.length ≤ recs.length + 1 := by
  unfold nodesPackets
  by_cases h : recs.isEmpty
  · rw [if_pos h]; simp
  · rw [if_neg h]; exact splitPackets_length_le recs

/-- The walk over the buckets is `closest_of_no_pending`; `ns` are the records it finds. -/
theorem startQuery_of_no_pending (s : Svc) (target : Nat) (h : ∀ b ∈ s.table.buckets, b.pending = none)
    {ns : List Rec}
    (hns : ((bucketOrder (s.table.localKey ^^^ target)).flatMap fun i =>
      sortByDist target (s.table.bucket i).nodes).map (·.value) = ns) (hne : ns ≠ []) :
    s.startQuery target =
      { s with table := s.table.bump,
               query := some { qid := s.nextQuery, target := target, untrusted := ns },
               nextQuery := s.nextQuery + 1 } := by
  unfold Svc.startQuery
  rw [closest_of_no_pending _ _ _ _ h]
  dsimp only
  rw [hns, if_neg]
  intro he
  rw [← hns, List.isEmpty_iff.mp he] at hne
  exact hne rfl

end Discv5.Svc
