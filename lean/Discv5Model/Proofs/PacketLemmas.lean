/-
Helper lemmas for the packet codec model (C05).  `Kind.decode` and `decode` are each given one
form in which every checked slice and index is resolved; totality, inversion and the round trip
are read off those forms.
-/
import Discv5Model.Model.Packet
import Discv5Model.Proofs.BytesLemmas
namespace Discv5.Packet

/-- Signature size plus ephemeral-key size as announced at offsets 32 and 33 of a handshake
auth-data. -/
def sigEph (auth : Bytes) : Nat := (auth.getD 32 0).toNat + (auth.getD 33 0).toNat

/-- The handshake fields cut out of an auth-data at the sizes it announces. -/
def handshakeAt (auth : Bytes) (record : Option Bytes) : Kind :=
  .handshake (auth.take 32) ((auth.drop 34).take (auth.getD 32 0).toNat)
    (((auth.drop 34).drop (auth.getD 32 0).toNat).take (auth.getD 33 0).toNat) record

/-- `PacketKind::decode` with every checked access resolved: the length guards in front of the
slices are exactly the ones that keep them in range. -/
theorem Kind.decode_eq (recDec : Bytes → Option Bytes) (flag : UInt8) (auth : Bytes) :
    Kind.decode recDec flag auth =
      if flag = 0 then
        if auth.length ≠ 32 then .err .invalidAuthDataSize else .ok (.message auth)
      else if flag = 1 then
        if auth.length ≠ 24 then .err .invalidAuthDataSize
        else .ok (.whoareyou (auth.take 16) (beNat (auth.drop 16)))
      else if flag = 2 then
        if auth.length < 34 then .err .invalidAuthDataSize else
        if auth.length < 34 + sigEph auth then .err .invalidAuthDataSize else
        if (auth.drop 34).length > sigEph auth then
          match recDec ((auth.drop 34).drop (sigEph auth)) with
          | some r => .ok (handshakeAt auth (some r))
          | none => .err .invalidEnr
        else .ok (handshakeAt auth none)
      else .err .unknownPacket := by
  unfold Kind.decode handshakeAt sigEph
  by_cases h0 : flag = 0
  · rw [if_pos h0, if_pos h0]
  rw [if_neg h0, if_neg h0]
  by_cases h1 : flag = 1
  · rw [if_pos h1, if_pos h1]
    by_cases hl : auth.length ≠ 24
    · rw [if_pos hl, if_pos hl]
    · simp only [Consts.ID_NONCE_LENGTH]
      rw [if_neg hl, if_neg hl, slice_ok _ _ _ (Nat.zero_le _) (by omega),
        sliceFrom_ok _ _ (by omega)]
      simp only [Res.ok_bind, List.length_drop, List.length_take]
      rw [if_neg (by omega), if_neg (by omega)]
      rfl
  rw [if_neg h1, if_neg h1]
  by_cases h2 : flag = 2
  · rw [if_pos h2, if_pos h2]
    by_cases h34 : auth.length < 34
    · rw [if_pos h34, if_pos h34]
    · rw [if_neg h34, if_neg h34, slice_ok _ _ _ (Nat.zero_le _) (by omega),
        index_getD _ _ 0 (by omega), index_getD _ _ 0 (by omega)]
      simp only [Res.ok_bind]
      by_cases ht : auth.length < 34 + ((auth.getD 32 0).toNat + (auth.getD 33 0).toNat)
      · rw [if_pos ht, if_pos ht]
      · have hr : (auth.getD 32 0).toNat + (auth.getD 33 0).toNat ≤ (auth.drop 34).length := by
          rw [List.length_drop]; omega
        rw [if_neg ht, if_neg ht, sliceFrom_ok _ _ (by omega), Res.ok_bind,
          slice_ok _ _ _ (Nat.zero_le _) (by omega), slice_ok _ _ _ (Nat.le_add_right _ _) hr]
        simp only [Res.ok_bind, Nat.sub_zero, List.drop_zero, Nat.add_sub_cancel_left]
        by_cases hm : (auth.drop 34).length > (auth.getD 32 0).toNat + (auth.getD 33 0).toNat
        · rw [if_pos hm, if_pos hm, sliceFrom_ok _ _ hr, Res.ok_bind]
          rfl
        · rw [if_neg hm, if_neg hm]
  · rw [if_neg h2, if_neg h2]

theorem handshakeAt_consistent (auth : Bytes) (record : Option Bytes)
    (h : 34 + sigEph auth ≤ auth.length) : (handshakeAt auth record).AuthConsistent auth := by
  have hs := (auth.getD 32 0).toNat_lt
  have he := (auth.getD 33 0).toNat_lt
  simp only [sigEph] at h
  simp only [handshakeAt, Kind.AuthConsistent, List.length_take, List.length_drop]
  omega

theorem Kind.decode_ne_panic (recDec : Bytes → Option Bytes) (flag : UInt8) (auth : Bytes) :
    Kind.decode recDec flag auth ≠ .panic := by
  have ok := @Res.ok_ne_panic Err Kind
  have err := @Res.err_ne_panic Err Kind
  -- every leaf of the slice-free form is an answer or an error
  rw [Kind.decode_eq]
  refine Res.ite_ne_panic (Res.ite_ne_panic (err _) (ok _)) <|
    Res.ite_ne_panic (Res.ite_ne_panic (err _) (ok _)) <|
    Res.ite_ne_panic (Res.ite_ne_panic (err _) <| Res.ite_ne_panic (err _) <|
      Res.ite_ne_panic ?_ (ok _)) (err _)
  cases recDec _
  · exact err _
  · exact ok _

theorem Kind.decode_inv (recDec : Bytes → Option Bytes) (flag : UInt8) (auth : Bytes) (k : Kind)
    (h : Kind.decode recDec flag auth = .ok k) :
    flag = k.flag ∧ k.flag.toNat ≤ 2 ∧ k.AuthConsistent auth := by
  rw [Kind.decode_eq] at h
  by_cases h0 : flag = 0
  · rw [if_pos h0] at h
    obtain ⟨hl, h⟩ := Res.ite_err_eq_ok h
    cases h
    exact ⟨h0, (by decide : (0 : UInt8).toNat ≤ 2), by omega, rfl⟩
  rw [if_neg h0] at h
  by_cases h1 : flag = 1
  · rw [if_pos h1] at h
    obtain ⟨hl, h⟩ := Res.ite_err_eq_ok h
    cases h
    exact ⟨h1, (by decide : (1 : UInt8).toNat ≤ 2), (by omega : auth.length = 24)⟩
  rw [if_neg h1] at h
  by_cases h2 : flag = 2
  · rw [if_pos h2] at h
    obtain ⟨h34, h⟩ := Res.ite_err_eq_ok h
    obtain ⟨ht, h⟩ := Res.ite_err_eq_ok h
    have key : ∀ r, k = handshakeAt auth r → flag = k.flag ∧ k.flag.toNat ≤ 2 ∧ k.AuthConsistent auth :=
      fun r hk => hk ▸ ⟨h2, (by decide : (2 : UInt8).toNat ≤ 2), handshakeAt_consistent auth r (by omega)⟩
    by_cases hm : (auth.drop 34).length > sigEph auth
    · rw [if_pos hm] at h
      cases hr : recDec ((auth.drop 34).drop (sigEph auth)) with
      | none => rw [hr] at h; exact nomatch h
      | some r => rw [hr] at h; cases h; exact key _ rfl
    · rw [if_neg hm] at h
      cases h; exact key _ rfl
  · rw [if_neg h2] at h; exact nomatch h

theorem handshake_encode (src sig eph : Bytes) (record : Option Bytes) (h1 : src.length = 32)
    (h2 : sig.length ≤ 255) (h3 : eph.length ≤ 255) :
    let auth := (Kind.handshake src sig eph record).encode
    auth.length = 34 + (sig.length + eph.length) + (record.getD []).length ∧
    sigEph auth = sig.length + eph.length ∧
    (auth.drop 34).drop (sig.length + eph.length) = record.getD [] ∧
    ∀ r, handshakeAt auth r = .handshake src sig eph r := by
  have hs := ofNat_mod_toNat_of_le _ h2
  have he := ofNat_mod_toNat_of_le _ h3
  generalize hsb : UInt8.ofNat (sig.length % 256) = sb at hs
  generalize heb : UInt8.ofNat (eph.length % 256) = eb at he
  have hauth : (Kind.handshake src sig eph record).encode =
      src ++ sb :: eb :: (sig ++ (eph ++ record.getD [])) := by
    simp [Kind.encode, beBytes, hsb, heb]
  generalize record.getD [] = R at *
  intro auth
  have g32 : auth.getD 32 0 = sb := by
    show List.getD (Kind.encode _) 32 0 = sb
    rw [hauth, getD_append_right _ _ _ _ (by omega), h1]; rfl
  have g33 : auth.getD 33 0 = eb := by
    show List.getD (Kind.encode _) 33 0 = eb
    rw [hauth, getD_append_right _ _ _ _ (by omega), h1]; rfl
  have d34 : auth.drop 34 = sig ++ (eph ++ R) := by
    show List.drop 34 (Kind.encode _) = _
    rw [hauth, List.drop_append, List.drop_of_length_le (by omega), h1]; rfl
  refine ⟨?_, ?_, ?_, fun r => ?_⟩
  · show (Kind.encode _).length = _
    rw [hauth]; simp only [List.length_append, List.length_cons, h1]; omega
  · rw [sigEph, g32, g33, hs, he]
  · rw [d34, ← List.append_assoc, List.drop_left' (List.length_append)]
  · rw [handshakeAt, g32, g33, d34, hs, he, List.take_left, List.drop_left, List.take_left]
    show Kind.handshake (List.take 32 (Kind.encode _)) _ _ _ = _
    rw [hauth, List.take_left' h1]

theorem Kind.decode_encode (recDec : Bytes → Option Bytes) (k : Kind)
    (h : match k with
      | .message src => src.length = 32
      | .whoareyou idn seq => idn.length = 16 ∧ seq < 2 ^ 64
      | .handshake src sig eph record => src.length = 32 ∧ sig.length ≤ 255 ∧ eph.length ≤ 255 ∧
          (∀ r, record = some r → r ≠ [] ∧ recDec r = some r)) :
    Kind.decode recDec k.flag k.encode = .ok k := by
  cases k with
  | message src =>
    have h : src.length = 32 := h
    show Kind.decode recDec 0 src = _
    rw [Kind.decode_eq, if_pos rfl, if_neg (fun hn => hn h)]
  | whoareyou idn seq =>
    obtain ⟨h1, h2⟩ := h
    have hl : (idn ++ beBytes 8 seq).length = 24 := by rw [List.length_append, h1, beBytes_length]
    show Kind.decode recDec 1 (idn ++ beBytes 8 seq) = _
    rw [Kind.decode_eq, if_neg (by decide), if_pos rfl, if_neg (fun hn => hn hl),
      List.take_left' h1, List.drop_left' h1, beNat_beBytes 8 seq h2]
  | handshake src sig eph record =>
    obtain ⟨h1, h2, h3, h4⟩ := h
    obtain ⟨hlen, hse, hrec, hat⟩ := handshake_encode src sig eph record h1 h2 h3
    show Kind.decode recDec 2 _ = _
    rw [Kind.decode_eq, if_neg (by decide), if_neg (by decide), if_pos rfl, if_neg (by omega),
      hse, if_neg (by omega), hrec, List.length_drop, hlen]
    simp only [hat]
    cases record with
    | none => rw [if_neg (by simp)]
    | some r =>
      obtain ⟨hr1, hr2⟩ := h4 r rfl
      have : 0 < r.length := List.length_pos_iff.mpr hr1
      rw [if_pos (by simp only [Option.getD_some]; omega)]
      simp only [Option.getD_some, hr2]

/-- `decode` behind the unmasking of the static header: `iv` and the keystream `s` are fixed, `sh`
is the unmasked static header and `rest` the datagram behind it. -/
def decodeAt (recDec : Bytes → Option Bytes) (proto : Proto) (iv : Bytes) (s : Nat → UInt8)
    (sh rest : Bytes) : Res Err (Packet × Bytes) :=
  if sh.take 6 ≠ proto.pid then .err .headerDecryptionFailed else
  if (sh.drop 6).take 2 ≠ proto.ver then .err .invalidVersion else
  if beNat (sh.drop 21) > rest.length then .err .invalidAuthDataSize else do
  let kind ← Kind.decode recDec (sh.getD 8 0) (xorStream s 23 (rest.take (beNat (sh.drop 21))))
  if !(rest.drop (beNat (sh.drop 21))).isEmpty && kind.isWhoareyou then .err .unknownPacket else
  .ok ({ iv := iv, nonce := (sh.drop 9).take 12, kind := kind,
         message := rest.drop (beNat (sh.drop 21)) },
       iv ++ sh ++ xorStream s 23 (rest.take (beNat (sh.drop 21))))

/-- `decodeAt` on a datagram cut at the fixed offsets 16 and 39; `decode` is this on every datagram
within the size limits. -/
def decodeCut (ks : KS) (recDec : Bytes → Option Bytes) (proto : Proto) (localId data : Bytes) :
    Res Err (Packet × Bytes) :=
  decodeAt recDec proto (data.take 16) (ks (localId.take 16) (data.take 16))
    (xorStream (ks (localId.take 16) (data.take 16)) 0 ((data.drop 16).take 23)) (data.drop 39)

theorem decode_eq_decodeCut (ks : KS) (recDec : Bytes → Option Bytes) (proto : Proto)
    (localId data : Bytes) (hmax : data.length ≤ 1280) (hmin : 63 ≤ data.length) :
    decode ks recDec proto localId data = decodeCut ks recDec proto localId data := by
  unfold decode decodeCut decodeAt
  simp only [Consts.MAX_PACKET_SIZE, Consts.MIN_PACKET_SIZE, Consts.IV_LENGTH,
    Consts.STATIC_HEADER_LENGTH, Consts.MESSAGE_NONCE_LENGTH]
  rw [if_neg (by omega), if_neg (by omega), slice_ok _ _ _ (by omega) (by omega), Res.ok_bind,
    slice_ok _ _ _ (by omega) (by omega), Res.ok_bind]
  simp only [Nat.sub_zero, List.drop_zero, show 16 + 23 - 16 = 23 from rfl,
    show 16 + 23 = 39 from rfl, show 23 - 2 = 21 from rfl, show 9 + 12 = 21 from rfl]
  have hl2 : (List.take 23 (List.drop 16 data)).length = 23 := by
    rw [List.length_take, List.length_drop]; omega
  rw [hl2]
  generalize ks (List.take 16 localId) (List.take 16 data) = s
  generalize hsh : xorStream s 0 (List.take 23 (List.drop 16 data)) = sh
  have hlen : sh.length = 23 := by rw [← hsh, xorStream_length]; exact hl2
  rw [if_neg (fun hn => hn hlen), slice_ok _ _ _ (by omega) (by omega), Res.ok_bind]
  by_cases hpid : List.take 6 sh ≠ proto.pid
  · rw [if_pos hpid]; exact if_pos hpid
  -- the slice reads `take (6 - 0) (drop 0 sh)`, which is `take 6 sh` by unfolding only
  rw [if_neg hpid, if_neg (show ¬ List.take (6 - 0) (List.drop 0 sh) ≠ proto.pid from hpid),
    slice_ok _ _ _ (by omega) (by omega), Res.ok_bind]
  by_cases hver : List.take 2 (List.drop 6 sh) ≠ proto.ver
  · rw [if_pos hver, if_pos hver]
  rw [if_neg hver, if_neg hver, index_getD _ _ 0 (by omega), Res.ok_bind,
    slice_ok _ _ _ (by omega) (by omega), Res.ok_bind, sliceFrom_ok _ _ (by omega), Res.ok_bind,
    if_neg (by rw [List.length_drop, hlen]; decide), sliceFrom_ok _ _ (by omega), Res.ok_bind]
  by_cases hsz : beNat (List.drop 21 sh) > (List.drop 39 data).length
  · rw [if_pos hsz, if_pos hsz]
  rw [List.length_drop] at hsz
  rw [if_neg (by rw [List.length_drop]; exact hsz), if_neg (by rw [List.length_drop]; exact hsz),
    slice_ok _ _ _ (by omega) (by omega), Res.ok_bind, Nat.add_sub_cancel_left, List.drop_drop]
  cases Kind.decode recDec (sh.getD 8 0)
      (xorStream s 23 (List.take (beNat (List.drop 21 sh)) (List.drop 39 data))) with
  | panic => rfl
  | err e => rfl
  | ok kd => rw [Res.ok_bind, Res.ok_bind, sliceFrom_ok _ _ (by omega), Res.ok_bind]

theorem decodeAt_ne_panic (recDec : Bytes → Option Bytes) (proto : Proto) (iv : Bytes)
    (s : Nat → UInt8) (sh rest : Bytes) : decodeAt recDec proto iv s sh rest ≠ .panic :=
  Res.ite_ne_panic (Res.err_ne_panic _) <| Res.ite_ne_panic (Res.err_ne_panic _) <|
    Res.ite_ne_panic (Res.err_ne_panic _) <|
    Res.bind_ne_panic (Kind.decode_ne_panic _ _ _) fun _ _ =>
      Res.ite_ne_panic (Res.err_ne_panic _) (Res.ok_ne_panic _)

theorem decode_outside (ks : KS) (recDec : Bytes → Option Bytes) (proto : Proto)
    (localId data : Bytes) (h : ¬(63 ≤ data.length ∧ data.length ≤ 1280)) :
    ∃ e, decode ks recDec proto localId data = .err e := by
  unfold decode
  simp only [Consts.MAX_PACKET_SIZE, Consts.MIN_PACKET_SIZE]
  by_cases hmax : data.length > 1280
  · exact ⟨_, if_pos hmax⟩
  · rw [if_neg hmax, if_pos (by omega)]; exact ⟨_, rfl⟩

theorem datagram_cut (iv header rest : Bytes) (hiv : iv.length = 16) (hheader : header.length = 23) :
    (iv ++ (header ++ rest)).take 16 = iv ∧ ((iv ++ (header ++ rest)).drop 16).take 23 = header ∧
    (iv ++ (header ++ rest)).drop 39 = rest := by
  refine ⟨List.take_left' hiv, ?_, ?_⟩
  · rw [List.drop_left' hiv]; exact List.take_left' hheader
  · rw [← List.append_assoc]; exact List.drop_left' (by rw [List.length_append, hiv, hheader])

theorem staticHeader_cut (pid ver nonce sz : Bytes) (flag : UInt8) (hpid : pid.length = 6)
    (hver : ver.length = 2) (hn : nonce.length = 12) :
    (pid ++ ver ++ [flag] ++ nonce ++ sz).take 6 = pid ∧
    ((pid ++ ver ++ [flag] ++ nonce ++ sz).drop 6).take 2 = ver ∧
    (pid ++ ver ++ [flag] ++ nonce ++ sz).getD 8 0 = flag ∧
    ((pid ++ ver ++ [flag] ++ nonce ++ sz).drop 9).take 12 = nonce ∧
    (pid ++ ver ++ [flag] ++ nonce ++ sz).drop 21 = sz := by
  have h8 : (pid ++ ver).length = 8 := by rw [List.length_append, hpid, hver]
  have h9 : (pid ++ ver ++ [flag]).length = 9 := by rw [List.length_append, h8]; rfl
  have h21 : (pid ++ ver ++ [flag] ++ nonce).length = 21 := by rw [List.length_append, h9, hn]
  refine ⟨?_, ?_, ?_, ?_, ?_⟩
  · simp only [List.append_assoc]; exact List.take_left' hpid
  · simp only [List.append_assoc]; rw [List.drop_left' hpid]; exact List.take_left' hver
  · rw [List.append_assoc (pid ++ ver), List.append_assoc (pid ++ ver),
      getD_append_right _ _ _ _ (by omega), h8]; rfl
  · rw [List.append_assoc (pid ++ ver ++ [flag]), List.drop_left' h9]; exact List.take_left' hn
  · exact List.drop_left' h21

/-- `decode` on a datagram assembled from its parts (the shape `encode` produces), for any flag and
auth-data: what remains is `Kind.decode` on the auth-data. -/
theorem decode_parts (ks : KS) (recDec : Bytes → Option Bytes) (proto : Proto) (localId : Bytes)
    (iv nonce auth msg : Bytes) (flag : UInt8)
    (hiv : iv.length = 16) (hn : nonce.length = 12) (hpid : proto.pid.length = 6)
    (hver : proto.ver.length = 2) (hauth : auth.length < 2 ^ 16)
    (hlo : 63 ≤ 16 + 23 + auth.length + msg.length) (hhi : 16 + 23 + auth.length + msg.length ≤ 1280) :
    decode ks recDec proto localId
      (iv ++ xorStream (ks (localId.take 16) iv) 0
        (proto.pid ++ proto.ver ++ [flag] ++ nonce ++ beBytes 2 auth.length ++ auth) ++ msg)
    = (do
        let kind ← Kind.decode recDec flag auth
        if !msg.isEmpty && kind.isWhoareyou then .err .unknownPacket else
        .ok ({ iv := iv, nonce := nonce, kind := kind, message := msg },
             iv ++ (proto.pid ++ proto.ver ++ [flag] ++ nonce ++ beBytes 2 auth.length) ++ auth)) := by
  obtain ⟨s1, s2, s3, s4, s5⟩ :=
    staticHeader_cut proto.pid proto.ver nonce (beBytes 2 auth.length) flag hpid hver hn
  generalize hS : proto.pid ++ proto.ver ++ [flag] ++ nonce ++ beBytes 2 auth.length = S at *
  have hSl : S.length = 23 := by subst hS; simp [hpid, hver, hn]
  rw [xorStream_append, hSl, List.append_assoc, List.append_assoc]
  obtain ⟨d1, d2, d3⟩ := datagram_cut iv (xorStream (ks (localId.take 16) iv) 0 S)
    (xorStream (ks (localId.take 16) iv) (0 + 23) auth ++ msg) hiv (by rw [xorStream_length, hSl])
  rw [decode_eq_decodeCut _ _ _ _ _ (by simp [hiv, hSl]; omega) (by simp [hiv, hSl]; omega)]
  unfold decodeCut decodeAt
  rw [d1, d2, d3, xorStream_involutive, s1, s2, s3, s4, s5, beNat_beBytes 2 _ hauth,
    if_neg (fun hn => hn rfl), if_neg (fun hn => hn rfl),
    if_neg (by rw [List.length_append, xorStream_length]; omega),
    ← xorStream_length (ks (localId.take 16) iv) (0 + 23) auth, List.take_left, List.drop_left,
    xorStream_involutive]

end Discv5.Packet
