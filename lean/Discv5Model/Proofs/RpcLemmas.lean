/-
Lemmas about the RPC message codec model (C06): the layout of an encoded message, `decode` on a
framed field list, the arms of `decodeBody` on encoded fields, and what an accepted message
guarantees.
-/
import Discv5Model.Model.Rpc
import Discv5Model.Proofs.RlpLemmas

namespace Discv5.Rpc
open Discv5.Rlp

/-! ### layout of the field list -/

/-- An RLP list item: `list-header(payload length) ‖ payload`. -/
def rlpList (payload : Bytes) : Bytes := encodeHeader true payload.length ++ payload

/-- The fields behind the request id. -/
def Body.tail : Body → Bytes
  | .ping enrSeq => encodeUint enrSeq
  | .pong enrSeq ip port => encodeUint enrSeq ++ encodeBytes ip.octets ++ encodeUint port
  | .findNode distances => encodeU64List distances
  | .nodes total records => encodeUint total ++ rlpList records.flatten
  | .talkReq protocol request => encodeBytes protocol ++ encodeBytes request
  | .talkResp response => encodeBytes response

theorem fields_eq (id : Bytes) (b : Body) : b.fields id = encodeBytes id ++ b.tail := by
  cases b with
  | ping s => rfl
  | pong s ip port => simp [Body.fields, Body.tail]
  | findNode ds => rfl
  | nodes total rs =>
    cases rs with
    | nil => simp [Body.fields, Body.tail, rlpList]
    | cons r rs => simp [Body.fields, Body.tail, rlpList]
  | talkReq p r => simp [Body.fields, Body.tail]
  | talkResp r => rfl

theorem tail_ne_nil (b : Body) : b.tail ≠ [] := by
  cases b with
  | ping s => exact encodeUint_ne_nil s
  | pong s ip port => simp [Body.tail, encodeUint_ne_nil]
  | findNode ds => simp [Body.tail, encodeU64List, encodeHeader_ne_nil]
  | nodes total rs => simp [Body.tail, encodeUint_ne_nil]
  | talkReq p r => simp [Body.tail, encodeBytes_ne_nil]
  | talkResp r => exact encodeBytes_ne_nil r

theorem encode_eq (m : Message) :
    encode m = frame m.body.msgType (encodeBytes m.id ++ m.body.tail) := by
  unfold encode; rw [fields_eq]

theorem frame_length (ty : UInt8) (l : Bytes) :
    (frame ty l).length = 1 + lengthOfLength l.length + l.length := by
  unfold frame; simp [encodeHeader_length]; omega

/-! ### `decode` up to the request id: type byte, outer list header, id -/

theorem decode_cons (recDec : Bytes → Option Bytes) (ty : UInt8) (p : Bytes) (hp : 2 ≤ p.length) :
    decode recDec (ty :: p) = (do
      let (header, payload) ← Header.decode p
      if !header.list then .err .invalidHeader else
      if header.len ≠ payload.length then .err .extraData else do
      let (idBytes, payload) ← decodeBytes payload false
      if idBytes.length > 8 then .err .invalidIdLength else
      decodeBody recDec ty idBytes payload) := by
  unfold decode
  simp only [Consts.RPC_MIN_LEN, Consts.RPC_MAX_ID_LEN]
  rw [if_neg (by simp; omega), index_ok _ _ (by simp), Res.ok_bind, sliceFrom_ok _ _ (by simp),
    Res.ok_bind]
  rfl

theorem decode_short (recDec : Bytes → Option Bytes) (b : Bytes) (h : b.length < 3) :
    decode recDec b = .err .inputTooShort := by
  unfold decode
  simp only [Consts.RPC_MIN_LEN]
  rw [if_pos h]

theorem decode_frame (recDec : Bytes → Option Bytes) (ty : UInt8) (id tail : Bytes)
    (htail : tail ≠ []) (hsize : (encodeBytes id ++ tail).length < 2 ^ 64) :
    decode recDec (frame ty (encodeBytes id ++ tail)) =
      if id.length > 8 then .err .invalidIdLength else decodeBody recDec ty id tail := by
  have h1 := encodeBytes_length_pos id
  have h2 : 0 < tail.length := List.length_pos_iff.mpr htail
  have h3 := encodeBytes_length_ge id
  simp only [List.length_append] at hsize
  rw [frame, decode_cons _ _ _ (by simp only [List.length_append]; omega),
    Header.decode_encodeHeader true _ _ (by simp only [List.length_append]; omega) (Nat.le_refl _)
      (fun h => nomatch h), Res.ok_bind]
  dsimp only
  rw [if_neg (by decide), if_neg (fun hn => hn rfl),
    decodeBytes_encodeBytes id tail (by omega), Res.ok_bind]

theorem decode_encode_eq (recDec : Bytes → Option Bytes) (id : Bytes) (b : Body)
    (hsize : (encode ⟨id, b⟩).length < 2 ^ 64) :
    decode recDec (encode ⟨id, b⟩) =
      if id.length > 8 then .err .invalidIdLength else decodeBody recDec b.msgType id b.tail := by
  rw [encode_eq, frame_length] at hsize
  rw [encode_eq]
  exact decode_frame recDec b.msgType id b.tail (tail_ne_nil b) (by dsimp only at hsize ⊢; omega)

theorem tail_size (id : Bytes) (b : Body) (hsize : (encode ⟨id, b⟩).length < 2 ^ 64) :
    b.tail.length < 2 ^ 64 := by
  rw [encode_eq, frame_length] at hsize
  simp only [List.length_append] at hsize
  omega

/-! ### IP addresses -/

/-- The address a 16-byte IP field decodes to: `::1` and addresses that are neither IPv4-mapped
nor IPv4-compatible stay IPv6, the others are folded to IPv4. -/
def ip16 (b : Bytes) : Ip :=
  if isLoopback b then .v6 b else
  match toIpv4 b with
  | some v4 => .v4 v4
  | none => .v6 b

theorem ipOfBytes_eq (b : Bytes) :
    ipOfBytes b =
      if b.length = 4 then .ok (.v4 b) else if b.length = 16 then .ok (ip16 b)
      else .err .badIpLength := by
  unfold ipOfBytes ip16
  simp only [Consts.RPC_IP4_LEN, Consts.RPC_IP6_LEN]
  by_cases h4 : b.length = 4
  · rw [if_pos h4, if_pos h4]
  rw [if_neg h4, if_neg h4]
  by_cases h16 : b.length = 16
  · rw [if_pos h16, if_pos h16]
    by_cases hlo : isLoopback b = true
    · rw [if_pos hlo, if_pos hlo]
    · rw [if_neg hlo, if_neg hlo]
      cases toIpv4 b <;> rfl
  · rw [if_neg h16, if_neg h16]

/-- The length clause of `IpWF`: all that the rejection of a bad IP length speaks of. -/
def IpLenOk : Ip → Prop
  | .v4 b => b.length = 4
  | .v6 b => b.length = 16

theorem ip16_lenOk (b : Bytes) (h : b.length = 16) : IpLenOk (ip16 b) := by
  unfold ip16
  by_cases hlo : isLoopback b = true
  · rw [if_pos hlo]; exact h
  · rw [if_neg hlo]
    cases ht : toIpv4 b with
    | none => exact h
    | some v =>
      unfold toIpv4 at ht
      obtain ⟨_, ht⟩ : _ ∧ some (b.drop 12) = some v := by
        by_cases hc : b.take 10 = List.replicate 10 0 ∧
            ((b.drop 10).take 2 = [0, 0] ∨ (b.drop 10).take 2 = [0xff, 0xff])
        · rw [if_pos hc] at ht; exact ⟨hc, ht⟩
        · rw [if_neg hc] at ht; exact nomatch ht
      cases ht
      show (b.drop 12).length = 4
      rw [List.length_drop, h]

theorem ipOfBytes_wf (ip : Ip) (h : IpWF ip) : ipOfBytes ip.octets = .ok ip := by
  cases ip with
  | v4 b => exact (ipOfBytes_eq b).trans (if_pos h)
  | v6 b =>
    obtain ⟨hl, hf⟩ := h
    show ipOfBytes b = _
    rw [ipOfBytes_eq, if_neg (by omega), if_pos hl, ip16]
    rcases hf with hf | hf
    · rw [if_pos hf]
    · by_cases hlo : isLoopback b = true
      · rw [if_pos hlo]
      · rw [if_neg hlo, hf]

theorem ipOfBytes_ok (b : Bytes) (ip : Ip) (h : ipOfBytes b = .ok ip) :
    IpLenOk ip ∧ (b.length = 4 ∨ b.length = 16) := by
  rw [ipOfBytes_eq] at h
  by_cases h4 : b.length = 4
  · rw [if_pos h4] at h; cases h; exact ⟨h4, Or.inl h4⟩
  · rw [if_neg h4] at h
    by_cases h16 : b.length = 16
    · rw [if_pos h16] at h; cases h; exact ⟨ip16_lenOk b h16, Or.inr h16⟩
    · rw [if_neg h16] at h; exact nomatch h

theorem ipOfBytes_total (b : Bytes) (h : b.length = 4 ∨ b.length = 16) :
    ∃ ip, ipOfBytes b = .ok ip := by
  rw [ipOfBytes_eq]
  by_cases h4 : b.length = 4
  · exact ⟨_, if_pos h4⟩
  · rw [if_neg h4, if_pos (by omega)]; exact ⟨_, rfl⟩

theorem ipOfBytes_bad (b : Bytes) (h4 : b.length ≠ 4) (h16 : b.length ≠ 16) :
    ipOfBytes b = .err .badIpLength := by
  rw [ipOfBytes_eq, if_neg h4, if_neg h16]

theorem ipOfBytes_ne_panic (b : Bytes) : ipOfBytes b ≠ .panic := by
  rw [ipOfBytes_eq]
  exact Res.ite_ne_panic (Res.ok_ne_panic _) <|
    Res.ite_ne_panic (Res.ok_ne_panic _) (Res.err_ne_panic _)

/-! ### the NODES loop -/

theorem record_shape (recDec : Bytes → Option Bytes) (r rest : Bytes) (h : RecordWF recDec r)
    (hlen : r.length < 2 ^ 64) :
    r ≠ [] ∧ ∃ c : Bytes, Header.decode (r ++ rest) = .ok (⟨true, c.length⟩, c ++ rest) ∧
      lengthOfLength c.length + c.length = r.length := by
  obtain ⟨_, c, rfl⟩ := h
  have hc : c.length < 2 ^ 64 := by simp only [List.length_append] at hlen; omega
  refine ⟨by simp [encodeHeader_ne_nil], c, ?_, ?_⟩
  · rw [List.append_assoc]
    exact Header.decode_encodeHeader true _ _ hc (by simp) (by simp)
  · simp [encodeHeader_length]

theorem nodesLoop_step (recDec : Bytes → Option Bytes) (fuel : Nat) (item rest : Bytes) (c : Bytes)
    (hne : item ≠ [])
    (hh : Header.decode (item ++ rest) = .ok (⟨true, c.length⟩, c ++ rest))
    (hl : lengthOfLength c.length + c.length = item.length) :
    nodesLoop recDec (fuel + 1) (item ++ rest) =
      (match recDec item with
      | none => .err .invalidEnr
      | some r => do
        let payload ← advance (item ++ rest) r.length
        let (rs, rest') ← nodesLoop recDec fuel payload
        .ok (r :: rs, rest')) := by
  rw [nodesLoop]
  rw [if_neg (by simp [hne])]
  simp only
  rw [hh, Res.ok_bind]
  simp only [Header.lengthWithPayload, Bool.not_true, Bool.false_eq_true, if_false, hl]
  rw [if_neg (by simp), slice_ok _ _ _ (by omega) (by simp), Res.ok_bind]
  simp only [Nat.sub_zero, List.drop_zero, List.take_left' rfl]
  cases recDec item <;> rfl

/-- Valid records in front of a payload are read off one by one: the loop answers as it does on
the payload behind them (with any sufficient fuel), the records put in front of its result. -/
theorem nodesLoop_prefix (recDec : Bytes → Option Bytes) (pre : List Bytes) (tail : Bytes)
    (t : Res Err (List Bytes × Bytes)) (fuel : Nat) (hwf : ∀ r ∈ pre, RecordWF recDec r)
    (htail : ∀ fuel', tail.length ≤ fuel' → nodesLoop recDec fuel' tail = t)
    (hlen : (pre.flatten ++ tail).length < 2 ^ 64) (hf : (pre.flatten ++ tail).length ≤ fuel) :
    nodesLoop recDec fuel (pre.flatten ++ tail) =
      (do let (rs, rest) ← t; .ok (pre ++ rs, rest)) := by
  induction pre generalizing fuel with
  | nil =>
    rw [List.flatten_nil, List.nil_append] at hf ⊢
    rw [htail fuel hf]
    cases t with
    | ok x => cases x; rfl
    | err e => rfl
    | panic => rfl
  | cons r pre ih =>
    simp only [List.flatten_cons, List.append_assoc, List.length_append] at hlen hf ih ⊢
    have hr := hwf r (by simp)
    obtain ⟨hne, c, hh, hl⟩ := record_shape recDec r (pre.flatten ++ tail) hr (by omega)
    have hpos : 0 < r.length := List.length_pos_iff.mpr hne
    cases fuel with
    | zero => omega
    | succ fuel =>
      rw [nodesLoop_step recDec fuel r _ c hne hh hl, hr.1]
      dsimp only
      rw [advance_ok _ _ (by simp), Res.ok_bind, List.drop_left' rfl,
        ih fuel (fun x hx => hwf x (by simp [hx])) (by omega) (by omega)]
      cases t with
      | ok x => cases x; rfl
      | err e => rfl
      | panic => rfl

theorem nodesLoop_encode (recDec : Bytes → Option Bytes) (rs : List Bytes) (fuel : Nat)
    (hwf : ∀ r ∈ rs, RecordWF recDec r) (hlen : rs.flatten.length < 2 ^ 64)
    (hf : rs.flatten.length ≤ fuel) :
    nodesLoop recDec fuel rs.flatten = .ok (rs, []) := by
  have := nodesLoop_prefix recDec rs [] (.ok ([], [])) fuel hwf
    (fun fuel' _ => by unfold nodesLoop; rfl)
  rw [List.append_nil] at this
  rw [this hlen hf]
  exact congrArg (fun l => Res.ok (l, [])) (List.append_nil rs)

theorem nodesLoop_reject (recDec : Bytes → Option Bytes) (pre : List Bytes) (c post : Bytes)
    (fuel : Nat) (hwf : ∀ r ∈ pre, RecordWF recDec r)
    (hbad : recDec (encodeHeader true c.length ++ c) = none)
    (hlen : (pre.flatten ++ (encodeHeader true c.length ++ c) ++ post).length < 2 ^ 64)
    (hf : (pre.flatten ++ (encodeHeader true c.length ++ c) ++ post).length ≤ fuel) :
    nodesLoop recDec fuel (pre.flatten ++ (encodeHeader true c.length ++ c) ++ post) =
      .err .invalidEnr := by
  rw [List.append_assoc] at hlen hf ⊢
  refine nodesLoop_prefix recDec pre _ (.err .invalidEnr) fuel hwf (fun fuel' hf' => ?_) hlen hf
  have hne : encodeHeader true c.length ++ c ≠ [] := by simp [encodeHeader_ne_nil]
  have hpos : 0 < (encodeHeader true c.length ++ c).length := List.length_pos_iff.mpr hne
  simp only [List.length_append] at hlen hf' hpos
  cases fuel' with
  | zero => omega
  | succ fuel' =>
    rw [nodesLoop_step recDec fuel' _ post c hne
      (by rw [List.append_assoc]
          exact Header.decode_encodeHeader true _ _ (by omega) (by simp) (fun h => nomatch h))
      (by simp [encodeHeader_length]), hbad]

theorem nodesLoop_ne_panic (recDec : Bytes → Option Bytes) (horacle : OracleSound recDec)
    (fuel : Nat) (payload : Bytes) (hf : payload.length ≤ fuel) :
    nodesLoop recDec fuel payload ≠ .panic := by
  induction fuel generalizing payload with
  | zero =>
    cases List.length_eq_zero_iff.mp (Nat.le_zero.mp hf)
    exact Res.ok_ne_panic _
  | succ fuel ih =>
    rw [nodesLoop]
    refine Res.ite_ne_panic (Res.ok_ne_panic _) (Res.bind_ne_panic (Header.decode_ne_panic payload) ?_)
    rintro ⟨nh, r0⟩ _
    refine Res.ite_ne_panic (Res.err_ne_panic _) ?_
    by_cases hsz : nh.lengthWithPayload > payload.length
    · rw [if_pos hsz]; exact Res.err_ne_panic _
    · rw [if_neg hsz, slice_ok _ _ _ (Nat.zero_le _) (by omega), Res.ok_bind]
      cases hrec : recDec (List.take (nh.lengthWithPayload - 0) (List.drop 0 payload)) with
      | none => exact Res.err_ne_panic _
      | some r =>
        -- the oracle's answer is non-empty and not longer than the item: `advance` stays in
        -- range and the remaining payload is shorter
        obtain ⟨hpos, hle⟩ := horacle _ _ hrec
        simp only [Nat.sub_zero, List.drop_zero, List.length_take] at hle
        show (advance payload r.length >>= _) ≠ .panic
        rw [advance_ok _ _ (by omega), Res.ok_bind]
        refine Res.bind_ne_panic (ih _ (by rw [List.length_drop]; omega)) ?_
        rintro ⟨rs, rest⟩ _
        exact Res.ok_ne_panic _

theorem nodesLoop_inv (recDec : Bytes → Option Bytes) (fuel : Nat) (payload : Bytes)
    (rs : List Bytes) (rest : Bytes) (h : nodesLoop recDec fuel payload = .ok (rs, rest)) :
    rest = [] ∧ ∀ r ∈ rs, ∃ item, recDec item = some r := by
  induction fuel generalizing payload rs rest with
  | zero =>
    rw [nodesLoop] at h
    by_cases he : payload.isEmpty
    · rw [if_pos he] at h; cases h; exact ⟨List.isEmpty_iff.mp he, by simp⟩
    · rw [if_neg he] at h; exact nomatch h
  | succ fuel ih =>
    rw [nodesLoop] at h
    by_cases he : payload.isEmpty
    · rw [if_pos he] at h; cases h; exact ⟨List.isEmpty_iff.mp he, by simp⟩
    · rw [if_neg he] at h
      obtain ⟨⟨nh, r0⟩, _, h⟩ := Res.bind_eq_ok.mp h
      obtain ⟨_, h⟩ := Res.ite_err_eq_ok h
      obtain ⟨_, h⟩ := Res.ite_err_eq_ok h
      obtain ⟨item, _, h⟩ := Res.bind_eq_ok.mp h
      cases hrec : recDec item with
      | none => rw [hrec] at h; exact nomatch h
      | some r =>
        rw [hrec] at h
        obtain ⟨p', _, h⟩ := Res.bind_eq_ok.mp h
        obtain ⟨⟨rs', rest'⟩, hloop, h⟩ := Res.bind_eq_ok.mp h
        cases h
        obtain ⟨h1, h2⟩ := ih _ _ _ hloop
        exact ⟨h1, List.forall_mem_cons.mpr ⟨⟨item, hrec⟩, h2⟩⟩

/-! ### `decodeBody` -/

theorem msgType_ping (s : Nat) : (Body.ping s).msgType = 1 := rfl
theorem msgType_pong (s : Nat) (ip : Ip) (p : Nat) : (Body.pong s ip p).msgType = 2 := rfl
theorem msgType_findNode (ds : List Nat) : (Body.findNode ds).msgType = 3 := rfl
theorem msgType_nodes (t : Nat) (rs : List Bytes) : (Body.nodes t rs).msgType = 4 := rfl
theorem msgType_talkReq (p r : Bytes) : (Body.talkReq p r).msgType = 5 := rfl
theorem msgType_talkResp (r : Bytes) : (Body.talkResp r).msgType = 6 := rfl

/-! `_raw`, `_frame`: on encoded fields without `BodyWF`, for the rejection theorems of C06 too. -/

theorem decodeBody_pong_raw (recDec : Bytes → Option Bytes) (id : Bytes) (s : Nat) (o : Bytes)
    (port : Nat) (hs : s < 2 ^ 64) (ho : o.length < 2 ^ 64) (hp : port ≤ 65535) :
    decodeBody recDec 2 id (encodeUint s ++ encodeBytes o ++ encodeUint port) =
      (do
        let ip ← ipOfBytes o
        if port ≠ 0 then .ok ⟨id, .pong s ip port⟩ else .err .zeroPort) := by
  have h3 := decodeU16_encode port [] hp
  rw [List.append_nil] at h3
  unfold decodeBody
  rw [if_neg (by decide), if_pos rfl, List.append_assoc, decodeU64_encode s _ hs, Res.ok_bind]
  dsimp only
  rw [decodeBytes_encodeBytes o _ ho, Res.ok_bind]
  dsimp only
  cases ipOfBytes o with
  | ok ip => rw [Res.ok_bind, Res.ok_bind, h3]; rfl
  | err e => rfl
  | panic => rfl

theorem decodeBody_findNode_raw (recDec : Bytes → Option Bytes) (id : Bytes) (ds : List Nat)
    (hd : ∀ d ∈ ds, d < 2 ^ 64) (hlen : (encodeU64List ds).length < 2 ^ 64) :
    decodeBody recDec 3 id (encodeU64List ds) =
      if ds.any (fun d => decide (d > 256)) then .err .badDistance else .ok ⟨id, .findNode ds⟩ := by
  have hfl : ((ds.map encodeUint).flatten).length < 2 ^ 64 := by
    unfold encodeU64List at hlen
    simp only [List.length_append] at hlen; omega
  have h1 := decodeU64List_encode ds [] hd hfl
  rw [List.append_nil] at h1
  unfold decodeBody
  rw [if_neg (by decide), if_neg (by decide), if_pos rfl, h1]
  rfl

theorem decodeBody_nodes_frame (recDec : Bytes → Option Bytes) (id : Bytes) (total : Nat)
    (payload : Bytes) (ht : total < 2 ^ 64) (hlen : payload.length < 2 ^ 64) :
    decodeBody recDec 4 id (encodeUint total ++ rlpList payload) =
      (do
        let (records, rest) ← nodesLoop recDec payload.length payload
        if !rest.isEmpty then .err .payloadNotEmpty else .ok ⟨id, .nodes total records⟩) := by
  unfold decodeBody rlpList
  rw [if_neg (by decide), if_neg (by decide), if_neg (by decide), if_pos rfl,
    decodeU64_encode total _ ht, Res.ok_bind]
  dsimp only
  rw [Header.decode_encodeHeader true payload.length payload hlen (Nat.le_refl _) (fun h => nomatch h)]
  rfl

theorem decodeBody_tail (recDec : Bytes → Option Bytes) (id : Bytes) (b : Body)
    (hwf : BodyWF recDec b) (hsize : b.tail.length < 2 ^ 64) :
    decodeBody recDec b.msgType id b.tail = .ok ⟨id, b⟩ := by
  cases b with
  | ping s =>
    have h1 := decodeU64_encode s [] hwf
    rw [List.append_nil] at h1
    show decodeBody recDec 1 id (encodeUint s) = _
    unfold decodeBody
    rw [if_pos rfl, h1]
    rfl
  | pong s ip port =>
    obtain ⟨hs, hip, hp1, hp2⟩ := hwf
    have ho : ip.octets.length < 2 ^ 64 := by
      have := (ipOfBytes_ok _ _ (ipOfBytes_wf ip hip)).2
      omega
    rw [msgType_pong, Body.tail, decodeBody_pong_raw recDec id s ip.octets port hs ho hp2,
      ipOfBytes_wf ip hip, Res.ok_bind, if_pos (by omega)]
  | findNode ds =>
    have hd : ∀ d ∈ ds, d < 2 ^ 64 := fun d hd => by
      have := hwf d hd
      omega
    rw [msgType_findNode, Body.tail, decodeBody_findNode_raw recDec id ds hd hsize, if_neg]
    simp only [List.any_eq_true, decide_eq_true_eq, not_exists, not_and]
    exact fun d hd' => Nat.not_lt.mpr (hwf d hd')
  | nodes total rs =>
    obtain ⟨ht, hrs⟩ := hwf
    have hlen : rs.flatten.length < 2 ^ 64 := by
      simp only [Body.tail, rlpList, List.length_append] at hsize; omega
    rw [msgType_nodes, Body.tail, decodeBody_nodes_frame recDec id total _ ht hlen,
      nodesLoop_encode recDec rs _ hrs hlen (Nat.le_refl _), Res.ok_bind]
    rfl
  | talkReq p r =>
    simp only [Body.tail, List.length_append] at hsize
    have := encodeBytes_length_ge p
    have := encodeBytes_length_ge r
    have h2 := decodeBytes_encodeBytes r [] (by omega)
    rw [List.append_nil] at h2
    show decodeBody recDec 5 id (encodeBytes p ++ encodeBytes r) = _
    unfold decodeBody
    rw [if_neg (by decide), if_neg (by decide), if_neg (by decide), if_neg (by decide), if_pos rfl,
      decodeBytes_encodeBytes p _ (by omega), Res.ok_bind]
    dsimp only
    rw [h2]
    rfl
  | talkResp r =>
    have := encodeBytes_length_ge r
    have h2 := decodeBytes_encodeBytes r [] (by simp only [Body.tail] at hsize; omega)
    rw [List.append_nil] at h2
    show decodeBody recDec 6 id (encodeBytes r) = _
    unfold decodeBody
    rw [if_neg (by decide), if_neg (by decide), if_neg (by decide), if_neg (by decide),
      if_neg (by decide), if_pos rfl, h2]
    rfl

theorem decodeBody_ne_panic (recDec : Bytes → Option Bytes) (horacle : OracleSound recDec)
    (ty : UInt8) (id payload : Bytes) : decodeBody recDec ty id payload ≠ .panic := by
  have fin : ∀ (c : Prop) [Decidable c] (m : Message),
      (if c then .err .payloadNotEmpty else .ok m : Res Err Message) ≠ .panic :=
    fun _ _ _ => Res.ite_ne_panic (Res.err_ne_panic _) (Res.ok_ne_panic _)
  unfold decodeBody
  refine Res.ite_ne_panic ?_ <| Res.ite_ne_panic ?_ <| Res.ite_ne_panic ?_ <|
    Res.ite_ne_panic ?_ <| Res.ite_ne_panic ?_ <| Res.ite_ne_panic ?_ (Res.err_ne_panic _)
  · refine Res.bind_ne_panic (decodeUint_ne_panic 8 payload) ?_
    rintro ⟨s, p⟩ _
    exact fin _ _
  · refine Res.bind_ne_panic (decodeUint_ne_panic 8 payload) ?_
    rintro ⟨s, p⟩ _
    refine Res.bind_ne_panic (decodeBytes_ne_panic p false) ?_
    rintro ⟨ipb, p⟩ _
    refine Res.bind_ne_panic (ipOfBytes_ne_panic ipb) fun ip _ => ?_
    refine Res.bind_ne_panic (decodeUint_ne_panic 2 p) ?_
    rintro ⟨port, p⟩ _
    exact Res.ite_ne_panic (fin _ _) (Res.err_ne_panic _)
  · refine Res.bind_ne_panic (decodeU64List_ne_panic payload) ?_
    rintro ⟨ds, p⟩ _
    exact Res.ite_ne_panic (Res.err_ne_panic _) (fin _ _)
  · refine Res.bind_ne_panic (decodeUint_ne_panic 8 payload) ?_
    rintro ⟨s, p⟩ _
    refine Res.bind_ne_panic (Header.decode_ne_panic p) ?_
    rintro ⟨h, p⟩ _
    refine Res.ite_ne_panic (Res.err_ne_panic _) ?_
    refine Res.bind_ne_panic (nodesLoop_ne_panic recDec horacle _ _ (Nat.le_refl _)) ?_
    rintro ⟨rs, p⟩ _
    exact fin _ _
  · refine Res.bind_ne_panic (decodeBytes_ne_panic payload false) ?_
    rintro ⟨a, p⟩ _
    refine Res.bind_ne_panic (decodeBytes_ne_panic p false) ?_
    rintro ⟨b, p⟩ _
    exact fin _ _
  · refine Res.bind_ne_panic (decodeBytes_ne_panic payload false) ?_
    rintro ⟨a, p⟩ _
    exact fin _ _

/-- What `decodeBody` guarantees of an accepted message: `BodyWF` with `IpLenOk` for `IpWF`, and of a
record only that the record decoder returned it (it need not be canonical as `RecordWF` asks). -/
def BodyOk (recDec : Bytes → Option Bytes) : Body → Prop
  | .ping enrSeq => enrSeq < 2 ^ 64
  | .pong enrSeq ip port => enrSeq < 2 ^ 64 ∧ IpLenOk ip ∧ 1 ≤ port ∧ port ≤ 65535
  | .findNode distances => ∀ d ∈ distances, d ≤ 256
  | .nodes total records => total < 2 ^ 64 ∧ ∀ r ∈ records, ∃ item, recDec item = some r
  | .talkReq _ _ => True
  | .talkResp _ => True

theorem decodeBody_sound (recDec : Bytes → Option Bytes) (ty : UInt8) (id payload : Bytes)
    (m : Message) (h : decodeBody recDec ty id payload = .ok m) :
    m.id = id ∧ BodyOk recDec m.body := by
  unfold decodeBody at h
  by_cases h1 : ty = 1
  · rw [if_pos h1] at h
    obtain ⟨⟨s, p⟩, hs, h⟩ := Res.bind_eq_ok.mp h
    obtain ⟨_, h⟩ := Res.ite_err_eq_ok h
    cases h
    exact ⟨rfl, decodeU64_lt _ _ _ hs⟩
  rw [if_neg h1] at h
  by_cases h2 : ty = 2
  · rw [if_pos h2] at h
    obtain ⟨⟨s, p⟩, hs, h⟩ := Res.bind_eq_ok.mp h
    obtain ⟨⟨ipb, p⟩, _, h⟩ := Res.bind_eq_ok.mp h
    obtain ⟨ip, hip, h⟩ := Res.bind_eq_ok.mp h
    obtain ⟨⟨port, p⟩, hport, h⟩ := Res.bind_eq_ok.mp h
    have hp := decodeUint_lt 2 _ _ _ hport
    dsimp only at h
    by_cases hz : port ≠ 0
    · rw [if_pos hz] at h
      obtain ⟨_, h⟩ := Res.ite_err_eq_ok h
      cases h
      exact ⟨rfl, decodeU64_lt _ _ _ hs, (ipOfBytes_ok _ _ hip).1, by omega, by omega⟩
    · rw [if_neg hz] at h; exact nomatch h
  rw [if_neg h2] at h
  by_cases h3 : ty = 3
  · rw [if_pos h3] at h
    obtain ⟨⟨ds, p⟩, _, h⟩ := Res.bind_eq_ok.mp h
    obtain ⟨hany, h⟩ := Res.ite_err_eq_ok h
    obtain ⟨_, h⟩ := Res.ite_err_eq_ok h
    cases h
    refine ⟨rfl, fun d hd => ?_⟩
    simp only [Consts.RPC_MAX_DISTANCE, List.any_eq_true, decide_eq_true_eq, not_exists,
      not_and] at hany
    exact Nat.le_of_not_lt (hany d hd)
  rw [if_neg h3] at h
  by_cases h4 : ty = 4
  · rw [if_pos h4] at h
    obtain ⟨⟨total, p⟩, ht, h⟩ := Res.bind_eq_ok.mp h
    obtain ⟨⟨hd, p⟩, _, h⟩ := Res.bind_eq_ok.mp h
    obtain ⟨_, h⟩ := Res.ite_err_eq_ok h
    obtain ⟨⟨rs, p⟩, hloop, h⟩ := Res.bind_eq_ok.mp h
    obtain ⟨_, h⟩ := Res.ite_err_eq_ok h
    cases h
    exact ⟨rfl, decodeU64_lt _ _ _ ht, (nodesLoop_inv _ _ _ _ _ hloop).2⟩
  rw [if_neg h4] at h
  by_cases h5 : ty = 5
  · rw [if_pos h5] at h
    obtain ⟨⟨a, p⟩, _, h⟩ := Res.bind_eq_ok.mp h
    obtain ⟨⟨b, p⟩, _, h⟩ := Res.bind_eq_ok.mp h
    obtain ⟨_, h⟩ := Res.ite_err_eq_ok h
    cases h
    exact ⟨rfl, trivial⟩
  rw [if_neg h5] at h
  by_cases h6 : ty = 6
  · rw [if_pos h6] at h
    obtain ⟨⟨a, p⟩, _, h⟩ := Res.bind_eq_ok.mp h
    obtain ⟨_, h⟩ := Res.ite_err_eq_ok h
    cases h
    exact ⟨rfl, trivial⟩
  rw [if_neg h6] at h
  exact nomatch h

/-! ### accepted messages -/

theorem decode_inv (recDec : Bytes → Option Bytes) (b : Bytes) (m : Message)
    (h : decode recDec b = .ok m) :
    ∃ ty p hd payload idB rest, b = ty :: p ∧ 2 ≤ p.length ∧
      Header.decode p = .ok (hd, payload) ∧ hd.list = true ∧ hd.len = payload.length ∧
      decodeBytes payload false = .ok (idB, rest) ∧ idB.length ≤ 8 ∧
      decodeBody recDec ty idB rest = .ok m := by
  by_cases hlen : b.length < 3
  · rw [decode_short _ _ hlen] at h; simp at h
  · match b, hlen with
    | ty :: p, hlen =>
      have hp : 2 ≤ p.length := by simp at hlen; omega
      rw [decode_cons _ _ _ hp] at h
      obtain ⟨⟨hd, payload⟩, hh, h⟩ := Res.bind_eq_ok.mp h
      simp only at h
      obtain ⟨hl, h⟩ := Res.ite_err_eq_ok h
      obtain ⟨hx, h⟩ := Res.ite_err_eq_ok h
      obtain ⟨⟨idB, rest⟩, hid, h⟩ := Res.bind_eq_ok.mp h
      simp only at h
      obtain ⟨hi, h⟩ := Res.ite_err_eq_ok h
      exact ⟨ty, p, hd, payload, idB, rest, rfl, hp, hh, by simpa using hl, by simpa using hx, hid,
        by omega, h⟩

theorem decode_sound (recDec : Bytes → Option Bytes) (b : Bytes) (m : Message)
    (h : decode recDec b = .ok m) : m.id.length ≤ 8 ∧ BodyOk recDec m.body := by
  obtain ⟨ty, p, hd, payload, idB, rest, _, _, _, _, _, _, hid, hbody⟩ := decode_inv recDec b m h
  obtain ⟨hm, hok⟩ := decodeBody_sound recDec ty idB rest m hbody
  exact ⟨hm ▸ hid, hok⟩

theorem decode_ne_panic (recDec : Bytes → Option Bytes) (horacle : OracleSound recDec)
    (b : Bytes) : decode recDec b ≠ .panic := by
  by_cases hlen : b.length < 3
  · rw [decode_short _ _ hlen]; exact Res.err_ne_panic _
  · match b, hlen with
    | ty :: p, hlen =>
      rw [decode_cons _ _ _ (by simp at hlen; omega)]
      refine Res.bind_ne_panic (Header.decode_ne_panic p) ?_
      rintro ⟨hd, payload⟩ _
      refine Res.ite_ne_panic (Res.err_ne_panic _) <| Res.ite_ne_panic (Res.err_ne_panic _) <|
        Res.bind_ne_panic (decodeBytes_ne_panic payload false) ?_
      rintro ⟨idB, rest⟩ _
      exact Res.ite_ne_panic (Res.err_ne_panic _) (decodeBody_ne_panic recDec horacle ty idB rest)

end Discv5.Rpc
