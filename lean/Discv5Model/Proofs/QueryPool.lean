/-
The query pool (`query_pool.rs`): ids are unique and below the id counter, `poll` hands a query back at
most once, and the pool touches its queries only through `next` / `on_success` / `on_failure` (`Later`).
The loop of `poll` is handled once, by the rule that what survives a visit survives the loop; histories by
one induction that carries an invariant of the pool and a property of the return values.
-/
import Discv5Model.Proofs.QueryLemmas

namespace Discv5.Query

def Pool.ids (p : Pool) : List Nat := p.queries.map (·.id)

structure PoolInv (p : Pool) : Prop where
  nodup : p.ids.Nodup
  lt : ∀ i ∈ p.ids, i < p.nextId

def adds : List PEv → Nat
  | [] => 0
  | .add _ _ _ _ :: evs => adds evs + 1
  | _ :: evs => adds evs

/-- The id counter does not wrap around along the history. -/
def NoWrap (p : Pool) (evs : List PEv) : Prop := p.nextId + adds evs < idModulus

def retId : PoolOut → Option Nat
  | .finished i _ => some i
  | .timeout i _ => some i
  | _ => none

/-- The query carried by a `Finished` / `Timeout` return value. -/
def retQuery : PoolOut → Option Q
  | .finished _ q => some q
  | .timeout _ q => some q
  | _ => none

def mentions (r : Nat) : PoolOut → Bool
  | .waitingSome i _ => i == r
  | .finished i _ => i == r
  | .timeout i _ => i == r
  | _ => false

theorem mentions_of_retId {o : PoolOut} {r : Nat} (h : retId o = some r) : mentions r o = true := by
  cases o <;> simp_all [retId, mentions]

/-- Ids handed back by `poll` (as `Finished` or `Timeout`) along a history. -/
def returned (p : Pool) (evs : List PEv) : List Nat := (outsP p evs).filterMap retId

/-- Is this query past the pool's timeout at `now` (as `poll` computes it)? -/
def TimedOut (timeout now : Nat) (x : PQ) : Prop := now - x.started.getD now ≥ timeout

theorem timedOut_replace {timeout now : Nat} {x : PQ} (q' : Q) (h : TimedOut timeout now x) :
    TimedOut timeout now { x with q := q', started := some (x.started.getD now) } := h

/-- `q` is the state of some query after some history of `next` / `on_success` / `on_failure`
calls from its constructor. -/
def Reach (q : Q) : Prop :=
  ∃ v cfg t known evs, q = runQ (withConfig v cfg t known) evs

theorem Reach.run {q : Q} (h : Reach q) (evs' : List Ev) : Reach (runQ q evs') := by
  obtain ⟨v, cfg, t, known, evs, rfl⟩ := h
  exact ⟨v, cfg, t, known, evs ++ evs', (runQ_append _ _ _).symm⟩

theorem replaceQ_ids (x : PQ) (qs : List PQ) : (replaceQ x qs).map (·.id) = qs.map (·.id) := by
  unfold replaceQ
  rw [List.map_map]
  apply List.map_congr_left
  intro y _
  by_cases h : y.id = x.id <;> simp [h]

theorem mem_replaceQ {x' y : PQ} {qs : List PQ} (h : y ∈ replaceQ x' qs) :
    y = x' ∨ (y ∈ qs ∧ y.id ≠ x'.id) := by
  unfold replaceQ at h
  obtain ⟨z, hz, rfl⟩ := List.mem_map.mp h
  by_cases hzi : z.id = x'.id
  · rw [if_pos hzi]; exact Or.inl rfl
  · rw [if_neg hzi]; exact Or.inr ⟨hz, hzi⟩

theorem find_id {qs : List PQ} {i : Nat} {x : PQ} (h : qs.find? (fun y => y.id == i) = some x) :
    x ∈ qs ∧ x.id = i :=
  ⟨List.mem_of_find?_eq_some h, by simpa using List.find?_some h⟩

theorem find_none_id {qs : List PQ} {i : Nat} (h : qs.find? (fun y => y.id == i) = none) :
    i ∉ qs.map (·.id) := by
  intro hi
  obtain ⟨y, hy, hyi⟩ := List.mem_map.mp hi
  have := List.find?_eq_none.mp h y hy
  simp [hyi] at this

theorem find_replaceQ {qs : List PQ} {x x' : PQ} (hx : x ∈ qs) (hid : x'.id = x.id) :
    (replaceQ x' qs).find? (fun y => y.id == x.id) = some x' := by
  induction qs with
  | nil => cases hx
  | cons y ys ih =>
    unfold replaceQ
    simp only [List.map_cons]
    by_cases hy : y.id = x'.id
    · rw [if_pos hy, List.find?_cons]
      simp [hid]
    · rw [if_neg hy, List.find?_cons]
      have : (y.id == x.id) = false := by simp; rw [← hid]; exact hy
      rw [this]
      rcases List.mem_cons.mp hx with rfl | hx'
      · exact absurd hid.symm hy
      · exact ih hx'

theorem removeQ_ids (i : Nat) (qs : List PQ) : (removeQ i qs).map (·.id) = (qs.map (·.id)).filter (· != i) := by
  unfold removeQ
  induction qs with
  | nil => rfl
  | cons y ys ih => by_cases h : y.id = i <;> simp [h, ih]

theorem mem_removeQ {i : Nat} {qs : List PQ} {y : PQ} (h : y ∈ removeQ i qs) : y ∈ qs :=
  (List.mem_filter.mp h).1

theorem removeQ_find_none (i : Nat) (qs : List PQ) : (removeQ i qs).find? (fun y => y.id == i) = none := by
  rw [List.find?_eq_none]
  intro y hy
  simpa using (List.mem_filter.mp hy).2

theorem mem_filter_ne {l : List Nat} {i x : Nat} : x ∈ l.filter (· != i) ↔ x ∈ l ∧ x ≠ i := by
  simp [List.mem_filter]

theorem length_filter_ne_lt {l : List Nat} {i : Nat} (h : i ∈ l) : (l.filter (· != i)).length < l.length :=
  List.length_filter_lt_length_iff_exists.mpr ⟨i, h, by simp⟩

/-- What the loop of `poll` does to a query it visits. -/
abbrev visit (now : Nat) (x : PQ) : PQ :=
  { x with q := (next x.q now).1, started := some (x.started.getD now) }

/-- The id of the query at which the loop of `poll` stopped. -/
def Brk.id? : Brk → Option Nat
  | .none => Option.none
  | .fin i => some i
  | .wait i _ => some i
  | .tmo i => some i

/-- A property of the list of queries that survives every visit survives the loop, and held of the list
in which the loop found the query it broke at. -/
theorem pollLoop_induct (timeout now : Nat) {P : List PQ → Prop}
    (hP : ∀ qs x, P qs → x ∈ qs → P (replaceQ (visit now x) qs)) :
    ∀ (order : List Nat) (qs : List PQ), P qs → P (pollLoop timeout now order qs).1 ∧
      ∀ j, (pollLoop timeout now order qs).2.id? = some j → ∃ qs', P qs' ∧ j ∈ qs'.map (·.id)
  | [], _, h => ⟨h, fun _ hj => nomatch hj⟩
  | i :: rest, qs, h => by
    unfold pollLoop
    cases hfind : qs.find? (fun x => x.id == i) with
    | none => exact pollLoop_induct timeout now hP rest qs h
    | some x =>
      obtain ⟨hx, hxi⟩ := find_id hfind
      have h' := hP qs x h hx
      have hbrk : ∀ j, some i = some j → ∃ qs', P qs' ∧ j ∈ qs'.map (·.id) :=
        fun j hj => ⟨qs, h, Option.some.inj hj ▸ List.mem_map.mpr ⟨x, hx, hxi⟩⟩
      dsimp only
      split
      · exact ⟨h', hbrk⟩
      · exact ⟨h', hbrk⟩
      · split
        · exact ⟨h', hbrk⟩
        · exact pollLoop_induct timeout now hP rest _ h'

theorem pollLoop_ids (timeout now : Nat) (order : List Nat) (qs : List PQ) :
    (pollLoop timeout now order qs).1.map (·.id) = qs.map (·.id) ∧
    ∀ j, (pollLoop timeout now order qs).2.id? = some j → j ∈ qs.map (·.id) := by
  obtain ⟨h1, h2⟩ := pollLoop_induct timeout now (P := fun qs' => qs'.map (·.id) = qs.map (·.id))
    (fun _ _ h _ => (replaceQ_ids _ _).trans h) order qs rfl
  exact ⟨h1, fun j hj => by obtain ⟨qs', hP, hj'⟩ := h2 j hj; exact hP ▸ hj'⟩

theorem pollLoop_breaks (timeout now : Nat) : ∀ (order : List Nat) (qs : List PQ),
    (∀ x ∈ qs, TimedOut timeout now x) → (∃ i ∈ order, i ∈ qs.map (·.id)) →
    (pollLoop timeout now order qs).2 ≠ .none
  | [], qs, _, ⟨i, hi, _⟩ => by cases hi
  | j :: rest, qs, hall, ⟨i, hi, him⟩ => by
    unfold pollLoop
    cases hfind : qs.find? (fun x => x.id == j) with
    | none =>
      apply pollLoop_breaks timeout now rest qs hall
      rcases List.mem_cons.mp hi with rfl | hi'
      · exact absurd him (find_none_id hfind)
      · exact ⟨i, hi', him⟩
    | some x =>
      have hto : now - x.started.getD now ≥ timeout := hall x (find_id hfind).1
      dsimp only
      split
      · simp
      · simp
      · rw [if_pos hto]; simp

/-- `poll` either keeps every query and hands none back, or hands back one of the queries its loop
left and removes it. -/
theorem poll_cases (p : Pool) (now : Nat) (order : List Nat) :
    ((p.poll now order).1 = { p with queries := (pollLoop p.timeout now order p.queries).1 } ∧
      retId (p.poll now order).2 = none ∧ retQuery (p.poll now order).2 = none ∧
      (∀ r, mentions r (p.poll now order).2 = true → r ∈ p.ids) ∧
      ((pollLoop p.timeout now order p.queries).2 = .none ∨ ∃ i k, (p.poll now order).2 = .waitingSome i k)) ∨
    (∃ x ∈ (pollLoop p.timeout now order p.queries).1,
      (p.poll now order).1 = { p with queries := removeQ x.id (pollLoop p.timeout now order p.queries).1 } ∧
      ((p.poll now order).2 = .finished x.id x.q ∨ (p.poll now order).2 = .timeout x.id x.q)) := by
  -- the loop breaks at a query of the pool, so the `expect` in the `fin` / `tmo` arms cannot fail
  have hbrk : ∀ i, (pollLoop p.timeout now order p.queries).2.id? = some i →
      (pollLoop p.timeout now order p.queries).1.find? (fun x => x.id == i) ≠ none :=
    fun i hi hfind => find_none_id hfind
      ((pollLoop_ids p.timeout now order p.queries).1 ▸ (pollLoop_ids p.timeout now order p.queries).2 i hi)
  unfold Pool.poll
  dsimp only
  cases hb : (pollLoop p.timeout now order p.queries).2 with
  | none =>
    dsimp only
    refine Or.inl ⟨rfl, ?_, ?_, ?_, Or.inl rfl⟩ <;>
      by_cases he : (pollLoop p.timeout now order p.queries).1.isEmpty = true <;>
      simp [he, retId, retQuery, mentions]
  | wait i k =>
    refine Or.inl ⟨rfl, rfl, rfl, fun r hr => ?_, Or.inr ⟨i, k, rfl⟩⟩
    simp [mentions] at hr
    rw [← hr]; exact (pollLoop_ids _ _ _ _).2 i (by rw [hb]; rfl)
  | fin i =>
    dsimp only
    cases hfind : (pollLoop p.timeout now order p.queries).1.find? (fun x => x.id == i) with
    | none => exact absurd hfind (hbrk i (by rw [hb]; rfl))
    | some x => obtain ⟨hx, rfl⟩ := find_id hfind; exact Or.inr ⟨x, hx, rfl, Or.inl rfl⟩
  | tmo i =>
    dsimp only
    cases hfind : (pollLoop p.timeout now order p.queries).1.find? (fun x => x.id == i) with
    | none => exact absurd hfind (hbrk i (by rw [hb]; rfl))
    | some x => obtain ⟨hx, rfl⟩ := find_id hfind; exact Or.inr ⟨x, hx, rfl, Or.inr rfl⟩

theorem poll_spec (p : Pool) (now : Nat) (order : List Nat) :
    (p.poll now order).1.nextId = p.nextId ∧
    (((p.poll now order).1.ids = p.ids ∧ retId (p.poll now order).2 = none ∧
        (∀ r, mentions r (p.poll now order).2 = true → r ∈ p.ids) ∧
        ((pollLoop p.timeout now order p.queries).2 = .none ∨ ∃ i k, (p.poll now order).2 = .waitingSome i k)) ∨
     (∃ i, retId (p.poll now order).2 = some i ∧ i ∈ p.ids ∧
        (p.poll now order).1.ids = p.ids.filter (· != i) ∧
        ∀ r, mentions r (p.poll now order).2 = true → r = i)) := by
  have hids := (pollLoop_ids p.timeout now order p.queries).1
  rcases poll_cases p now order with ⟨h1, h2, _, h3⟩ | ⟨x, hx, h1, h2⟩
  · rw [h1]; exact ⟨rfl, Or.inl ⟨hids, h2, h3⟩⟩
  · rw [h1]
    have hxi : x.id ∈ p.ids := by
      show x.id ∈ p.queries.map (·.id)
      rw [← hids]; exact List.mem_map.mpr ⟨x, hx, rfl⟩
    refine ⟨rfl, Or.inr ⟨x.id, ?_, hxi, ?_, ?_⟩⟩
    · rcases h2 with h2 | h2 <;> rw [h2] <;> rfl
    · show (removeQ x.id _).map (·.id) = _
      rw [removeQ_ids, hids]; rfl
    · intro r hr
      rcases h2 with h2 | h2 <;> rw [h2] at hr <;> simp [mentions] at hr <;> exact hr.symm

theorem poll_timed_out_first (p : Pool) (now i : Nat) (rest : List Nat) (x : PQ)
    (hx : p.get i = some x) (hto : TimedOut p.timeout now x) :
    (∃ k, (p.poll now (i :: rest)).2 = .waitingSome i k) ∨
    ((∃ q, (p.poll now (i :: rest)).2 = .finished i q ∨ (p.poll now (i :: rest)).2 = .timeout i q) ∧
      (p.poll now (i :: rest)).1.get i = none) := by
  have hfind : p.queries.find? (fun y => y.id == i) = some x := hx
  obtain ⟨hxm, hxi⟩ := find_id hfind
  subst hxi
  have hto' : now - x.started.getD now ≥ p.timeout := hto
  have hfind' := find_replaceQ (x' := visit now x) hxm rfl
  unfold Pool.poll pollLoop
  rw [hfind]
  dsimp only
  cases hst : (next x.q now).2 with
  | finished =>
    dsimp only
    rw [hfind']
    exact Or.inr ⟨⟨_, Or.inl rfl⟩, removeQ_find_none _ _⟩
  | waitingAtCapacity =>
    dsimp only
    rw [if_pos hto']
    dsimp only
    rw [hfind']
    exact Or.inr ⟨⟨_, Or.inr rfl⟩, removeQ_find_none _ _⟩
  | waiting o =>
    cases o with
    | some k => exact Or.inl ⟨k, rfl⟩
    | none =>
      dsimp only
      rw [if_pos hto']
      dsimp only
      rw [hfind']
      exact Or.inr ⟨⟨_, Or.inr rfl⟩, removeQ_find_none _ _⟩

theorem poll_all_timed_out (p : Pool) (now : Nat) (order : List Nat)
    (hall : ∀ x ∈ p.queries, TimedOut p.timeout now x) (hord : ∃ i ∈ order, i ∈ p.ids) :
    (∃ i k, (p.poll now order).2 = .waitingSome i k) ∨
    (∃ i, retId (p.poll now order).2 = some i ∧ (p.poll now order).1.ids.length < p.ids.length) := by
  obtain ⟨_, ⟨_, _, _, hnone | hwait⟩ | ⟨i, hret, hi, hids', _⟩⟩ := poll_spec p now order
  · exact absurd hnone (pollLoop_breaks p.timeout now order p.queries hall hord)
  · exact Or.inl hwait
  · exact Or.inr ⟨i, hret, by rw [hids']; exact length_filter_ne_lt hi⟩

/-- `get_mut(id).map(|q| f(q))`: what `on_success` and `on_failure` do at the level of the pool. -/
def Pool.modify (p : Pool) (id : Nat) (f : Q → Q) : Pool :=
  match p.get id with
  | none => p
  | some x => { p with queries := replaceQ { x with q := f x.q } p.queries }

theorem modify_cases (p : Pool) (id : Nat) (f : Q → Q) :
    p.modify id f = p ∨ ∃ x ∈ p.queries, p.modify id f = { p with queries := replaceQ { x with q := f x.q } p.queries } := by
  unfold Pool.modify
  cases hg : p.get id with
  | none => exact Or.inl rfl
  | some x => exact Or.inr ⟨x, (find_id hg).1, rfl⟩

theorem modify_ids (p : Pool) (id : Nat) (f : Q → Q) :
    (p.modify id f).ids = p.ids ∧ (p.modify id f).nextId = p.nextId ∧ (p.modify id f).timeout = p.timeout := by
  rcases modify_cases p id f with h | ⟨x, _, h⟩ <;> rw [h]
  · exact ⟨rfl, rfl, rfl⟩
  · exact ⟨replaceQ_ids _ _, rfl, rfl⟩

theorem add_ids (p : Pool) (q : Q) :
    (p.add q).1.ids = p.nextId :: p.ids.filter (· != p.nextId) ∧
    (p.add q).1.nextId = (p.nextId + 1) % idModulus := by
  refine ⟨?_, rfl⟩
  show (_ :: (removeQ p.nextId p.queries).map (·.id)) = _
  rw [removeQ_ids]; rfl

theorem stepP_keeps (p : Pool) (ev : PEv) (hev : adds [ev] = 0) :
    (stepP p ev).1.nextId = p.nextId ∧ (stepP p ev).1.ids.Sublist p.ids := by
  cases ev with
  | add v cfg t known => simp [adds] at hev
  | poll now order =>
    obtain ⟨hn, ⟨hids, _⟩ | ⟨i, _, _, hids, _⟩⟩ := poll_spec p now order
    · exact ⟨hn, hids ▸ List.Sublist.refl _⟩
    · exact ⟨hn, hids ▸ List.filter_sublist⟩
  | success id peer closer =>
    obtain ⟨hids, hn, _⟩ := modify_ids p id (onSuccess · peer closer)
    exact ⟨hn, hids ▸ List.Sublist.refl _⟩
  | failure id peer =>
    obtain ⟨hids, hn, _⟩ := modify_ids p id (onFailure · peer)
    exact ⟨hn, hids ▸ List.Sublist.refl _⟩

theorem stepP_spec {p : Pool} (h : PoolInv p) (ev : PEv) (hw : NoWrap p [ev]) :
    PoolInv (stepP p ev).1 ∧
    (stepP p ev).1.nextId = p.nextId + adds [ev] ∧
    (∀ i ∈ (stepP p ev).1.ids, i ∈ p.ids ∨ p.nextId ≤ i) ∧
    (∀ o, (stepP p ev).2 = some o →
      (∀ r, mentions r o = true → r ∈ p.ids) ∧
      (∀ r, retId o = some r → r ∈ p.ids ∧ r ∉ (stepP p ev).1.ids)) := by
  -- every event but `add` keeps the id counter and at most removes ids
  by_cases hev : adds [ev] = 0
  · obtain ⟨hn, hs⟩ := stepP_keeps p ev hev
    refine ⟨⟨h.nodup.sublist hs, fun i hi => hn ▸ h.lt i (hs.subset hi)⟩, by rw [hn, hev]; rfl,
      fun i hi => Or.inl (hs.subset hi), fun o ho => ?_⟩
    cases ev with
    | poll now order =>
      cases ho
      obtain ⟨_, ⟨_, hret, hmen, _⟩ | ⟨i, hret, hi, hids, hmen⟩⟩ := poll_spec p now order
      · exact ⟨hmen, fun r hr => by rw [hret] at hr; cases hr⟩
      · refine ⟨fun r hr => hmen r hr ▸ hi, fun r hr => ?_⟩
        rw [hret] at hr; cases hr
        exact ⟨hi, fun hm => (mem_filter_ne.mp (hids ▸ hm)).2 rfl⟩
    | _ => cases ho
  · cases ev with
    | add v cfg t known =>
      obtain ⟨hids, hn⟩ := add_ids p (withConfig v cfg t known)
      have hw' : p.nextId + 1 < idModulus := by simpa [NoWrap, adds] using hw
      have hn' : (p.add (withConfig v cfg t known)).1.nextId = p.nextId + 1 := by
        rw [hn]; exact Nat.mod_eq_of_lt hw'
      have hmem : ∀ i ∈ (p.add (withConfig v cfg t known)).1.ids, i = p.nextId ∨ i ∈ p.ids := by
        intro i hi
        rw [hids] at hi
        exact (List.mem_cons.mp hi).imp_right fun hi' => (mem_filter_ne.mp hi').1
      refine ⟨⟨?_, ?_⟩, hn', ?_, fun o ho => by cases ho⟩
      · show (p.add (withConfig v cfg t known)).1.ids.Nodup
        rw [hids]
        exact List.nodup_cons.mpr ⟨fun hm => (mem_filter_ne.mp hm).2 rfl, h.nodup.sublist List.filter_sublist⟩
      · intro i hi
        show i < (p.add (withConfig v cfg t known)).1.nextId
        rw [hn']
        rcases hmem i hi with rfl | hi'
        · omega
        · have := h.lt i hi'; omega
      · intro i hi
        rcases hmem i hi with rfl | hi'
        · exact Or.inr (Nat.le_refl _)
        · exact Or.inl hi'
    | _ => exact absurd rfl hev

theorem adds_cons (ev : PEv) (evs : List PEv) : adds (ev :: evs) = adds [ev] + adds evs := by
  cases ev <;> simp [adds] <;> omega

theorem noWrap_head {p : Pool} {ev : PEv} {evs : List PEv} (h : NoWrap p (ev :: evs)) : NoWrap p [ev] := by
  unfold NoWrap at *; rw [adds_cons] at h
  have : adds [ev] = adds [ev] + adds [] := by simp [adds]
  omega

theorem noWrap_tail {p : Pool} (hp : PoolInv p) {ev : PEv} {evs : List PEv} (h : NoWrap p (ev :: evs)) :
    NoWrap (stepP p ev).1 evs := by
  have := (stepP_spec hp ev (noWrap_head h)).2.1
  unfold NoWrap at *; rw [adds_cons] at h; omega

theorem outsP_cons (p : Pool) (ev : PEv) (evs : List PEv) :
    outsP p (ev :: evs) = (stepP p ev).2.toList ++ outsP (stepP p ev).1 evs := by
  show (match (stepP p ev).2 with | some o => o :: outsP (stepP p ev).1 evs | none => outsP (stepP p ev).1 evs) = _
  cases (stepP p ev).2 <;> rfl

/-- Along a history, an invariant `I` of the pool and the events still to come that every event keeps
holds at every point, and what it says of one step's return value (`O`) holds of every return value. -/
theorem runP_trace {I : Pool → List PEv → Prop} {O : PoolOut → Prop}
    (hI : ∀ p ev evs, I p (ev :: evs) → I (stepP p ev).1 evs ∧ ∀ o, (stepP p ev).2 = some o → O o) :
    ∀ (evs : List PEv) (p : Pool), I p evs →
      (∀ pre post, evs = pre ++ post → I (runP p pre) post) ∧ ∀ o ∈ outsP p evs, O o
  | [], p, h => by
    refine ⟨fun pre post he => ?_, fun o ho => nomatch ho⟩
    obtain ⟨rfl, rfl⟩ := List.append_eq_nil_iff.mp he.symm
    exact h
  | ev :: evs, p, h => by
    obtain ⟨h1, h2⟩ := hI p ev evs h
    obtain ⟨i1, i2⟩ := runP_trace hI evs _ h1
    refine ⟨fun pre post he => ?_, fun o ho => ?_⟩
    · cases pre with
      | nil => cases he; exact h
      | cons a as => obtain ⟨rfl, he'⟩ := List.cons.inj he; exact i1 as post he'
    · rw [outsP_cons] at ho
      rcases List.mem_append.mp ho with h' | h'
      · exact h2 o (Option.mem_toList.mp h')
      · exact i2 o h'

/-- The same where the pool invariant holds and the id counter does not wrap. -/
theorem runP_inv {J : Pool → Prop} {O : PoolOut → Prop}
    (hJ : ∀ p ev, PoolInv p → NoWrap p [ev] → J p → J (stepP p ev).1 ∧ ∀ o, (stepP p ev).2 = some o → O o)
    (evs : List PEv) (p : Pool) (hp : PoolInv p) (hw : NoWrap p evs) (h : J p) :
    (∀ pre post, evs = pre ++ post → PoolInv (runP p pre) ∧ J (runP p pre)) ∧ ∀ o ∈ outsP p evs, O o := by
  obtain ⟨h1, h2⟩ := runP_trace (I := fun p evs => PoolInv p ∧ NoWrap p evs ∧ J p) (O := O)
    (fun p ev evs ⟨hp, hw, h⟩ =>
      ⟨⟨(stepP_spec hp ev (noWrap_head hw)).1, noWrap_tail hp hw, (hJ p ev hp (noWrap_head hw) h).1⟩,
        (hJ p ev hp (noWrap_head hw) h).2⟩) evs p ⟨hp, hw, h⟩
  exact ⟨fun pre post he => ⟨(h1 pre post he).1, (h1 pre post he).2.2⟩, h2⟩

theorem absent_forever {p : Pool} (hp : PoolInv p) (r : Nat) (evs : List PEv) (hw : NoWrap p evs)
    (hr : r ∉ p.ids) (hlt : r < p.nextId) :
    (∀ o ∈ outsP p evs, mentions r o = false) ∧
    (∀ pre post, evs = pre ++ post → r ∉ (runP p pre).ids) := by
  obtain ⟨h1, h2⟩ := runP_inv (J := fun p => r ∉ p.ids ∧ r < p.nextId) (O := fun o => mentions r o = false)
    (fun p ev hp hw h => by
      obtain ⟨_, hn, hids, hout⟩ := stepP_spec hp ev hw
      refine ⟨⟨fun hm => ?_, by omega⟩, fun o ho => Bool.eq_false_iff.mpr fun hm => h.1 ((hout o ho).1 r hm)⟩
      rcases hids r hm with h1 | h1
      · exact h.1 h1
      · omega) evs p hp hw ⟨hr, hlt⟩
  exact ⟨h2, fun pre post he => (h1 pre post he).2.1⟩

/-- `y` is the query `x` of the pool at a later time: driven through `next` / `on_success` / `on_failure`
only, `started` written only where it was not set. -/
def Later (x y : PQ) : Prop :=
  y.id = x.id ∧ (∃ evs, y.q = runQ x.q evs) ∧ ∀ s, x.started = some s → y.started = some s

theorem Later.refl (x : PQ) : Later x x := ⟨rfl, ⟨[], rfl⟩, fun _ h => h⟩

theorem Later.trans {x y z : PQ} (h1 : Later x y) (h2 : Later y z) : Later x z := by
  obtain ⟨e1, h1q⟩ := h1.2.1
  obtain ⟨e2, h2q⟩ := h2.2.1
  exact ⟨h2.1.trans h1.1, ⟨e1 ++ e2, by rw [h2q, h1q, runQ_append]⟩, fun s hs => h2.2.2 s (h1.2.2 s hs)⟩

theorem later_visit (now : Nat) (x : PQ) : Later x (visit now x) :=
  ⟨rfl, ⟨[.next now], rfl⟩, fun s h => by show some (x.started.getD now) = some s; rw [h]; rfl⟩

theorem later_replaceQ {qs0 qs : List PQ} (h : ∀ y ∈ qs, ∃ x ∈ qs0, Later x y) {x x' : PQ}
    (hx : x ∈ qs) (hxx : Later x x') : ∀ y ∈ replaceQ x' qs, ∃ x0 ∈ qs0, Later x0 y := by
  intro y hy
  rcases mem_replaceQ hy with rfl | ⟨hy', _⟩
  · obtain ⟨x0, h0, hl⟩ := h x hx
    exact ⟨x0, h0, hl.trans hxx⟩
  · exact h y hy'

theorem pollLoop_later (timeout now : Nat) (order : List Nat) (qs : List PQ) :
    ∀ y ∈ (pollLoop timeout now order qs).1, ∃ x ∈ qs, Later x y :=
  (pollLoop_induct timeout now (P := fun qs' => ∀ y ∈ qs', ∃ x ∈ qs, Later x y)
    (fun _ x h hx => later_replaceQ h hx (later_visit now x)) order qs (fun y hy => ⟨y, hy, Later.refl y⟩)).1

theorem stepP_later (p : Pool) (ev : PEv) :
    (∀ y ∈ (stepP p ev).1.queries, (∃ x ∈ p.queries, Later x y) ∨
      (y.id = p.nextId ∧ ∃ v cfg t known, y.q = withConfig v cfg t known)) ∧
    (∀ o q, (stepP p ev).2 = some o → retQuery o = some q → ∃ x ∈ p.queries, ∃ evs, q = runQ x.q evs) := by
  have same : ∀ y ∈ p.queries, ∃ x ∈ p.queries, Later x y := fun y hy => ⟨y, hy, Later.refl y⟩
  have hmod : ∀ (id : Nat) (ev : Ev), ∀ y ∈ (p.modify id (fun q => (stepQ q ev).1)).queries,
      ∃ x ∈ p.queries, Later x y := by
    intro id ev
    rcases modify_cases p id (fun q => (stepQ q ev).1) with h | ⟨x, hx, h⟩ <;> rw [h]
    · exact same
    · exact later_replaceQ same hx ⟨rfl, ⟨[ev], rfl⟩, fun _ hs => hs⟩
  cases ev with
  | add v cfg t known =>
    refine ⟨fun y hy => ?_, fun o q ho => by cases ho⟩
    have hy' : y ∈ (⟨p.nextId, withConfig v cfg t known, none⟩ : PQ) :: removeQ p.nextId p.queries := hy
    rcases List.mem_cons.mp hy' with rfl | h'
    · exact Or.inr ⟨rfl, v, cfg, t, known, rfl⟩
    · exact Or.inl (same y (mem_removeQ h'))
  | poll now order =>
    have hl := pollLoop_later p.timeout now order p.queries
    show (∀ y ∈ (p.poll now order).1.queries, _) ∧ ∀ o q, some (p.poll now order).2 = some o → _
    rcases poll_cases p now order with ⟨h1, _, h2, _⟩ | ⟨x, hx, h1, h2⟩
    · rw [h1]
      exact ⟨fun y hy => Or.inl (hl y hy), fun o q ho hq => by cases ho; rw [h2] at hq; cases hq⟩
    · rw [h1]
      refine ⟨fun y hy => Or.inl (hl y (mem_removeQ hy)), fun o q ho hq => ?_⟩
      cases ho
      obtain ⟨x0, h0, hl0⟩ := hl x hx
      rcases h2 with h2 | h2 <;> rw [h2] at hq <;> cases hq <;> exact ⟨x0, h0, hl0.2.1⟩
  | success id peer closer =>
    exact ⟨fun y hy => Or.inl (hmod id (.success peer closer) y hy), fun o q ho => by cases ho⟩
  | failure id peer =>
    exact ⟨fun y hy => Or.inl (hmod id (.failure peer) y hy), fun o q ho => by cases ho⟩

theorem reach_runP (evs : List PEv) (p : Pool) (h : ∀ y ∈ p.queries, Reach y.q) :
    (∀ y ∈ (runP p evs).queries, Reach y.q) ∧
    (∀ o ∈ outsP p evs, ∀ q, retQuery o = some q → Reach q) := by
  obtain ⟨h1, h2⟩ := runP_trace (I := fun p _ => ∀ y ∈ p.queries, Reach y.q)
    (O := fun o => ∀ q, retQuery o = some q → Reach q)
    (fun p ev _ h => by
      obtain ⟨h1, h2⟩ := stepP_later p ev
      refine ⟨fun y hy => ?_, fun o ho q hq => ?_⟩
      · rcases h1 y hy with ⟨x, hx, _, ⟨e, he⟩, _⟩ | ⟨_, v, cfg, t, known, he⟩
        · rw [he]; exact (h x hx).run e
        · rw [he]; exact ⟨v, cfg, t, known, [], rfl⟩
      · obtain ⟨x, hx, e, he⟩ := h2 o q ho hq
        rw [he]; exact (h x hx).run e) evs p h
  exact ⟨h1 evs [] (List.append_nil _).symm, h2⟩

end Discv5.Query
