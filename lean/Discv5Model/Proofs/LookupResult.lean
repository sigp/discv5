/-
What a lookup hands over: the ids of the records are, in order, ids of `into_result()` of the lookup's
final state (some may be missing: no record could be found for them) - so what `Props/C10.lean` proves
of `into_result` (increasing distance, every node answered this lookup's request, predicate) holds of
the records the caller receives.  Needs the routing table to file every record under its own node id
(`Keyed`; part of C12's table policy, an invariant of every run).
-/
import Discv5Model.Proofs.LookupLedger
import Discv5Model.Proofs.ServicePolicy
import Discv5Model.Props.C12

namespace Discv5.Lookup

open Discv5.KB
open Discv5.Svc
open Discv5.Svc.Svc

/-- Every stored and pending record of the table is filed under its own node id. -/
def Keyed (s : Svc) : Prop := TVals (fun k (r : Rec) => r.id = k) s.table

theorem keyed_of_policy {s : Svc} (h : Discv5.Props.C12.TablePolicy s) : Keyed s :=
  fun b hb => ⟨fun n hn => ((h b hb).1 n hn).2.2.1, fun p hp => ((h b hb).2 p hp).2.2.1⟩

theorem findEnr_keyed (s : Svc) (id : Nat) (h : Keyed s) : Keyed (s.findEnr id).1 :=
  (findEnr_step (P := fun k (r : Rec) => r.id = k) (o := {}) s id).vals h

theorem findEnr_id (s : Svc) (id : Nat) (r : Rec) (h : Keyed s) (hr : (s.findEnr id).2 = some r) : r.id = id := by
  rcases findEnr_some hr with ⟨st, hp⟩ | ⟨_, _, _, hid⟩
  · have he := (entry_step (P := fun k (r : Rec) => r.id = k) (o := {}) s id).vals h
    exact TVals.of_hasPair he (lookup_present ((entry_lookup s id).symm.trans hp))
  · exact hid

theorem collect_ids : ∀ (ids : List Nat) (s : Svc) (u found : List Rec), Keyed s →
    ∃ l : List Nat, l.Sublist ids ∧ (collect s u ids found).2.map (·.id) = found.map (·.id) ++ l := by
  intro ids
  induction ids with
  | nil => intro s u found _; exact ⟨[], List.Sublist.refl _, by simp [collect]⟩
  | cons id ids ih =>
    intro s u found hk
    unfold collect
    split
    · rename_i i hfi
      split
      · rename_i r hr
        obtain ⟨l, hl, he⟩ := ih s (swapRemove u i) (found ++ [r]) hk
        obtain ⟨hlt, hp, _⟩ := List.findIdx?_eq_some_iff_getElem.mp hfi
        rw [List.getElem?_eq_getElem hlt] at hr
        have hid : r.id = id := by rw [← Option.some.inj hr]; simpa using hp
        refine ⟨id :: l, List.Sublist.cons_cons _ hl, ?_⟩
        rw [he]; simp [hid]
      · obtain ⟨l, hl, he⟩ := ih s u found hk
        exact ⟨l, List.Sublist.cons _ hl, he⟩
    · have hk1 := findEnr_keyed s id hk
      have hid := findEnr_id s id
      generalize s.findEnr id = z at hk1 hid
      obtain ⟨s1, known⟩ := z
      cases known with
      | some r =>
        obtain ⟨l, hl, he⟩ := ih s1 u (found ++ [r]) hk1
        have : r.id = id := hid r hk rfl
        refine ⟨id :: l, List.Sublist.cons_cons _ hl, ?_⟩
        simp only
        rw [he]; simp [this]
      | none =>
        obtain ⟨l, hl, he⟩ := ih s1 u found hk1
        exact ⟨l, List.Sublist.cons _ hl, he⟩

theorem sendRpcQuery_keyed (s : Svc) (p : Nat) (h : Keyed s) : Keyed (s.sendRpcQuery p).1 :=
  (sendRpcQuery_step (P := fun k (r : Rec) => r.id = k) (o := {}) s p).vals h

theorem startQuery_keyed (s : Svc) (t : Nat) (h : Keyed s) : Keyed (s.startQuery t) :=
  (startQuery_step (P := fun k (r : Rec) => r.id = k) (o := {}) s t).vals h

theorem internalRun_keyed (l : List Svc.Input) (s : Svc) (hl : ∀ i ∈ l, IsInternal i) (h : Keyed s) :
    Keyed (internalRun s l) := by
  refine Svc.run_inv (I := Keyed) (fun s x hx hk => ?_) h
  obtain ⟨i, hi, rfl⟩ := List.mem_map.mp hx
  have := hl i hi
  cases i with
  | queryEmit p => exact sendRpcQuery_keyed s p hk
  | queryFinished => exact hk
  | whoAreYou id addr => exact findEnr_keyed s id hk
  | startQuery t => exact startQuery_keyed s t hk
  | _ => exact this.elim

theorem finishLookup_ids (s : Svc) (q : Q) (hk : Keyed s) :
    ((finishLookup s q).2.map (·.id)).Sublist (Query.intoResult q) := by
  obtain ⟨l, hl, he⟩ := collect_ids (Query.intoResult q) (s.step {} .queryFinished).1
    (match s.query with | some qq => qq.untrusted | none => []) [] hk
  show (List.map (·.id) (collect (s.step {} .queryFinished).1
    (match s.query with | some qq => qq.untrusted | none => []) (Query.intoResult q) []).2).Sublist _
  rw [he]
  simpa using hl

theorem pumpLoop_result_ids (c : LCfg) (now : Nat) (fuel : Nat) (s : Svc) (q : Q) (outs : List Out)
    (found : List Rec) (hq : IsHistory c q) (hk : Keyed s)
    (h : (pumpLoop now fuel s q outs).2.2.2 = some found) :
    ∃ q', IsHistory c q' ∧ q'.target = q.target ∧ q'.cfg = q.cfg ∧
      (found.map (·.id)).Sublist (Query.intoResult q') := by
  obtain ⟨evs, l, hl, _, ⟨_, _, h3⟩ | ⟨_, _, h3⟩⟩ := pumpLoop_spec now fuel s q outs <;> rw [h3] at h <;> cases h
  have hc := Query.runQ_const q evs
  exact ⟨_, hq.run evs, hc.2.2, hc.1, finishLookup_ids _ _ (internalRun_keyed l s hl hk)⟩

end Discv5.Lookup
