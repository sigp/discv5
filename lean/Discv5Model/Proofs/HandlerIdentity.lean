/-
Identity properties of the handler model (C01 / C03).  One invariant `Inv X`, parametric in a context
`X` of predicates on cached sessions, active calls, queued requests, outputs and the challenge list
with the cd counter, is walked once through all handler functions (`Keeps X`, and `Spec X` where the
result matters); each property then chooses its context, whose letter names its lemmas (`stepA`,
`invA`): `ctxA` attribution, `ctxK` where session keys come from, `ctxF` a frame property of challenge
list and cd counter, `ctxD` distinct challenge data.
-/
import Discv5Model.Proofs.HandlerBasics

namespace Discv5.H.HI

abbrev St := HState × List Out

def wp {α} (m : M α) (Q : α → St → Prop) (st : St) : Prop := Q (m.run st).1 (m.run st).2

theorem wp_pure {α} (x : α) (Q : α → St → Prop) : wp (pure x) Q = Q x := rfl
theorem wp_bind {α β} (m : M α) (f : α → M β) (Q : β → St → Prop) :
    wp (m >>= f) Q = wp m (fun a => wp (f a) Q) := rfl
theorem wp_getS (Q : HState → St → Prop) : wp getS Q = fun st => Q st.1 st := rfl
theorem wp_setS (s : HState) (Q : Unit → St → Prop) : wp (setS s) Q = fun st => Q () (s, st.2) := rfl
theorem wp_modS (f : HState → HState) (Q : Unit → St → Prop) :
    wp (modS f) Q = fun st => Q () (f st.1, st.2) := rfl
theorem wp_emit (o : Out) (Q : Unit → St → Prop) :
    wp (emit o) Q = fun st => Q () (st.1, st.2 ++ [o]) := rfl
theorem wp_send (na : NA) (p : Pkt) (Q : Unit → St → Prop) :
    wp (send na p) Q = fun st => Q () (st.1, st.2 ++ [.send na p]) := rfl
theorem wp_ite {α} (b : Prop) [Decidable b] (m1 m2 : M α) (Q : α → St → Prop) :
    wp (if b then m1 else m2) Q = fun st => if b then wp m1 Q st else wp m2 Q st := by
  by_cases h : b <;> simp [h]
theorem wp_mono {α} {m : M α} {Q Q' : α → St → Prop} {st : St} (h : wp m Q st)
    (hq : ∀ a st', Q a st' → Q' a st') : wp m Q' st := hq _ _ h

macro "wpc " t:term : tactic => `(tactic| refine wp_mono ($t _ (by assumption)) ?_)

theorem wp_forEach {α} {K : St → Prop} (l : List α) (f : α → M Unit)
    (hf : ∀ x ∈ l, ∀ st, K st → wp (f x) (fun _ => K) st) :
    ∀ st, K st → wp (forEach l f) (fun _ => K) st :=
  forEach_keeps l f hf

theorem failSession_true (c : Cfg) (na : NA) (e : Err) :
    failSession c na e true = (do removeExpiredSessions c; sessRemove na; failSession c na e false) := rfl

theorem failSession_false (c : Cfg) (na : NA) (e : Err) :
    failSession c na e false = (do failPending na e; failActive na e) := by
  rw [failSession_eq]; rfl

theorem verifyEnr_id {r : Rec} {na : NA} (h : verifyEnr r na = true) : r.id = na.id := by
  unfold verifyEnr at h
  rw [Bool.and_eq_true] at h
  exact beq_iff_eq.1 h.1

/-- What an instance tracks: `GS` of every cached session (under its node address), `SL` of the list
of cache keys, `GC` of the contact and `GPk` of the packet of every active call, `GC` of every queued
request, `GO` of every output, `F` of the challenge list with the cd counter; `GN` is what `GS` and
`GC` yield about a node address.  The other fields are the closure laws the walk needs. -/
structure Ctx where
  GN : NA → Prop
  GS : NA → Session → Prop
  SL : List NA → Prop
  GC : Contact → Prop
  GPk : Pkt → Prop
  GO : Out → Prop
  F : List (NA × Challenge × Nat × Nat) → Nat → Prop
  gs_gn : ∀ na sess, GS na sess → GN na
  gs_counter : ∀ na (sess : Session) k, GS na sess → GS na { sess with counter := k }
  gs_await : ∀ na (sess : Session), GS na sess → GS na { sess with awaitingEnr := none }
  gc_gn : ∀ ct, GC ct → GN ct.na
  go_est_contact : ∀ ct r b, GC ct → ct.record = some r → GO (.established r ct.na.addr b)
  gpk_msg : ∀ a n ct, GPk (.message a n ct)
  gpk_hs : ∀ a n sig eph r ct, GPk (.handshake a n sig eph r ct)
  go_failed : ∀ rid e, GO (.failed rid e)
  go_expired : ∀ l, GO (.expired l)
  go_wru : ∀ na n, GO (.wru na n)
  go_send : ∀ na p, GPk p → GO (.send na p)
  go_request : ∀ na rid b, GN na → GO (.request na rid b)
  go_response : ∀ na rid rb, GN na → GO (.response na rid rb)
  go_est : ∀ na r b, GN na → r.id = na.id → GO (.established r na.addr b)
  go_unv : ∀ na r, GN na → GO (.unverifiable r na.addr na.id)
  sl_filter : ∀ l (p : NA → Bool), SL l → SL (l.filter p)
  sl_insert : ∀ l na, SL l → SL (l.filter (· != na) ++ [na])
  sl_suffix : ∀ l1 l2, SL (l1 ++ l2) → SL l2

structure Inv (X : Ctx) (st : St) : Prop where
  sess : ∀ e ∈ st.1.sessions, X.GS e.1 e.2.1
  keys : X.SL (st.1.sessions.map (·.1))
  act : ∀ call ∈ st.1.active, X.GC call.contact ∧ X.GPk call.pkt
  pend : ∀ e ∈ st.1.pending, ∀ pr ∈ e.2, X.GC pr.contact
  outs : ∀ o ∈ st.2, X.GO o
  frame : X.F st.1.challenges st.1.fresh.cd

def Spec {α} (X : Ctx) (m : M α) (post : α → Prop) : Prop :=
  ∀ st, Inv X st → wp m (fun r st' => Inv X st' ∧ post r) st

def Keeps {α} (X : Ctx) (m : M α) : Prop := ∀ st, Inv X st → wp m (fun _ => Inv X) st

variable {X : Ctx}

theorem Spec.bind {α β} {m : M α} {f : α → M β} {p : α → Prop}
    (h1 : Spec X m p) (h2 : ∀ a, p a → Keeps X (f a)) : Keeps X (m >>= f) :=
  fun st h => (wp_mono (h1 st h) fun a st1 h' => h2 a h'.2 st1 h'.1 : wp m (fun a => wp (f a) _) st)

theorem Keeps.bind {α β} {m : M α} {f : α → M β} (h1 : Keeps X m) (h2 : ∀ a, Keeps X (f a)) :
    Keeps X (m >>= f) :=
  fun st h => (wp_mono (h1 st h) fun a => h2 a : wp m (fun a => wp (f a) _) st)

theorem Keeps.ite {α} {b : Prop} [Decidable b] {m1 m2 : M α}
    (h1 : Keeps X m1) (h2 : Keeps X m2) : Keeps X (if b then m1 else m2) := by
  split
  · exact h1
  · exact h2

theorem Keeps.get_bind {β} {f : HState → M β} (h : ∀ s, Keeps X (f s)) : Keeps X (getS >>= f) :=
  fun st hi => h st.1 st hi

theorem Keeps.pure {α} (a : α) : Keeps X (pure a) := fun _ hi => hi

theorem forall_mem_snoc {α} {p : α → Prop} {l : List α} {a : α} (hl : ∀ x ∈ l, p x) (ha : p a) :
    ∀ x ∈ l ++ [a], p x :=
  List.forall_mem_append.2 ⟨hl, List.forall_mem_singleton.2 ha⟩

theorem Inv.emit {st : St} (h : Inv X st) {o : Out} (ho : X.GO o) : Inv X (st.1, st.2 ++ [o]) :=
  { h with outs := forall_mem_snoc h.outs ho }

theorem Inv.exempt {st : St} (h : Inv X st) (x) : Inv X ({ st.1 with exempt := x }, st.2) :=
  { h with }

theorem Inv.active_sub {st : St} (h : Inv X st) (l : List Call) (hl : ∀ x ∈ l, x ∈ st.1.active) :
    Inv X ({ st.1 with active := l }, st.2) :=
  { h with act := fun x hx => h.act x (hl x hx) }

theorem Inv.pending_sub {st : St} (h : Inv X st) (l : List (NA × List PendingReq))
    (hl : ∀ x ∈ l, x ∈ st.1.pending) : Inv X ({ st.1 with pending := l }, st.2) :=
  { h with pend := fun x hx => h.pend x (hl x hx) }

theorem map_fst_filter_ne (l : List (NA × Session × Nat)) (na : NA) :
    (l.filter (fun e => e.1 != na)).map (·.1) = (l.map (·.1)).filter (· != na) := by
  rw [List.filter_map]; rfl

theorem Inv.sess_remove {st : St} (h : Inv X st) (na : NA) :
    Inv X ({ st.1 with sessions := st.1.sessions.filter (·.1 != na) }, st.2) :=
  { h with
    sess := fun e he => h.sess e (List.mem_filter.1 he).1
    keys := by
      show X.SL (List.map _ (List.filter _ _))
      rw [map_fst_filter_ne]; exact X.sl_filter _ _ h.keys }

theorem Inv.sess_insert {st : St} (h : Inv X st) {na : NA} {sess : Session} (hs : X.GS na sess)
    (stamp : Nat) :
    Inv X ({ st.1 with sessions := st.1.sessions.filter (·.1 != na) ++ [(na, sess, stamp)] }, st.2) :=
  { h with
    sess := forall_mem_snoc (h.sess_remove na).sess hs
    keys := by
      show X.SL (List.map _ (List.filter _ _ ++ _))
      rw [List.map_append, map_fst_filter_ne]; exact X.sl_insert _ _ h.keys }

theorem Inv.sess_suffix {st : St} (h : Inv X st) {pre l : List (NA × Session × Nat)}
    (hl : st.1.sessions = pre ++ l) : Inv X ({ st.1 with sessions := l }, st.2) :=
  { h with
    sess := fun e he => h.sess e (hl ▸ List.mem_append_right _ he)
    keys := X.sl_suffix (pre.map (·.1)) _ (by rw [← List.map_append, ← hl]; exact h.keys) }

theorem spec_addExpected (a : Addr) : Keeps X (addExpected a) := by
  intro st h
  unfold addExpected
  simp only [wp_modS]
  split <;> exact h.exempt _

theorem spec_removeExpected (a : Addr) : Keeps X (removeExpected a) :=
  fun _ h => h.exempt _

theorem spec_freshNonce (c : Cfg) : Keeps X (freshNonce c) :=
  fun _ h => { h with }

theorem spec_freshEph (c : Cfg) : Keeps X (freshEph c) :=
  fun _ h => { h with }

theorem spec_freshRid (c : Cfg) : Keeps X (freshRid c) :=
  fun _ h => { h with }

theorem spec_emit (o : Out) (ho : X.GO o) : Keeps X (emit o) :=
  fun _ h => h.emit ho

theorem spec_send (na : NA) (p : Pkt) (hp : X.GPk p) : Keeps X (send na p) :=
  spec_emit _ (X.go_send na p hp)

theorem spec_sessGetMut (c : Cfg) (na : NA) :
    Spec X (sessGetMut c na) (fun r => ∀ sess, r = some sess → X.GS na sess) := by
  intro st h
  unfold sessGetMut
  simp only [wp_bind, wp_getS]
  rcases hf : st.1.sessions.find? (·.1 == na) with _ | ⟨k, sess, stamp⟩
  · simp only [hf, wp_pure]; exact ⟨h, fun _ hh => nomatch hh⟩
  · have hgs : X.GS na sess := by
      have := h.sess _ (List.mem_of_find?_eq_some hf)
      rwa [show k = na by simpa using List.find?_some hf] at this
    simp only [hf, wp_ite, wp_bind, wp_setS, wp_pure]
    split
    · exact ⟨h.sess_remove na, fun _ hh => nomatch hh⟩
    · exact ⟨h.sess_insert hgs _, fun _ hh => by cases hh; exact hgs⟩

theorem spec_sessPut (na : NA) (sess : Session) (hs : X.GS na sess) :
    Keeps X (sessPut na sess) := by
  intro st h
  refine { h with sess := ?_, keys := ?_ }
  · intro e he
    obtain ⟨e0, he0, rfl⟩ := List.mem_map.1 he
    split
    · exact hs
    · exact h.sess _ he0
  · show X.SL (List.map _ (List.map _ _))
    rw [map_fst_put]; exact h.keys

theorem spec_sessInsert (c : Cfg) (na : NA) (sess : Session) (hs : X.GS na sess) :
    Keeps X (sessInsert c na sess) := by
  intro st h
  unfold sessInsert
  rw [wp_modS]
  dsimp only
  split
  · exact ((h.sess_insert hs st.1.rt).sess_suffix (List.take_append_drop 1 _).symm)
  · exact h.sess_insert hs _

theorem spec_sessRemove (na : NA) : Keeps X (sessRemove na) :=
  fun _ h => h.sess_remove na

theorem spec_removeExpiredSessions (c : Cfg) : Keeps X (removeExpiredSessions c) := by
  intro st h
  unfold removeExpiredSessions
  simp only [wp_bind, wp_getS, wp_setS, wp_ite, wp_emit, wp_pure]
  obtain ⟨pre, hpre⟩ := popExpired_split c.sessionTtl st.1.rt st.1.sessions
  split
  · exact (h.sess_suffix hpre).emit (X.go_expired _)
  · exact h.sess_suffix hpre

theorem spec_activeInsert (c : Cfg) (call : Call) (hc : X.GC call.contact) (hp : X.GPk call.pkt) :
    Keeps X (activeInsert c call) :=
  fun _ h => { h with act := forall_mem_snoc h.act ⟨hc, hp⟩ }

theorem Inv.erase_found {st : St} (h : Inv X st) {call : Call} (hm : call ∈ st.1.active) :
    Inv X ({ st.1 with active := st.1.active.erase call }, st.2) ∧
      ∀ call', some call = some call' → X.GC call'.contact ∧ X.GPk call'.pkt :=
  ⟨h.active_sub _ fun _ hx => List.mem_of_mem_erase hx, fun _ hh => by cases hh; exact h.act _ hm⟩

theorem spec_activeRemoveByNonce (nonce : Nat) :
    Spec X (activeRemoveByNonce nonce)
      (fun r => ∀ call, r = some call → X.GC call.contact ∧ X.GPk call.pkt) := by
  intro st h
  unfold wp
  rw [RQ.activeRemoveByNonce_run]
  split
  · exact ⟨h, fun _ hh => nomatch hh⟩
  · next hf => exact h.erase_found (List.mem_of_find?_eq_some hf)

theorem spec_activeRemoveRequest (na : NA) (rid : Nat) :
    Spec X (activeRemoveRequest na rid)
      (fun r => ∀ call, r = some call → X.GC call.contact ∧ X.GPk call.pkt) := by
  intro st h
  unfold wp
  rw [RQ.activeRemoveRequest_run]
  split
  · exact ⟨h, fun _ hh => nomatch hh⟩
  · next hf => exact h.erase_found (List.mem_of_find?_eq_some hf)

theorem spec_activeRemoveRequests (na : NA) : Keeps X (activeRemoveRequests na) :=
  fun _ h => h.active_sub _ (fun _ hx => (List.mem_filter.1 hx).1)

theorem spec_encryptMessage (c : Cfg) (sess : Session) (pt : Msg) :
    Spec X (encryptMessage c sess pt) (fun r => (∀ na, X.GS na sess → X.GS na r.1) ∧ X.GPk r.2) :=
  fun _ h => ⟨{ h with }, fun _ => X.gs_counter _ _ _, X.gpk_msg _ _ _⟩

theorem spec_isAwaitingSession (c : Cfg) (na : NA) : Keeps X (isAwaitingSession c na) := by
  unfold isAwaitingSession
  refine (spec_sessGetMut c na).bind fun r _ => ?_
  cases r
  · exact fun _ h => h
  · exact Keeps.pure _

theorem spec_queueRequest (contact : Contact) (rid : Nat) (internal : Bool) (body : Nat)
    (hc : X.GC contact) : Keeps X (queueRequest contact rid internal body) := by
  intro st h
  unfold queueRequest
  simp only [wp_bind, wp_modS, wp_pure]
  split
  · refine { h with pend := fun e he pr hpr => ?_ }
    obtain ⟨e0, he0, rfl⟩ := List.mem_map.1 he
    split at hpr
    · exact forall_mem_snoc (h.pend e0 he0) hc pr hpr
    · exact h.pend e0 he0 pr hpr
  · refine { h with pend := forall_mem_snoc h.pend fun pr hpr => ?_ }
    rw [List.mem_singleton.1 hpr]; exact hc

theorem spec_sendTail (c : Cfg) (contact : Contact) (rid : Nat) (internal : Bool) (body : Nat)
    (pkt : Pkt) (ini : Bool) (hc : X.GC contact) (hp : X.GPk pkt) :
    Keeps X (sendTail c contact rid internal body pkt ini) :=
  (spec_addExpected _).bind fun _ => (spec_send _ _ hp).bind fun _ =>
    (spec_activeInsert c _ hc hp).bind fun _ => Keeps.pure _

theorem spec_sendNow (c : Cfg) (contact : Contact) (rid : Nat) (internal : Bool) (body : Nat)
    (hc : X.GC contact) : Keeps X (sendNow c contact rid internal body) := by
  unfold sendNow
  refine (spec_sessGetMut c contact.na).bind fun r hr => ?_
  rcases r with _ | sess
  · exact (spec_freshNonce c).bind fun _ => spec_sendTail c contact rid internal body _ _ hc (X.gpk_msg _ _ _)
  · refine (spec_encryptMessage c sess _).bind fun r hr' => ?_
    obtain ⟨sess', p⟩ := r
    exact (spec_sessPut _ _ (hr'.1 _ (hr _ rfl))).bind fun _ =>
      spec_sendTail c contact rid internal body p _ hc hr'.2

theorem spec_sendRequest (c : Cfg) (contact : Contact) (rid : Nat) (internal : Bool) (body : Nat)
    (hc : X.GC contact) : Keeps X (sendRequest c contact rid internal body) := by
  have hq := spec_queueRequest (X := X) contact rid internal body hc
  rw [sendRequest_split]
  exact Keeps.ite (Keeps.pure _) (Keeps.get_bind fun s => Keeps.ite hq
    ((spec_isAwaitingSession c _).bind fun _ => Keeps.ite hq (spec_sendNow c contact rid internal body hc)))

theorem spec_sendPendingRequests (c : Cfg) (na : NA) :
    Keeps X (sendPendingRequests c na) := by
  intro st h
  unfold sendPendingRequests
  simp only [wp_bind, wp_getS, wp_setS]
  refine wp_forEach _ _ (fun pr hpr => ?_) _ (h.pending_sub _ fun x hx => (List.mem_filter.1 hx).1)
  have hc : X.GC pr.contact := by
    rcases hf : st.1.pending.find? (·.1 == na) with _ | e <;> simp only [hf] at hpr
    · cases hpr
    · exact h.pend e (List.mem_of_find?_eq_some hf) pr hpr
  refine (spec_sendRequest c pr.contact pr.rid pr.internal pr.body hc).bind fun r => ?_
  rcases r with _ | e
  · exact Keeps.pure _
  · exact Keeps.ite (spec_emit _ (X.go_failed _ _)) (Keeps.pure _)

theorem spec_failPending (na : NA) (e : Err) : Keeps X (failPending na e) := by
  intro st h
  unfold failPending
  simp only [wp_bind, wp_getS]
  rcases hf : st.1.pending.find? (·.1 == na) with _ | ent
  · simp only [hf, wp_pure]; exact h
  · simp only [hf, wp_bind, wp_setS]
    exact wp_forEach _ _ (fun pr _ => Keeps.ite (spec_emit _ (X.go_failed _ _)) (Keeps.pure _)) _
      (h.pending_sub _ fun x hx => (List.mem_filter.1 hx).1)

theorem spec_failActive (na : NA) (e : Err) : Keeps X (failActive na e) :=
  (spec_activeRemoveRequests na).bind fun _ => wp_forEach _ _ fun _ _ =>
    Keeps.ite ((spec_emit _ (X.go_failed _ _)).bind fun _ => spec_removeExpected _) (spec_removeExpected _)

theorem spec_failSession (c : Cfg) (na : NA) (e : Err) (rm : Bool) :
    Keeps X (failSession c na e rm) := by
  rw [failSession_eq]
  exact Keeps.bind (Keeps.ite ((spec_removeExpiredSessions c).bind fun _ => spec_sessRemove na) (Keeps.pure _))
    fun _ => (spec_failPending na e).bind fun _ => spec_failActive na e

theorem spec_failRequest (c : Cfg) (call : Call) (e : Err) (rm : Bool) :
    Keeps X (failRequest c call e rm) :=
  Keeps.ite ((spec_emit _ (X.go_failed _ _)).bind fun _ => spec_failSession c _ e rm)
    (spec_failSession c _ e rm)

theorem spec_handleRequestTimeout (c : Cfg) (call : Call) (hc : X.GC call.contact)
    (hp : X.GPk call.pkt) : Keeps X (handleRequestTimeout c call) :=
  Keeps.ite ((spec_removeExpected _).bind fun _ => spec_failRequest c call _ _)
    ((spec_send _ _ hp).bind fun _ => spec_activeInsert c { call with retries := call.retries + 1 } hc hp)

theorem spec_reencryptAll (c : Cfg) (na : NA) (calls : List Call) :
    ∀ (sess : Session) (acc : List (Nat × Pkt)), X.GS na sess → (∀ x ∈ acc, X.GPk x.2) →
    Spec X (reencryptAll c calls sess acc) (fun r => X.GS na r.1 ∧ ∀ x ∈ r.2, X.GPk x.2) := by
  induction calls with
  | nil => exact fun sess acc hs hacc _ h => ⟨h, hs, hacc⟩
  | cons call rest ih =>
    intro sess acc hs hacc st h
    unfold reencryptAll
    rw [wp_bind]
    refine wp_mono (spec_encryptMessage c sess _ st h) fun r st1 h1 => ?_
    obtain ⟨sess', p⟩ := r
    exact ih _ _ (h1.2.1 _ hs) (forall_mem_snoc hacc h1.2.2) st1 h1.1

theorem spec_replayActiveRequests (c : Cfg) (na : NA) (skip : Option Nat) :
    Keeps X (replayActiveRequests c na skip) := by
  unfold replayActiveRequests
  refine (spec_sessGetMut c na).bind fun r hr => ?_
  rcases r with _ | sess0
  · exact Keeps.pure _
  refine Keeps.get_bind fun s =>
    (spec_reencryptAll c na _ sess0 [] (hr _ rfl) (fun _ hx => nomatch hx)).bind fun r hr' => ?_
  obtain ⟨sess, packets⟩ := r
  refine (spec_sessPut na sess hr'.1).bind fun _ => wp_forEach _ _ fun x hx => ?_
  obtain ⟨oldNonce, p⟩ := x
  have hp : X.GPk p := hr'.2 _ hx
  -- `update_packet`: the call keeps its contact and now carries `p`
  refine Keeps.bind (fun st h => { h with act := fun call hcall => ?_ })
    fun _ => spec_send na p hp
  obtain ⟨c0, hc0, rfl⟩ := List.mem_map.1 hcall
  split
  · exact ⟨(h.act c0 hc0).1, hp⟩
  · exact h.act c0 hc0

theorem spec_newSession (c : Cfg) (na : NA) (sess : Session) (skip : Option Nat)
    (hs : X.GS na sess)
    (hput : ∀ cur : Session, X.GS na cur →
      X.GS na { cur with keys := sess.keys, oldKeys := some cur.keys, awaitingEnr := sess.awaitingEnr }) :
    Keeps X (newSession c na sess skip) := by
  unfold newSession
  refine (spec_removeExpiredSessions c).bind fun _ => (spec_sessGetMut c na).bind fun r hr => ?_
  rcases r with _ | cur
  · exact (spec_sessInsert c na sess hs).bind fun _ => spec_sendPendingRequests c na
  · exact (spec_sessPut na _ (hput cur (hr _ rfl))).bind fun _ =>
      (spec_replayActiveRequests c na skip).bind fun _ => spec_sendPendingRequests c na

theorem spec_sendChallenge (c : Cfg) (na : NA) (nonce : Nat) (known : Option Rec)
    (hF1 : ∀ ch cd, X.F ch cd → X.F ch (cd + 1))
    (hF2 : ∀ ch cd x, X.F ch cd → X.F (ch ++ [x]) cd)
    (hwru : ∀ n cd e, X.GPk (.whoareyou n cd e)) :
    Keeps X (sendChallenge c na nonce known) := by
  unfold sendChallenge
  refine Keeps.get_bind fun s => Keeps.ite (Keeps.pure _) ?_
  have hcd : Keeps X (freshCd c) :=
    fun _ h => { h with frame := hF1 _ _ h.frame }
  exact hcd.bind fun _ => (spec_addExpected _).bind fun _ =>
    (spec_send na _ (hwru _ _ _)).bind fun _ _ h => { h with frame := hF2 _ _ _ h.frame }

theorem spec_handleResponse (c : Cfg) (na : NA) (rid : Nat) (rb : RespBody) (hn : X.GN na) :
    Keeps X (handleResponse c na rid rb) := by
  have fin : Keeps X (do removeExpected na.addr; emit (Out.response na rid rb)) :=
    (spec_removeExpected _).bind fun _ => spec_emit _ (X.go_response _ _ _ hn)
  unfold handleResponse
  refine (spec_activeRemoveRequest na rid).bind fun r hr => ?_
  rcases r with _ | call
  · exact Keeps.pure _
  obtain ⟨hc, hp⟩ := hr _ rfl
  have more : ∀ rem, Keeps X (do
      activeInsert c { call with remaining := rem }; emit (Out.response na rid rb); pure ()) :=
    fun rem =>
    (spec_activeInsert c { call with remaining := rem } hc hp).bind fun _ =>
      (spec_emit _ (X.go_response _ _ _ hn)).bind fun _ => Keeps.pure _
  rcases rb with ⟨total, recs⟩ | code
  · refine Keeps.ite ?_ fin
    rcases call.remaining with _ | rem
    · exact more _
    · exact Keeps.ite (more _) fin
  · exact fin

theorem spec_verifyLast (na : NA) (rb : RespBody) (hn : X.GN na) :
    Keeps X (verifyLast na rb) := by
  unfold verifyLast
  rcases rb with ⟨total, recs⟩ | code
  · dsimp only
    rcases recs.getLast? with _ | r
    · exact Keeps.pure _
    · dsimp only
      by_cases hv : verifyEnr r na = true
      · rw [if_pos hv]
        exact (spec_emit _ (X.go_est na r true hn (verifyEnr_id hv))).bind fun _ => Keeps.pure _
      · rw [if_neg hv]
        exact (spec_emit _ (X.go_unv na r hn)).bind fun _ => Keeps.pure _
  · exact Keeps.pure _

theorem spec_verifyAwaited (c : Cfg) (na : NA) (rb : RespBody) (hn : X.GN na) :
    Keeps X (verifyAwaited c na rb) :=
  (spec_verifyLast na rb hn).bind fun _ => Keeps.ite (spec_failSession c na _ true) (Keeps.pure _)

theorem spec_handleMessage (c : Cfg) (na : NA) (nonce : Nat) (ct : Ct)
    (hdec : ∀ sess, X.GS na sess → X.GS na (decryptMessage sess nonce ct).1) :
    Keeps X (handleMessage c na nonce ct) := by
  unfold handleMessage
  refine (spec_sessGetMut c na).bind fun r hr => ?_
  rcases r with _ | sess
  · exact spec_emit _ (X.go_wru _ _)
  have hs' := hdec sess (hr _ rfl)
  have hn : X.GN na := X.gs_gn _ _ hs'
  dsimp only
  generalize decryptMessage sess nonce ct = dm at hs' ⊢
  obtain ⟨sess', pt⟩ := dm
  refine (spec_sessPut na sess' hs').bind fun _ => ?_
  rcases pt with _ | ⟨rid, body⟩ | ⟨rid, rb⟩ | _
  · exact (spec_failSession c na _ true).bind fun _ => Keeps.get_bind fun _ =>
      Keeps.ite (spec_emit _ (X.go_wru _ _)) (Keeps.pure _)
  · exact spec_emit _ (X.go_request _ _ _ hn)
  · refine Keeps.ite ?_ (spec_handleResponse c na rid rb hn)
    refine (spec_sessPut na _ (X.gs_await _ _ hs')).bind fun _ =>
      (spec_activeRemoveRequest na rid).bind fun r _ => ?_
    rcases r with _ | _
    · exact spec_verifyAwaited c na rb hn
    · exact (spec_removeExpected _).bind fun _ => spec_verifyAwaited c na rb hn
  · exact Keeps.pure _

/-- The keys the initiator derives when answering a WHOAREYOU with challenge data `cd`. -/
def iniKeys (c : Cfg) (na : NA) (eph cd : Nat) : Keys :=
  { enc := { eph := eph, cd := cd, ini := c.localId, rcp := na.id, toRcp := true },
    dec := { eph := eph, cd := cd, ini := c.localId, rcp := na.id, toRcp := false } }

theorem spec_handleChallenge (c : Cfg) (src : Addr) (nonce cd enrSeq : Nat)
    (hS : ∀ ct eph, X.GC ct →
      (∀ aw, X.GS ct.na { keys := iniKeys c ct.na eph cd, awaitingEnr := aw }) ∧
      ∀ (cur : Session) aw, X.GS ct.na cur →
        X.GS ct.na { cur with keys := iniKeys c ct.na eph cd, oldKeys := some cur.keys, awaitingEnr := aw }) :
    Keeps X (handleChallenge c src nonce cd enrSeq) := by
  unfold handleChallenge
  refine (spec_activeRemoveByNonce nonce).bind fun r hr => ?_
  rcases r with _ | call0
  · exact Keeps.pure _
  obtain ⟨hc, hp⟩ := hr _ rfl
  have fail : Keeps X (do removeExpected src; failRequest c call0 .invalidRemotePacket true; pure ()) :=
    (spec_removeExpected src).bind fun _ => (spec_failRequest c call0 _ true).bind fun _ =>
      Keeps.pure _
  refine Keeps.ite ((spec_activeInsert c call0 hc hp).bind fun _ => Keeps.pure _)
    (Keeps.ite fail (Keeps.ite fail ?_))
  refine (spec_freshEph c).bind fun eph => (spec_freshNonce c).bind fun hsNonce => ?_
  obtain ⟨hS1, hS2⟩ := hS call0.contact eph hc
  have hs := X.gpk_hs
  rcases hrec : call0.contact.record with _ | r
  · refine Keeps.bind (spec_activeInsert c _ (by exact hc) (by exact hs ..)) fun _ =>
      (spec_send _ _ (hs ..)).bind fun _ => (spec_freshRid c).bind fun rid =>
      (spec_sendRequest c call0.contact rid true c.findnode0 hc).bind fun _ =>
      spec_newSession c (callNA call0) _ _ (hS1 (some rid)) fun cur hcur => hS2 cur _ hcur
  · refine Keeps.bind (spec_activeInsert c _ (by exact hc) (by exact hs ..)) fun _ =>
      (spec_send _ _ (hs ..)).bind fun _ =>
      (spec_emit _ (X.go_est_contact call0.contact r _ hc hrec)).bind fun _ =>
      spec_newSession c (callNA call0) _ _ (hS1 none) fun cur hcur => hS2 cur _ hcur

theorem spec_handleAuthMessage (c : Cfg) (na : NA) (nonce : Nat) (sig : Sig) (eph : Nat)
    (record : Option Rec) (ct : Ct)
    (hFf : ∀ ch cd p, X.F ch cd → X.F (ch.filter p) cd)
    (hFa : ∀ ch cd x, X.F ch cd → X.F (ch ++ [x]) cd)
    (hdec : ∀ sess, X.GS na sess → X.GS na (decryptMessage sess nonce ct).1)
    (hE : ∀ ch sess r, establishFromChallenge c na.id ch sig eph record = some (some (sess, r)) →
      X.GS na sess ∧ ∀ cur : Session, X.GS na cur →
        X.GS na { cur with keys := sess.keys, oldKeys := some cur.keys, awaitingEnr := sess.awaitingEnr }) :
    Keeps X (handleAuthMessage c na nonce sig eph record ct) := by
  intro st h
  unfold handleAuthMessage
  rw [wp_bind, wp_getS]
  rcases hf : st.1.challenges.find? (fun x => x.fst == na) with _ | ⟨k, ch, dl, sq⟩
  · simp only [hf, wp_pure]; exact h
  simp only [hf]
  rw [wp_bind, wp_setS]
  refine (?_ : Keeps X _) _ { h with frame := hFf _ _ _ h.frame }
  rcases hest : establishFromChallenge c na.id ch sig eph record with _ | _ | ⟨sess, r⟩
  · exact fun st1 h1 => { h1 with frame := hFa _ _ _ h1.frame }
  · exact (spec_removeExpected _).bind fun _ => spec_failSession c na _ true
  · obtain ⟨hs, hput⟩ := hE ch sess r hest
    have hid := (establish_ok c _ ch sig eph record sess r hest).1
    have hn := X.gs_gn _ _ hs
    have fin := (spec_newSession c na sess none hs hput).bind fun _ =>
      spec_handleMessage c na nonce ct hdec
    exact (spec_removeExpected _).bind fun _ =>
      Keeps.ite ((spec_emit _ (X.go_est na r false hn hid)).bind fun _ => fin)
        ((spec_emit _ (X.go_unv na r hn)).bind fun _ => fin)

theorem spec_fireTimers (c : Cfg) (target : Nat)
    (hFf : ∀ ch cd p, X.F ch cd → X.F (ch.filter p) cd) (fuel : Nat) :
    Keeps X (fireTimers c target fuel) :=
  fireTimers_inv (I := Inv X) c target
    (fun st d call h hnd => by
      obtain ⟨hc, hp⟩ := h.act call (nextDue_spec hnd).2.1
      exact spec_handleRequestTimeout c call hc hp _
        { h with act := fun x hx => h.act x (List.mem_of_mem_erase hx) })
    (fun st d na h _ => by
      exact ((spec_removeExpected na.addr).bind fun _ => spec_sendPendingRequests c na) _
        { h with frame := hFf _ _ _ h.frame })
    fuel

theorem step_eq (c : Cfg) (s : HState) (e : Ev) : step c s e = ((stepM c e).run (s, [])).2 := rfl

theorem Keeps.step {c : Cfg} {e : Ev} (h : Keeps X (stepM c e)) {s : HState}
    (hi : Inv X (s, [])) : Inv X (step c s e) := h _ hi

theorem spec_stepM_appRequest (c : Cfg) (contact : Contact) (rid body : Nat) (hc : X.GC contact) :
    Keeps X (stepM c (.appRequest contact rid body)) := by
  refine (spec_sendRequest c contact rid false body hc).bind fun r => ?_
  rcases r with _ | e
  · exact Keeps.pure _
  · exact spec_emit _ (X.go_failed _ _)

theorem spec_stepM_appResponse (c : Cfg) (na : NA) (rid : Nat) (rb : RespBody) :
    Keeps X (stepM c (.appResponse na rid rb)) := by
  refine (spec_sessGetMut c na).bind fun r hr => ?_
  rcases r with _ | sess
  · exact Keeps.pure _
  · refine (spec_encryptMessage c sess _).bind fun r hr' => ?_
    obtain ⟨sess', p⟩ := r
    exact (spec_sessPut na _ (hr'.1 _ (hr _ rfl))).bind fun _ => spec_send na p hr'.2

theorem spec_stepM_adv (c : Cfg) (dt : Nat)
    (hFf : ∀ ch cd p, X.F ch cd → X.F (ch.filter p) cd) :
    Keeps X (stepM c (.adv dt)) :=
  Keeps.get_bind fun _ => (spec_fireTimers c _ hFf 10000).bind fun _ _ h => { h with }

theorem spec_stepM_rtAdv (c : Cfg) (dt : Nat) : Keeps X (stepM c (.rtAdv dt)) :=
  fun _ h => { h with }

/-- The walk over one event for a context that accepts every session and every contact; `appWru`,
the one event that advances the cd counter, is left to the caller. -/
theorem spec_stepM_free (c : Cfg) (e : Ev) (hS : ∀ na sess, X.GS na sess) (hC : ∀ ct, X.GC ct)
    (hFf : ∀ ch cd p, X.F ch cd → X.F (ch.filter p) cd)
    (hFa : ∀ ch cd x, X.F ch cd → X.F (ch ++ [x]) cd) :
    (∃ na nonce known, e = .appWru na nonce known) ∨ Keeps X (stepM c e) := by
  cases e with
  | appWru na nonce known => exact Or.inl ⟨na, nonce, known, rfl⟩
  | appRequest ct rid body => exact Or.inr (spec_stepM_appRequest c ct rid body (hC ct))
  | appResponse na rid rb => exact Or.inr (spec_stepM_appResponse c na rid rb)
  | dgram src p =>
    refine Or.inr ?_
    cases p with
    | whoareyou nonce cd enrSeq =>
      exact spec_handleChallenge c src nonce cd enrSeq fun _ _ _ => ⟨fun _ => hS _ _, fun _ _ _ => hS _ _⟩
    | message srcId nonce ct => exact spec_handleMessage c _ nonce ct fun _ _ => hS _ _
    | handshake srcId nonce sig eph record ct =>
      exact spec_handleAuthMessage c _ nonce sig eph record ct hFf hFa (fun _ _ => hS _ _)
        fun _ _ _ _ => ⟨hS _ _, fun _ _ => hS _ _⟩
  | adv dt => exact Or.inr (spec_stepM_adv c dt hFf)
  | rtAdv dt => exact Or.inr (spec_stepM_rtAdv c dt)

theorem dialled_append (a b : List Ev) : dialled (a ++ b) = dialled a ++ dialled b := by
  induction a with
  | nil => rfl
  | cons x xs ih => cases x <;> simp only [List.cons_append, dialled, ih]

theorem handshakeSigs_append (a b : List Ev) :
    handshakeSigs (a ++ b) = handshakeSigs a ++ handshakeSigs b := by
  induction a with
  | nil => rfl
  | cons x xs ih =>
    cases x with
    | dgram src p => cases p <;> simp only [List.cons_append, handshakeSigs, ih]
    | _ => simp only [List.cons_append, handshakeSigs, ih]

theorem contactsWF_append (a b : List Ev) : ContactsWF (a ++ b) ↔ ContactsWF a ∧ ContactsWF b := by
  induction a with
  | nil => simp [ContactsWF]
  | cons x xs ih => cases x <;> simp only [List.cons_append, ContactsWF, ih, and_assoc]

def trivialCtx : Ctx where
  GN := fun _ => True
  GS := fun _ _ => True
  SL := fun _ => True
  GC := fun _ => True
  GPk := fun _ => True
  GO := fun _ => True
  F := fun _ _ => True
  gs_gn := fun _ _ _ => trivial
  gs_counter := fun _ _ _ _ => trivial
  gs_await := fun _ _ _ => trivial
  gc_gn := fun _ _ => trivial
  go_est_contact := fun _ _ _ _ _ => trivial
  gpk_msg := fun _ _ _ => trivial
  gpk_hs := fun _ _ _ _ _ _ => trivial
  go_failed := fun _ _ => trivial
  go_expired := fun _ => trivial
  go_wru := fun _ _ => trivial
  go_send := fun _ _ _ => trivial
  go_request := fun _ _ _ _ => trivial
  go_response := fun _ _ _ _ => trivial
  go_est := fun _ _ _ _ _ => trivial
  go_unv := fun _ _ _ => trivial
  sl_filter := fun _ _ _ => trivial
  sl_insert := fun _ _ _ => trivial
  sl_suffix := fun _ _ _ => trivial

theorem inv_trivial (st : St) : Inv trivialCtx st :=
  ⟨fun _ _ => trivial, trivial, fun _ _ => ⟨trivial, trivial⟩, fun _ _ _ _ => trivial,
    fun _ _ => trivial, trivial⟩

/-! ### identity: whom sessions and reports are attributed to -/

/-- A node address is justified by the history: dialled, or a handshake signed by it for us. -/
def Justified (c : Cfg) (evs : List Ev) (na : NA) : Prop :=
  na.id ∈ dialled evs ∨
    ∃ p ∈ handshakeSigs evs, p.2.signer = na.id ∧ p.2.dst = c.localId ∧ p.1 = na

theorem Justified.mono {c : Cfg} {evs : List Ev} {na : NA} (h : Justified c evs na) (more : List Ev) :
    Justified c (evs ++ more) na := by
  rcases h with h | ⟨p, hp, h⟩
  · exact Or.inl (by rw [dialled_append]; exact List.mem_append_left _ h)
  · exact Or.inr ⟨p, by rw [handshakeSigs_append]; exact List.mem_append_left _ hp, h⟩

/-- The second conjunct of `GC` is what `ContactsWF` says of every dialled contact. -/
def ctxA (c : Cfg) (evs : List Ev) : Ctx := { trivialCtx with
  GN := Justified c evs
  GS := fun na _ => Justified c evs na
  GC := fun ct => ct.na.id ∈ dialled evs ∧ ∀ r, ct.record = some r → r.id = ct.na.id
  GO := fun o => ∀ x, attributesTo x o = true → ∃ na, Justified c evs na ∧ na.id = x
  gs_gn := fun _ _ h => h
  gs_counter := fun _ _ _ h => h
  gs_await := fun _ _ h => h
  gc_gn := fun _ h => Or.inl h.1
  go_est_contact := fun ct r _ h hr x hx =>
    ⟨ct.na, Or.inl h.1, by rw [← h.2 r hr]; simpa [attributesTo] using hx⟩
  go_failed := fun _ _ x hx => nomatch hx
  go_expired := fun _ x hx => nomatch hx
  go_wru := fun _ _ x hx => nomatch hx
  go_send := fun _ _ _ x hx => nomatch hx
  go_request := fun na _ _ h x hx => ⟨na, h, by simpa [attributesTo] using hx⟩
  go_response := fun na _ _ h x hx => ⟨na, h, by simpa [attributesTo] using hx⟩
  go_est := fun na r _ h hr x hx => ⟨na, h, by rw [← hr]; simpa [attributesTo] using hx⟩
  go_unv := fun na _ h x hx => ⟨na, h, by simpa [attributesTo] using hx⟩ }

theorem ctxA_mono {c : Cfg} {evs : List Ev} {st : St} (h : Inv (ctxA c evs) st) (more : List Ev) :
    Inv (ctxA c (evs ++ more)) st :=
  have hd : ∀ {x}, x ∈ dialled evs → x ∈ dialled (evs ++ more) := fun hx => by
    rw [dialled_append]; exact List.mem_append_left _ hx
  { inv_trivial st with
    sess := fun e he => (h.sess e he).mono more
    act := fun call hc => ⟨⟨hd (h.act call hc).1.1, (h.act call hc).1.2⟩, trivial⟩
    pend := fun e he pr hpr => ⟨hd (h.pend e he pr hpr).1, (h.pend e he pr hpr).2⟩
    outs := fun o ho x hx => let ⟨na, hn, hid⟩ := h.outs o ho x hx; ⟨na, hn.mono more, hid⟩ }

theorem stepA (c : Cfg) (evs : List Ev) (e : Ev) (hw : ContactsWF (evs ++ [e])) :
    Keeps (ctxA c (evs ++ [e])) (stepM c e) := by
  have hwe : ContactsWF [e] := ((contactsWF_append _ _).1 hw).2
  cases e with
  | appRequest ct rid body =>
    refine spec_stepM_appRequest c ct rid body ⟨?_, hwe.1⟩
    rw [dialled_append]; exact List.mem_append_right _ (List.mem_cons_self ..)
  | appResponse na rid rb => exact spec_stepM_appResponse c na rid rb
  | appWru na nonce known =>
    exact spec_sendChallenge c na nonce known (fun _ _ _ => trivial) (fun _ _ _ _ => trivial)
      (fun _ _ _ => trivial)
  | dgram src p =>
    cases p with
    | whoareyou nonce cd enrSeq =>
      exact spec_handleChallenge c src nonce cd enrSeq fun ct eph hc =>
        ⟨fun _ => Or.inl hc.1, fun _ _ h => h⟩
    | message srcId nonce ct =>
      exact spec_handleMessage c _ nonce ct (fun _ h => h)
    | handshake srcId nonce sig eph record ct =>
      refine spec_handleAuthMessage c _ nonce sig eph record ct (fun _ _ _ _ => trivial)
        (fun _ _ _ _ => trivial) (fun _ h => h) ?_
      intro ch sess r hest
      obtain ⟨-, h2, -, -, h5, -, -⟩ := establish_ok c _ ch sig eph record sess r hest
      have hg : Justified c (evs ++ [Ev.dgram src (Pkt.handshake srcId nonce sig eph record ct)])
          { id := srcId, addr := src } := by
        refine Or.inr ⟨({ id := srcId, addr := src }, sig), ?_, h2, h5, rfl⟩
        rw [handshakeSigs_append]; exact List.mem_append_right _ (List.mem_cons_self ..)
      exact ⟨hg, fun _ _ => hg⟩
  | adv dt => exact spec_stepM_adv c dt (fun _ _ _ _ => trivial)
  | rtAdv dt => exact spec_stepM_rtAdv c dt

theorem invA (c : Cfg) : ∀ evs, ContactsWF evs →
    Inv (ctxA c evs) (run c evs, []) ∧ ∀ o ∈ outputs c evs, (ctxA c evs).GO o := by
  refine RQ.run_induction (c := c) (I := fun evs s os => ContactsWF evs →
    Inv (ctxA c evs) (s, []) ∧ ∀ o ∈ os, (ctxA c evs).GO o) ?_ ?_
  · have nil : ∀ {α} {p : α → Prop}, ∀ x ∈ ([] : List α), p x := fun _ h => nomatch h
    exact fun _ => ⟨{ inv_trivial ({}, []) with sess := nil, act := nil, pend := nil, outs := nil }, nil⟩
  · intro evs e ih hw
    obtain ⟨hI, hO⟩ := ih ((contactsWF_append _ _).1 hw).1
    have hstep := (stepA c evs e hw).step (ctxA_mono hI [e])
    refine ⟨{ hstep with outs := fun _ h => nomatch h }, fun o ho => ?_⟩
    rcases List.mem_append.1 ho with h1 | h1
    · intro x hx
      obtain ⟨na, hn, hid⟩ := hO o h1 x hx
      exact ⟨na, hn.mono [e], hid⟩
    · exact hstep.outs o h1

/-! ### the end of `failSession` (no session removal): only `failed` reports, exemptions,
active and queued requests change -/

structure Tail (K : St → Prop) : Prop where
  failed : ∀ st rid e, K st → K (st.1, st.2 ++ [.failed rid e])
  exempt : ∀ st x, K st → K ({ st.1 with exempt := x }, st.2)
  active : ∀ st x, K st → K ({ st.1 with active := x }, st.2)
  pending : ∀ st x, K st → K ({ st.1 with pending := x }, st.2)

theorem tail_failSession {K : St → Prop} (hK : Tail K) (c : Cfg) (na : NA) (e : Err) :
    ∀ st, K st → wp (failSession c na e false) (fun _ => K) st := by
  intro st h
  rw [failSession_false, wp_bind]
  have pend : wp (failPending na e) (fun _ => K) st := by
    unfold failPending
    simp only [wp_bind, wp_getS]
    rcases hf : st.1.pending.find? (fun x => x.fst == na) with _ | ent
    · simp only [hf, wp_pure]; exact h
    · simp only [hf, wp_bind, wp_setS]
      refine wp_forEach _ _ (fun pr _ st1 h1 => ?_) _ (hK.pending _ _ h)
      rw [wp_ite]
      split
      · exact hK.failed _ _ _ h1
      · exact h1
  refine wp_mono pend fun _ st1 h1 => ?_
  unfold failActive activeRemoveRequests
  simp only [wp_bind, wp_getS, wp_setS, wp_pure]
  refine wp_forEach _ _ (fun call _ st2 h2 => ?_) _ (hK.active _ _ h1)
  rw [wp_ite]
  split
  · exact hK.exempt _ _ (hK.failed _ _ _ h2)
  · exact hK.exempt _ _ h2

theorem sessEq_tail (L : List (NA × Session × Nat)) : Tail (fun st => st.1.sessions = L) where
  failed := fun _ _ _ h => h
  exempt := fun _ _ h => h
  active := fun _ _ h => h
  pending := fun _ _ h => h

/-! ### single-step facts about `handleAuthMessage` (C03) -/

def ctxF (F : List (NA × Challenge × Nat × Nat) → Nat → Prop) : Ctx := { trivialCtx with F := F }

theorem inv_ctxF {F : List (NA × Challenge × Nat × Nat) → Nat → Prop} {st : St}
    (h : F st.1.challenges st.1.fresh.cd) : Inv (ctxF F) st :=
  { inv_trivial st with frame := h }

theorem any_filter_ne_false (l : List (NA × Challenge × Nat × Nat)) (na : NA) :
    (l.filter (fun x => x.1 != na)).any (fun x => x.1 == na) = false := by
  rw [List.any_eq_false]
  intro x hx
  simpa using (List.mem_filter.1 hx).2

theorem handleAuthMessage_consumes (c : Cfg) (s : HState) (na : NA) (nonce : Nat) (sig : Sig)
    (eph : Nat) (record : Option Rec) (ct : Ct) :
    wp (handleAuthMessage c na nonce sig eph record ct)
      (fun _ st' => st'.1.challenges.any (·.1 == na) = false ∨
        (st'.1.sessions = s.sessions ∧ st'.1.active = s.active)) (s, []) := by
  unfold handleAuthMessage
  rw [wp_bind, wp_getS]
  rcases hf : s.challenges.find? (fun x => x.fst == na) with _ | ⟨k, ch, dl, sq⟩
  · simp only [hf, wp_pure]; exact Or.inr ⟨trivial, trivial⟩
  simp only [hf]
  rw [wp_bind, wp_setS]
  -- once the challenge is taken out, nothing but the re-insertion touches the challenge list
  let X := ctxF fun l _ => l = s.challenges.filter fun x => x.fst != na
  have gone : ∀ m : M Unit, Keeps X m →
      wp m (fun _ st' => st'.1.challenges.any (·.1 == na) = false ∨
        (st'.1.sessions = s.sessions ∧ st'.1.active = s.active))
        ({ s with challenges := s.challenges.filter fun x => x.fst != na }, []) :=
    fun m hm => wp_mono (hm _ (inv_ctxF rfl)) fun _ st' h' => Or.inl (by
      rw [show st'.1.challenges = _ from h'.frame]; exact any_filter_ne_false _ _)
  rcases establishFromChallenge c na.id ch sig eph record with _ | _ | ⟨sess, r⟩
  · exact Or.inr ⟨rfl, rfl⟩
  · exact gone _ ((spec_removeExpected _).bind fun _ => spec_failSession c na _ true)
  · have fin : Keeps X _ :=
      (spec_newSession c na sess none trivial fun _ _ => trivial).bind fun _ =>
        spec_handleMessage c na nonce ct fun _ _ => trivial
    exact gone _ ((spec_removeExpected _).bind fun _ =>
      Keeps.ite ((spec_emit _ trivial).bind fun _ => fin) ((spec_emit _ trivial).bind fun _ => fin))

theorem filter_any_self (l : List (NA × Session × Nat)) :
    l.filter (fun e => l.any (·.1 == e.1)) = l := by
  rw [List.filter_eq_self]
  intro e he
  rw [List.any_eq_true]
  exact ⟨e, he, by simp⟩

theorem filter_any_suffix (pre r : List (NA × Session × Nat)) (na : NA)
    (hnd : ((pre ++ r).map (·.1)).Nodup) :
    (pre ++ r).filter (fun e => (r.filter (·.1 != na)).any (·.1 == e.1)) = r.filter (·.1 != na) := by
  rw [List.map_append] at hnd
  have hdisj := (List.nodup_append.1 hnd).2.2
  have h1 : pre.filter (fun e => (r.filter (·.1 != na)).any (·.1 == e.1)) = [] :=
    List.filter_eq_nil_iff.2 fun e he hany => by
      obtain ⟨x, hx, hxe⟩ := List.any_eq_true.1 hany
      exact hdisj e.1 (List.mem_map_of_mem he) x.1 (List.mem_map_of_mem (List.mem_filter.1 hx).1)
        (beq_iff_eq.1 hxe).symm
  rw [List.filter_append, h1, List.nil_append]
  refine List.filter_congr fun e he => Bool.eq_iff_iff.2 ?_
  simp only [List.any_eq_true, List.mem_filter, bne_iff_ne, beq_iff_eq]
  exact ⟨fun ⟨x, ⟨_, hx⟩, hxe⟩ => hxe ▸ hx, fun h => ⟨e, ⟨he, h⟩, rfl⟩⟩

theorem handleAuthMessage_stale (c : Cfg) (s : HState) (na : NA) (nonce : Nat) (sig : Sig)
    (eph : Nat) (record : Option Rec) (ct : Ct)
    (h : ∀ e ∈ s.challenges, e.1 = na → e.2.1.cd ≠ sig.cd) :
    wp (handleAuthMessage c na nonce sig eph record ct)
      (fun _ st' => st'.1.sessions = s.sessions ∨
        st'.1.sessions = ((popExpired c.sessionTtl s.rt s.sessions).2).filter (·.1 != na)) (s, []) := by
  unfold handleAuthMessage
  rw [wp_bind, wp_getS]
  rcases hf : s.challenges.find? (fun x => x.fst == na) with _ | ⟨k, ch, dl, sq⟩
  · simp only [hf, wp_pure]; exact Or.inl trivial
  simp only [hf]
  rw [wp_bind, wp_setS]
  have hcd := h _ (List.mem_of_find?_eq_some hf) (by simpa using List.find?_some hf)
  rcases hest : establishFromChallenge c na.id ch sig eph record with _ | _ | ⟨sess, r⟩
  · exact Or.inl rfl
  · unfold removeExpected
    rw [failSession_true]
    unfold removeExpiredSessions sessRemove
    simp only [wp_bind, wp_getS, wp_setS, wp_ite, wp_emit, wp_pure, wp_modS]
    split <;> exact wp_mono (tail_failSession (sessEq_tail _) c na _ _ rfl) fun _ _ hh => Or.inr hh
  · exact absurd (establish_ok c _ ch sig eph record sess r hest).2.2.1.symm hcd

/-- From the outcomes of `handleAuthMessage_stale` to the form `stale_handshake_rejected` (C01) states. -/
theorem map_eq_map_survivors (f : NA × Session × Nat → NA × Keys) (l L' : List (NA × Session × Nat)) (na : NA)
    (ttl rt : Nat) (hnd : (l.map (·.1)).Nodup)
    (h : L' = l ∨ L' = ((popExpired ttl rt l).2).filter (·.1 != na)) :
    L'.map f = (l.filter (fun e => L'.any (·.1 == e.1))).map f := by
  rcases h with h | h
  · rw [h, filter_any_self]
  · obtain ⟨pre, hpre⟩ := popExpired_split ttl rt l
    generalize (popExpired ttl rt l).2 = r at h hpre
    subst hpre h
    rw [filter_any_suffix pre r na hnd]

/-! ### single-step facts about `handleChallenge` (C01, C03) -/

/-- A session's keys are those of the state `s0` before the step (same node address) or freshly derived
for challenge data `cd`. -/
def ctxK (c : Cfg) (s0 : HState) (cd : Nat) : Ctx := { trivialCtx with
  GS := fun na sess => (∃ e' ∈ s0.sessions, e'.1 = na ∧ e'.2.1.keys = sess.keys) ∨
    ∃ eph, sess.keys = iniKeys c na eph cd
  gs_gn := fun _ _ _ => trivial
  gs_counter := fun _ _ _ h => h
  gs_await := fun _ _ h => h }

theorem handleChallenge_keys (c : Cfg) (s : HState) (src : Addr) (nonce cd enrSeq : Nat) :
    ∀ e ∈ (step c s (.dgram src (.whoareyou nonce cd enrSeq))).1.sessions,
      (∃ e' ∈ s.sessions, e'.1 = e.1 ∧ e'.2.1.keys = e.2.1.keys) ∨
      ∃ eph, e.2.1.keys = iniKeys c e.1 eph cd :=
  (spec_handleChallenge (X := ctxK c s cd) c src nonce cd enrSeq
    (fun _ eph _ => ⟨fun _ => Or.inr ⟨eph, rfl⟩, fun _ _ _ => Or.inr ⟨eph, rfl⟩⟩) _
    { inv_trivial (s, []) with sess := fun e he => Or.inl ⟨e, he, rfl, rfl⟩ }).sess

/-- No datagram has been sent (`one_handshake_per_request`, C01). -/
def NoSend (st : St) : Prop := ∀ o ∈ st.2, ∀ na p, o ≠ Out.send na p

theorem noSend_tail : Tail NoSend where
  failed := fun _ _ _ h => forall_mem_snoc h fun _ _ h => nomatch h
  exempt := fun _ _ h => h
  active := fun _ _ h => h
  pending := fun _ _ h => h

theorem noSend_failSession (c : Cfg) (na : NA) (e : Err) (rm : Bool) :
    ∀ st, NoSend st → wp (failSession c na e rm) (fun _ => NoSend) st := by
  intro st h
  cases rm
  · exact tail_failSession noSend_tail c na e st h
  · rw [failSession_true]
    unfold removeExpiredSessions sessRemove
    simp only [wp_bind, wp_getS, wp_setS, wp_ite, wp_emit, wp_pure, wp_modS]
    split
    · exact tail_failSession noSend_tail c na e _ (forall_mem_snoc h fun _ _ hh => nomatch hh)
    · exact tail_failSession noSend_tail c na e _ h

/-! ### the id-nonces of sent WHOAREYOU packets are distinct -/

def NotWru (p : Pkt) : Prop := ∀ n cd e, p ≠ .whoareyou n cd e

/-- Context for the uniqueness of id-nonces: no WHOAREYOU is (re)sent and the cd counter stays. -/
def ctxD (k0 : Nat) : Ctx := { trivialCtx with
  GPk := NotWru
  GO := fun o => ∀ na p, o = .send na p → NotWru p
  F := fun _ cd => cd = k0
  go_est_contact := fun _ _ _ _ _ _ _ h => nomatch h
  gpk_msg := fun _ _ _ _ _ _ h => nomatch h
  gpk_hs := fun _ _ _ _ _ _ _ _ _ h => nomatch h
  go_failed := fun _ _ _ _ h => nomatch h
  go_expired := fun _ _ _ h => nomatch h
  go_wru := fun _ _ _ _ h => nomatch h
  go_send := fun _ _ hp _ _ h => by cases h; exact hp
  go_request := fun _ _ _ _ _ _ h => nomatch h
  go_response := fun _ _ _ _ _ _ h => nomatch h
  go_est := fun _ _ _ _ _ _ _ h => nomatch h
  go_unv := fun _ _ _ _ _ h => nomatch h }

theorem sentCds_append (a b : List Out) : sentCds (a ++ b) = sentCds a ++ sentCds b := by
  induction a with
  | nil => rfl
  | cons x xs ih =>
    cases x with
    | send na p => cases p <;> simp only [List.cons_append, sentCds, ih]
    | _ => simp only [List.cons_append, sentCds, ih]

theorem sentCds_nil_of (os : List Out) (h : ∀ o ∈ os, ∀ na p, o = Out.send na p → NotWru p) :
    sentCds os = [] := by
  induction os with
  | nil => rfl
  | cons x xs ih =>
    have ih' := ih (fun o ho => h o (List.mem_cons_of_mem _ ho))
    cases x with
    | send na p =>
      cases p with
      | whoareyou n cd e => exact absurd rfl (h _ (List.mem_cons_self ..) na _ rfl n cd e)
      | _ => simp only [sentCds, ih']
    | _ => simp only [sentCds, ih']

/-- What one step does to the cd counter: untouched and no WHOAREYOU sent, or advanced by one with
exactly the WHOAREYOU of that name sent. -/
def CdStep (c : Cfg) (s : HState) (r : St) : Prop :=
  (sentCds r.2 = [] ∧ r.1.fresh.cd = s.fresh.cd) ∨
    (sentCds r.2 = [mkName c (s.fresh.cd + 1)] ∧ r.1.fresh.cd = s.fresh.cd + 1)

theorem stepD (c : Cfg) (s : HState) (e : Ev) (ha : ∀ call ∈ s.active, NotWru call.pkt) :
    (∀ call ∈ (step c s e).1.active, NotWru call.pkt) ∧ CdStep c s (step c s e) := by
  rcases spec_stepM_free (X := ctxD s.fresh.cd) c e (fun _ _ => trivial) (fun _ => trivial)
    (fun _ _ _ h => h) (fun _ _ _ h => h) with ⟨na, nonce, known, rfl⟩ | hsp
  · have key : wp (sendChallenge c na nonce known)
        (fun _ st' => st'.1.active = s.active ∧ CdStep c s st') (s, []) := by
      unfold sendChallenge freshCd addExpected send CdStep
      simp only [wp_bind, wp_getS, wp_ite, wp_pure, wp_setS, wp_modS, wp_emit]
      split
      · exact ⟨trivial, Or.inl ⟨rfl, trivial⟩⟩
      · split <;> exact ⟨rfl, Or.inr ⟨rfl, rfl⟩⟩
    exact ⟨fun call hc => ha call (key.1 ▸ hc), key.2⟩
  · have hI := hsp.step (s := s)
      { inv_trivial (s, []) with act := fun call hc => ⟨trivial, ha call hc⟩
                                 outs := fun _ h => nomatch h
                                 frame := rfl }
    exact ⟨fun call hc => (hI.act call hc).2, Or.inl ⟨sentCds_nil_of _ hI.outs, hI.frame⟩⟩

theorem invD (c : Cfg) : ∀ evs,
    (∀ call ∈ (run c evs).active, NotWru call.pkt) ∧ (sentCds (outputs c evs)).Nodup ∧
    ∀ x ∈ sentCds (outputs c evs), x ≤ mkName c (run c evs).fresh.cd := by
  refine RQ.run_induction (c := c) (I := fun _ (s : HState) os => (∀ call ∈ s.active, NotWru call.pkt) ∧
    (sentCds os).Nodup ∧ ∀ x ∈ sentCds os, x ≤ mkName c s.fresh.cd)
    ⟨fun _ h => (nomatch h), List.nodup_nil, fun _ h => (nomatch h)⟩ ?_
  intro evs e ⟨h1, h2, h3⟩
  obtain ⟨k1, k2⟩ := stepD c (run c evs) e h1
  rw [sentCds_append]
  refine ⟨k1, ?_⟩
  rcases k2 with ⟨k2, k3⟩ | ⟨k2, k3⟩ <;> rw [k2, k3]
  · rw [List.append_nil]; exact ⟨h2, h3⟩
  · -- names grow with the counter, so the new one is above all earlier ones
    have lt : ∀ x ∈ sentCds (outputs c evs), x < mkName c ((run c evs).fresh.cd + 1) := fun x hx =>
      Nat.lt_of_le_of_lt (h3 x hx) (by unfold mkName; omega)
    refine ⟨List.nodup_append.2 ⟨h2, by simp, fun a ha b hb => ?_⟩,
      forall_mem_snoc (fun x hx => Nat.le_of_lt (lt x hx)) (Nat.le_refl _)⟩
    rw [List.mem_singleton.1 hb]; exact Nat.ne_of_lt (lt a ha)

end Discv5.H.HI
