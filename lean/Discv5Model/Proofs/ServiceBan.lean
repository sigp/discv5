/-
Who gets banned by a service step (`PERMIT_BAN_LIST.write().ban(node_address, _)` in
`handle_rpc_response`).  The walk through the
handlers of `Model/Service.lean` (`StepQ`, `Proofs/ServicePolicy.lean`) shows that every handler
except the NODES arm of `handleResponse` emits no ban; the NODES arm bans at most the sender of the
response (`handleResponse_bans`).
-/
import Discv5Model.Model.Service
import Discv5Model.Proofs.ServiceNodes
import Discv5Model.Proofs.ServiceRun
import Discv5Model.Proofs.ServicePolicy
import Discv5Model.Proofs.ServiceResponse

namespace Discv5.Svc
open Discv5.KB Discv5.Svc.Svc

theorem mem_bans {p : Nat} {a : Addr} {outs : List Out} : (p, a) ∈ bans outs ↔ Out.ban p a ∈ outs := by
  unfold bans
  rw [List.mem_filterMap]
  constructor
  · rintro ⟨x, hx, h⟩
    cases x <;> cases h
    exact hx
  · exact fun h => ⟨_, h, rfl⟩

theorem not_mem_of_bans_nil {outs : List Out} (h : bans outs = []) (p : Nat) (a : Addr) :
    Out.ban p a ∉ outs := by
  intro hm
  have := mem_bans.2 hm
  rw [h] at this
  cases this

/-- The decision of the NODES arm, which reads nothing of the state but the active requests: the
response answers the active request `id`, it comes from the node and the address the request was
sent to, the request is a FINDNODE without a user-level callback, and the distance filter says
"ban". -/
def banDecision (active : List ActiveReq) (peer : Nat) (addr : Addr) (id : Nat) (recs : List Rec) :
    Bool :=
  match active.find? (fun a => a.id == id) with
  | some req =>
    match req.body with
    | .findNode ds =>
      req.peer == peer && req.addr == addr && !req.callback && (acceptNodes peer ds recs).2
    | _ => false
  | none => false

theorem banDecision_none {s : Svc} {id : Nat} (h : activeReq s id = none) (peer : Nat) (addr : Addr)
    (recs : List Rec) : banDecision s.active peer addr id recs = false := by
  unfold banDecision
  rw [← activeReq, h]

/-- The decision in terms of the request matched: the response fits it, it has no user-level
callback, and the distance filter says "ban". -/
theorem banDecision_some {s : Svc} {id : Nat} {req : ActiveReq} (h : activeReq s id = some req)
    (peer : Nat) (addr : Addr) (total : Nat) (recs : List Rec) :
    banDecision s.active peer addr id recs =
      (!(req.peer != peer || req.addr != addr || !(RespBody.nodes total recs).matchRequest req.body) &&
        (!req.callback && (acceptNodes peer (requestedOf req.body) recs).2)) := by
  unfold banDecision
  rw [← activeReq, h]
  simp only
  cases req.body <;> simp [RespBody.matchRequest, requestedOf, bne, Bool.not_or, Bool.and_assoc]

theorem nodesArm_bans (s : Svc) (peer : Nat) (addr : Addr) (id : Nat) (req : ActiveReq) (total : Nat)
    (recs : List Rec) :
    bans (nodesArm s peer addr id req total recs).2 =
      if !req.callback && (acceptNodes peer (requestedOf req.body) recs).2 then [(peer, addr)] else [] := by
  have hb : bans (if (acceptNodes peer (requestedOf req.body) recs).2 = true then [Out.ban peer addr]
      else []) = if (acceptNodes peer (requestedOf req.body) recs).2 = true then [(peer, addr)] else [] := by
    cases (acceptNodes peer (requestedOf req.body) recs).2 <;> rfl
  unfold nodesArm
  cases req.callback
  · simp only [Bool.false_eq_true, if_false, Bool.not_false, Bool.true_and]
    split
    · exact hb
    · rw [bans_append, hb, discovered_bans, List.append_nil]
  · rfl

theorem pongArm_bans (s : Svc) (o : Oracle) (peer id : Nat) (req : ActiveReq) (enrSeq : Nat)
    (observed : Addr) : bans (pongArm s o peer id req enrSeq observed).2 = [] :=
  (pongArm_stepQ (P := fun _ _ => True) s peer id req enrSeq observed).quiet

/-- Only a NODES response bans: nobody or exactly its sender, as `banDecision` says. -/
theorem handleResponse_bans (s : Svc) (o : Oracle) (peer : Nat) (addr : Addr) (id : Nat)
    (body : RespBody) :
    bans (s.handleResponse o peer addr id body).2 =
      match body with
      | .nodes _ recs => if banDecision s.active peer addr id recs then [(peer, addr)] else []
      | _ => [] := by
  have hd : ∀ req : ActiveReq, bans (droppedOut id req) = [] := by
    intro req; unfold droppedOut; split <;> rfl
  rw [handleResponse_eq]
  cases body with
  | nodes total recs =>
    simp only
    cases h : activeReq s id with
    | none => rw [banDecision_none h]; rfl
    | some req =>
      rw [banDecision_some h peer addr total recs]
      simp only
      by_cases hM : (req.peer != peer || req.addr != addr ||
          !(RespBody.nodes total recs).matchRequest req.body) = true
      · rw [if_pos hM, hM]
        exact hd req
      · rw [if_neg hM, Bool.eq_false_iff.2 hM]
        exact nodesArm_bans ..
  | pong enrSeq observed =>
    cases activeReq s id with
    | none => rfl
    | some req =>
      simp only
      split
      · exact hd req
      · exact pongArm_bans ..
  | talk resp =>
    cases activeReq s id with
    | none => rfl
    | some req =>
      simp only
      split
      · exact hd req
      · split <;> rfl

theorem handleResponse_nodes_bans (s : Svc) (o : Oracle) (peer : Nat) (addr : Addr) (id total : Nat)
    (recs : List Rec) :
    bans (s.handleResponse o peer addr id (.nodes total recs)).2 =
      if banDecision s.active peer addr id recs then [(peer, addr)] else [] :=
  handleResponse_bans s o peer addr id (.nodes total recs)

/-- Every input other than a NODES response bans nobody. -/
theorem step_bans_other (s : Svc) (o : Oracle) (i : Svc.Input)
    (hi : ∀ p a id total recs, i ≠ .response p a id (.nodes total recs)) :
    bans (s.step o i).2 = [] := by
  let T : Nat → Rec → Prop := fun _ _ => True
  cases i with
  | established r addr incoming =>
    exact (injectSessionEstablished_stepQ (P := T) s r addr incoming (fun _ _ _ => trivial)).quiet
  | request peer addr rid body => exact (handleRequest_stepQ (P := T) (o := o) ..).quiet
  | response peer addr id body =>
    show bans (s.handleResponse o peer addr id body).2 = []
    rw [handleResponse_bans]
    cases body with
    | nodes total recs => exact absurd rfl (hi peer addr id total recs)
    | _ => rfl
  | requestFailed id => exact (rpcFailure_stepQ (P := T) (o := o) s id (fun _ _ _ _ _ _ _ _ => trivial)).quiet
  | unverifiable id => rfl
  | whoAreYou peer addr => rfl
  | addEnr r => rfl
  | removeNode id => rfl
  | apiPing r => exact (sendPing_stepQ (P := T) (o := o) ..).quiet
  | apiFindNode r ds =>
    simp only [step]
    split <;> rfl
  | apiTalk r p q =>
    simp only [step]
    split <;> rfl
  | startQuery target => rfl
  | queryEmit peer => exact (sendRpcQuery_stepQ (P := T) (o := o) ..).quiet
  | queryFinished => rfl

end Discv5.Svc
