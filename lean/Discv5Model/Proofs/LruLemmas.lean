/- Helper lemmas for the `LruTimeCache` model (C15, cache part): list primitives, the
invariants (keys distinct, stamps sorted in list order, length ≤ capacity), the use log /
recency relation, and the specification (`Spec`) the cache is shown to refine.  What an operation
does to the list is said once, by `step_shape`: it leaves a sublist, possibly after one
`map.insert` of an entry stamped `now`; distinctness, sortedness and the recency order are
preserved by both. -/
import Discv5Model.Model.Lru
namespace Discv5.Lru

variable {K V : Type} [DecidableEq K]

theorem mem_lhmErase {m : List (Entry K V)} {k : K} {e : Entry K V} :
    e ∈ lhmErase m k ↔ e ∈ m ∧ e.key ≠ k := by
  simp [lhmErase]

theorem lhmErase_sublist (m : List (Entry K V)) (k : K) : (lhmErase m k).Sublist m :=
  List.filter_sublist

theorem lhmGet_some {m : List (Entry K V)} {k : K} {e : Entry K V} (h : lhmGet m k = some e) :
    e ∈ m ∧ e.key = k := by
  unfold lhmGet at h
  exact ⟨List.mem_of_find?_eq_some h, by simpa using List.find?_some h⟩

theorem lhmGet_none {m : List (Entry K V)} {k : K} :
    lhmGet m k = none ↔ ∀ e ∈ m, e.key ≠ k := by
  unfold lhmGet
  simp [List.find?_eq_none]

theorem lhmErase_of_absent {m : List (Entry K V)} {k : K} (h : ∀ e ∈ m, e.key ≠ k) :
    lhmErase m k = m := by
  unfold lhmErase
  rw [List.filter_eq_self]
  intro a ha
  simpa using h a ha

theorem length_lhmErase_le (m : List (Entry K V)) (k : K) : (lhmErase m k).length ≤ m.length :=
  (lhmErase_sublist m k).length_le

theorem length_lhmErase_lt {m : List (Entry K V)} {k : K} {e : Entry K V} (he : e ∈ m)
    (hk : e.key = k) : (lhmErase m k).length < m.length := by
  unfold lhmErase
  rw [List.length_filter_lt_length_iff_exists]
  exact ⟨e, he, by simp [hk]⟩

theorem lhmGet_of_mem {m : List (Entry K V)} {e : Entry K V}
    (hd : m.Pairwise (fun a b => a.key ≠ b.key)) (he : e ∈ m) : lhmGet m e.key = some e := by
  induction m with
  | nil => cases he
  | cons a rest ih =>
    rw [List.pairwise_cons] at hd
    unfold lhmGet
    rw [List.find?_cons]
    by_cases hae : a.key = e.key
    · simp only [hae, decide_true]
      rcases List.mem_cons.1 he with h | h
      · rw [h]
      · exact absurd hae (hd.1 e h)
    · simp only [hae, decide_false]
      rcases List.mem_cons.1 he with h | h
      · exact absurd (by rw [h]) hae
      · exact ih hd.2 h

theorem lhmGet_lhmErase_self (m : List (Entry K V)) (k : K) : lhmGet (lhmErase m k) k = none := by
  rw [lhmGet_none]
  intro e he
  exact (mem_lhmErase.1 he).2

theorem lhmGet_lhmErase_ne (m : List (Entry K V)) {k k' : K} (h : k' ≠ k) :
    lhmGet (lhmErase m k) k' = lhmGet m k' := by
  unfold lhmGet lhmErase
  rw [List.find?_filter]
  congr 1
  funext a
  by_cases ha : a.key = k'
  · simp [ha, h]
  · simp [ha]

/-! ### invariants -/

/-- Keys pairwise distinct (the list represents a map). -/
def Distinct (c : Cache K V) : Prop := c.map.Pairwise (fun a b => a.key ≠ b.key)

/-- Stamps never decrease from front to back and none is in the future of `now`. -/
def Sorted (c : Cache K V) (now : Nat) : Prop :=
  c.map.Pairwise (fun a b => a.stamp ≤ b.stamp) ∧ ∀ e ∈ c.map, e.stamp ≤ now

def Bounded (c : Cache K V) : Prop := c.map.length ≤ c.capacity

structure WF (c : Cache K V) (now : Nat) : Prop where
  distinct : Distinct c
  sorted : Sorted c now
  bounded : Bounded c

omit [DecidableEq K] in
theorem new_wf (ttl : Nat) (cap : Option Nat) (now : Nat) : WF (new ttl cap : Cache K V) now :=
  ⟨List.Pairwise.nil, ⟨List.Pairwise.nil, fun _ h => by cases h⟩, Nat.zero_le _⟩

theorem insert_map (c : Cache K V) (now : Nat) (k : K) (v : V) :
    (insert c now k v).map =
      if (lhmErase c.map k ++ [(⟨k, v, now⟩ : Entry K V)]).length > c.capacity
      then (lhmErase c.map k ++ [(⟨k, v, now⟩ : Entry K V)]).tail
      else lhmErase c.map k ++ [(⟨k, v, now⟩ : Entry K V)] := by
  unfold insert lhmInsert lhmPopFront
  simp only []
  split <;> rfl

theorem insert_ttl (c : Cache K V) (now : Nat) (k : K) (v : V) :
    (insert c now k v).ttl = c.ttl := by
  unfold insert; simp only []; split <;> rfl

theorem insert_capacity (c : Cache K V) (now : Nat) (k : K) (v : V) :
    (insert c now k v).capacity = c.capacity := by
  unfold insert; simp only []; split <;> rfl

theorem getMutWith_vacant {c : Cache K V} {now : Nat} {k : K} {f : V → V}
    (h : lhmGet c.map k = none) : getMutWith c now k f = (c, none) := by
  unfold getMutWith; rw [h]

theorem getMutWith_expired {c : Cache K V} {now : Nat} {k : K} {f : V → V} {e : Entry K V}
    (h : lhmGet c.map k = some e) (hx : e.stamp + c.ttl < now) :
    getMutWith c now k f = ({ c with map := lhmErase c.map k }, none) := by
  unfold getMutWith; rw [h]; simp only []; rw [if_pos hx]

theorem getMutWith_hit {c : Cache K V} {now : Nat} {k : K} {f : V → V} {e : Entry K V}
    (h : lhmGet c.map k = some e) (hx : ¬ e.stamp + c.ttl < now) :
    getMutWith c now k f =
      ({ c with map := lhmErase c.map k ++ [{ e with val := f e.val, stamp := now }] },
        some e.val) := by
  unfold getMutWith; rw [h]; simp only []; rw [if_neg hx]

theorem getMutWith_cases (c : Cache K V) (now : Nat) (k : K) (f : V → V) :
    (lhmGet c.map k = none ∧ getMutWith c now k f = (c, none)) ∨
    (∃ e, lhmGet c.map k = some e ∧ e.stamp + c.ttl < now ∧
      getMutWith c now k f = ({ c with map := lhmErase c.map k }, none)) ∨
    (∃ e, lhmGet c.map k = some e ∧ ¬ e.stamp + c.ttl < now ∧
      getMutWith c now k f =
        ({ c with map := lhmErase c.map k ++ [{ e with val := f e.val, stamp := now }] },
          some e.val)) := by
  cases h : lhmGet c.map k with
  | none => exact Or.inl ⟨rfl, getMutWith_vacant h⟩
  | some e =>
    by_cases hx : e.stamp + c.ttl < now
    · exact Or.inr (Or.inl ⟨e, rfl, hx, getMutWith_expired h hx⟩)
    · exact Or.inr (Or.inr ⟨e, rfl, hx, getMutWith_hit h hx⟩)

theorem peek_eq_getMutWith (c : Cache K V) (now : Nat) (k : K) (f : V → V) :
    peek c now k = (getMutWith c now k f).2 := by
  unfold peek getMutWith
  cases lhmGet c.map k with
  | none => rfl
  | some e =>
    simp only []
    by_cases hx : e.stamp + c.ttl < now
    · rw [if_pos hx, if_neg (by omega)]
    · rw [if_neg hx, if_pos (by omega)]

theorem distinct_lhmInsert {m : List (Entry K V)} {e : Entry K V}
    (hd : m.Pairwise (fun a b => a.key ≠ b.key)) :
    (lhmInsert m e).Pairwise (fun a b => a.key ≠ b.key) := by
  rw [lhmInsert, List.pairwise_append]
  refine ⟨hd.sublist (lhmErase_sublist _ _), List.pairwise_singleton _ _, ?_⟩
  intro a ha b hb
  rw [List.mem_singleton.1 hb]
  exact (mem_lhmErase.1 ha).2

theorem sorted_lhmInsert {m : List (Entry K V)} {e : Entry K V}
    (hs : m.Pairwise (fun a b => a.stamp ≤ b.stamp)) (hle : ∀ a ∈ m, a.stamp ≤ e.stamp) :
    (lhmInsert m e).Pairwise (fun a b => a.stamp ≤ b.stamp) := by
  rw [lhmInsert, List.pairwise_append]
  refine ⟨hs.sublist (lhmErase_sublist _ _), List.pairwise_singleton _ _, ?_⟩
  intro a ha b hb
  rw [List.mem_singleton.1 hb]
  exact hle a (mem_lhmErase.1 ha).1

theorem insert_bounded {c : Cache K V} (now : Nat) (k : K) (v : V) (h : Bounded c) :
    Bounded (insert c now k v) := by
  unfold Bounded at *
  rw [insert_map, insert_capacity]
  have := length_lhmErase_le c.map k
  split
  · rw [List.length_tail, List.length_append, List.length_singleton]; omega
  · rename_i hgt; omega

theorem getMutWith_ttl (c : Cache K V) (now : Nat) (k : K) (f : V → V) :
    (getMutWith c now k f).1.ttl = c.ttl := by
  rcases getMutWith_cases c now k f with ⟨_, h⟩ | ⟨e, _, _, h⟩ | ⟨e, _, _, h⟩ <;> rw [h]

theorem getMutWith_capacity (c : Cache K V) (now : Nat) (k : K) (f : V → V) :
    (getMutWith c now k f).1.capacity = c.capacity := by
  rcases getMutWith_cases c now k f with ⟨_, h⟩ | ⟨e, _, _, h⟩ | ⟨e, _, _, h⟩ <;> rw [h]

theorem getMutWith_bounded {c : Cache K V} (now : Nat) (k : K) (f : V → V) (h : Bounded c) :
    Bounded (getMutWith c now k f).1 := by
  unfold Bounded at *
  rcases getMutWith_cases c now k f with ⟨_, hr⟩ | ⟨e, _, _, hr⟩ | ⟨e, hg, _, hr⟩ <;> rw [hr]
  · exact h
  · exact Nat.le_trans (length_lhmErase_le _ _) h
  · have := length_lhmErase_lt (lhmGet_some hg).1 (lhmGet_some hg).2
    simp only [List.length_append, List.length_singleton]
    omega

theorem step_ttl (c : Cache K V) (now : Nat) (op : Op K V) : (step c now op).1.ttl = c.ttl := by
  cases op <;> simp only [step, get, getMut, remove, removeExpired, insert_ttl, getMutWith_ttl]

theorem step_capacity (c : Cache K V) (now : Nat) (op : Op K V) :
    (step c now op).1.capacity = c.capacity := by
  cases op <;>
    simp only [step, get, getMut, remove, removeExpired, insert_capacity, getMutWith_capacity]

/-- Keys *used* by an operation: the key of an `insert`, and the key of a `get`/`get_mut` that
returned a value.  (`peek`, `len`, `remove`, the sweep and misses use nothing.) -/
def used (c : Cache K V) (now : Nat) : Op K V → List K
  | .insert k _ => [k]
  | .get k => if (getMutWith c now k id).2.isSome then [k] else []
  | .getMut k w => if (getMutWith c now k (fun _ => w)).2.isSome then [k] else []
  | _ => []

def usesKey (k : K) : Op K V → Bool
  | .insert k' _ => decide (k' = k)
  | .get k' => decide (k' = k)
  | .getMut k' _ => decide (k' = k)
  | _ => false

/-- The shape of every operation: the new list is a sublist of the old one, or - when the
operation uses a key - of the old one with an entry of that key, stamped `now`, moved or attached
to the back. -/
theorem step_shape (c : Cache K V) (now : Nat) (op : Op K V) :
    (used c now op = [] ∧ (step c now op).1.map.Sublist c.map) ∨
    ∃ e : Entry K V, used c now op = [e.key] ∧ usesKey e.key op = true ∧ e.stamp = now ∧
      (step c now op).1.map.Sublist (lhmInsert c.map e) := by
  have hget : ∀ (k : K) (f : V → V),
      ((if (getMutWith c now k f).2.isSome then [k] else []) = [] ∧
        (getMutWith c now k f).1.map.Sublist c.map) ∨
      ∃ e : Entry K V, (if (getMutWith c now k f).2.isSome then [k] else []) = [e.key] ∧
        e.key = k ∧ e.stamp = now ∧ (getMutWith c now k f).1.map.Sublist (lhmInsert c.map e) := by
    intro k f
    rcases getMutWith_cases c now k f with ⟨_, hr⟩ | ⟨e, _, _, hr⟩ | ⟨e, hg, _, hr⟩ <;> rw [hr]
    · exact Or.inl ⟨rfl, List.Sublist.refl _⟩
    · exact Or.inl ⟨rfl, lhmErase_sublist _ _⟩
    · have hk := (lhmGet_some hg).2
      refine Or.inr ⟨{ e with val := f e.val, stamp := now }, by simp [hk], hk, rfl, ?_⟩
      rw [lhmInsert, hk]
      exact List.Sublist.refl _
  cases op with
  | insert k v =>
    refine Or.inr ⟨⟨k, v, now⟩, rfl, by simp [usesKey], rfl, ?_⟩
    show (insert c now k v).map.Sublist _
    rw [insert_map]
    split
    · exact List.tail_sublist _
    · exact List.Sublist.refl _
  | get k =>
    rcases hget k id with h | ⟨e, h1, h2, h3, h4⟩
    · exact Or.inl h
    · exact Or.inr ⟨e, h1, by simp [usesKey, h2], h3, h4⟩
  | getMut k w =>
    rcases hget k (fun _ => w) with h | ⟨e, h1, h2, h3, h4⟩
    · exact Or.inl h
    · exact Or.inr ⟨e, h1, by simp [usesKey, h2], h3, h4⟩
  | peek k => exact Or.inl ⟨rfl, List.Sublist.refl _⟩
  | len => exact Or.inl ⟨rfl, List.Sublist.refl _⟩
  | remove k => exact Or.inl ⟨rfl, lhmErase_sublist _ _⟩
  | sweep => exact Or.inl ⟨rfl, List.dropWhile_sublist _⟩

theorem step_distinct {c : Cache K V} (now : Nat) (op : Op K V) (h : Distinct c) :
    Distinct (step c now op).1 := by
  rcases step_shape c now op with ⟨_, hs⟩ | ⟨e, _, _, _, hs⟩
  · exact List.Pairwise.sublist hs h
  · exact List.Pairwise.sublist hs (distinct_lhmInsert h)

theorem step_sorted {c : Cache K V} {t : Nat} (now : Nat) (op : Op K V) (h : Sorted c t)
    (ht : t ≤ now) : Sorted (step c now op).1 now := by
  have hle : ∀ a ∈ c.map, a.stamp ≤ now := fun a ha => Nat.le_trans (h.2 a ha) ht
  rcases step_shape c now op with ⟨_, hs⟩ | ⟨e, _, _, he, hs⟩
  · exact ⟨h.1.sublist hs, fun a ha => hle a (hs.subset ha)⟩
  · refine ⟨(sorted_lhmInsert h.1 (he ▸ hle)).sublist hs, fun a ha => ?_⟩
    rcases List.mem_append.1 (hs.subset ha) with ha | ha
    · exact hle a (mem_lhmErase.1 ha).1
    · rw [List.mem_singleton.1 ha, he]
      exact Nat.le_refl _

theorem step_mem {c : Cache K V} {now : Nat} {op : Op K V} {a : Entry K V}
    (ha : a ∈ (step c now op).1.map) : a ∈ c.map ∨ (usesKey a.key op = true ∧ a.stamp = now) := by
  rcases step_shape c now op with ⟨_, hs⟩ | ⟨e, _, hu, he, hs⟩
  · exact Or.inl (hs.subset ha)
  · rcases List.mem_append.1 (hs.subset ha) with ha | ha
    · exact Or.inl (mem_lhmErase.1 ha).1
    · rw [List.mem_singleton.1 ha]
      exact Or.inr ⟨hu, he⟩

theorem step_bounded {c : Cache K V} (now : Nat) (op : Op K V) (h : Bounded c) :
    Bounded (step c now op).1 := by
  cases op with
  | insert k v => exact insert_bounded now k v h
  | get k => exact getMutWith_bounded now k id h
  | getMut k w => exact getMutWith_bounded now k _ h
  | peek k => exact h
  | len => exact h
  | remove k => exact Nat.le_trans (length_lhmErase_le _ _) h
  | sweep => exact Nat.le_trans (List.dropWhile_sublist _).length_le h

theorem step_wf {c : Cache K V} {t : Nat} (now : Nat) (op : Op K V) (h : WF c t) (ht : t ≤ now) :
    WF (step c now op).1 now :=
  ⟨step_distinct now op h.distinct, step_sorted now op h.sorted ht, step_bounded now op h.bounded⟩

theorem run_induction {P : Cache K V → Prop} {c : Cache K V} (ops : List (Nat × Op K V))
    (hstep : ∀ c, ∀ p ∈ ops, P c → P (step c p.1 p.2).1) (h : P c) : P (run c ops) := by
  induction ops generalizing c with
  | nil => exact h
  | cons p rest ih =>
    exact ih (fun c q hq => hstep c q (List.mem_cons_of_mem _ hq))
      (hstep c p (List.mem_cons_self ..) h)

theorem run_bounded {c : Cache K V} (ops : List (Nat × Op K V)) (h : Bounded c) :
    Bounded (run c ops) :=
  run_induction ops (fun _ p _ => step_bounded p.1 p.2) h

theorem run_distinct {c : Cache K V} (ops : List (Nat × Op K V)) (h : Distinct c) :
    Distinct (run c ops) :=
  run_induction ops (fun _ p _ => step_distinct p.1 p.2) h

theorem run_capacity (c : Cache K V) (ops : List (Nat × Op K V)) :
    (run c ops).capacity = c.capacity :=
  run_induction (P := fun c' => c'.capacity = c.capacity) ops
    (fun c' p _ h => (step_capacity c' p.1 p.2).trans h) rfl

theorem run_ttl (c : Cache K V) (ops : List (Nat × Op K V)) : (run c ops).ttl = c.ttl :=
  run_induction (P := fun c' => c'.ttl = c.ttl) ops
    (fun c' p _ h => (step_ttl c' p.1 p.2).trans h) rfl

def lastTime (t0 : Nat) : List (Nat × Op K V) → Nat
  | [] => t0
  | (t, _) :: rest => lastTime t rest

theorem run_wf {c : Cache K V} {t0 : Nat} (ops : List (Nat × Op K V)) (h : WF c t0)
    (hm : NonDecreasing t0 ops) : WF (run c ops) (lastTime t0 ops) := by
  induction ops generalizing c t0 with
  | nil => exact h
  | cons p rest ih =>
    obtain ⟨t, op⟩ := p
    exact ih (step_wf t op h hm.1) hm.2

theorem insert_full_fresh {c : Cache K V} (now : Nat) {k : K} (v : V)
    (hfull : c.map.length = c.capacity) (hcap : 1 ≤ c.capacity) (hk : ∀ e ∈ c.map, e.key ≠ k) :
    (insert c now k v).map = c.map.tail ++ [(⟨k, v, now⟩ : Entry K V)] := by
  rw [insert_map, lhmErase_of_absent hk]
  have hne : c.map ≠ [] := by
    intro h; rw [h] at hfull; simp at hfull; omega
  rw [if_pos (by rw [List.length_append, List.length_singleton]; omega)]
  exact List.tail_append_of_ne_nil hne

theorem insert_room_fresh {c : Cache K V} (now : Nat) {k : K} (v : V)
    (hroom : c.map.length < c.capacity) (hk : ∀ e ∈ c.map, e.key ≠ k) :
    (insert c now k v).map = c.map ++ [(⟨k, v, now⟩ : Entry K V)] := by
  rw [insert_map, lhmErase_of_absent hk]
  rw [if_neg (by rw [List.length_append, List.length_singleton]; omega)]

/-! ### the use log and the recency order -/

/-- The keys used along an operation sequence, oldest use first. -/
def useLog (c : Cache K V) : List (Nat × Op K V) → List K
  | [] => []
  | (t, op) :: rest => used c t op ++ useLog (step c t op).1 rest

/-- In the use log, the last use of `a` is earlier than the last use of `b`: after the last
occurrence of `a` there is still an occurrence of `b`. -/
def UsedBefore (log : List K) (a b : K) : Prop :=
  ∃ l1 l2, log = l1 ++ a :: l2 ∧ a ∉ l2 ∧ b ∈ l2

/-- The list order is the recency order of `log`: an entry nearer to the front was last used
earlier; every key held has been used. -/
def Recency (log : List K) (m : List (Entry K V)) : Prop :=
  m.Pairwise (fun a b => UsedBefore log a.key b.key) ∧ ∀ e ∈ m, e.key ∈ log

theorem exists_last_split {a : K} {l : List K} (h : a ∈ l) :
    ∃ l1 l2, l = l1 ++ a :: l2 ∧ a ∉ l2 := by
  induction l with
  | nil => cases h
  | cons x xs ih =>
    by_cases hin : a ∈ xs
    · obtain ⟨l1, l2, h1, h2⟩ := ih hin
      exact ⟨x :: l1, l2, by rw [h1]; rfl, h2⟩
    · rcases List.mem_cons.1 h with h | h
      · exact ⟨[], xs, by rw [h]; rfl, hin⟩
      · exact absurd h hin

omit [DecidableEq K] in
theorem usedBefore_snoc {log : List K} {a b k : K} (h : UsedBefore log a b) (hak : a ≠ k) :
    UsedBefore (log ++ [k]) a b := by
  obtain ⟨l1, l2, h1, h2, h3⟩ := h
  refine ⟨l1, l2 ++ [k], by rw [h1]; simp, ?_, List.mem_append_left _ h3⟩
  intro hmem
  rcases List.mem_append.1 hmem with hm | hm
  · exact h2 hm
  · exact hak (List.mem_singleton.1 hm)

theorem usedBefore_snoc_self {log : List K} {a k : K} (h : a ∈ log) (hak : a ≠ k) :
    UsedBefore (log ++ [k]) a k := by
  obtain ⟨l1, l2, h1, h2⟩ := exists_last_split h
  refine ⟨l1, l2 ++ [k], by rw [h1]; simp, ?_, by simp⟩
  intro hmem
  rcases List.mem_append.1 hmem with hm | hm
  · exact h2 hm
  · exact hak (List.mem_singleton.1 hm)

omit [DecidableEq K] in
theorem Recency.sublist {log : List K} {m m' : List (Entry K V)} (h : Recency log m)
    (hs : m'.Sublist m) : Recency log m' :=
  ⟨h.1.sublist hs, fun e he => h.2 e (hs.subset he)⟩

theorem Recency.touch {log : List K} {m : List (Entry K V)} {e : Entry K V} (h : Recency log m) :
    Recency (log ++ [e.key]) (lhmInsert m e) := by
  refine ⟨?_, ?_⟩
  · rw [lhmInsert, List.pairwise_append]
    refine ⟨?_, List.pairwise_singleton _ _, ?_⟩
    · refine List.Pairwise.imp_of_mem ?_ (h.1.sublist (lhmErase_sublist _ _))
      intro a b ha _ hab
      exact usedBefore_snoc hab (mem_lhmErase.1 ha).2
    · intro a ha b hb
      rw [List.mem_singleton.1 hb]
      have := mem_lhmErase.1 ha
      exact usedBefore_snoc_self (h.2 a this.1) this.2
  · intro a ha
    rcases List.mem_append.1 ha with ha | ha
    · exact List.mem_append_left _ (h.2 a (mem_lhmErase.1 ha).1)
    · rw [List.mem_singleton.1 ha]; simp

theorem step_recency {log : List K} {c : Cache K V} (now : Nat) (op : Op K V)
    (h : Recency log c.map) : Recency (log ++ used c now op) (step c now op).1.map := by
  rcases step_shape c now op with ⟨hu, hs⟩ | ⟨e, hu, _, _, hs⟩ <;> rw [hu]
  · rw [List.append_nil]
    exact h.sublist hs
  · exact h.touch.sublist hs

theorem run_recency {log : List K} {c : Cache K V} (ops : List (Nat × Op K V))
    (h : Recency log c.map) : Recency (log ++ useLog c ops) (run c ops).map := by
  induction ops generalizing c log with
  | nil => simpa [useLog, run] using h
  | cons p rest ih =>
    obtain ⟨t, op⟩ := p
    have := ih (step_recency t op h)
    simpa [useLog, run, List.append_assoc] using this

/-! ### stamps of a key that is not used -/

def insertsKey (k : K) : Op K V → Bool
  | .insert k' _ => decide (k' = k)
  | _ => false

def queriesKey (k : K) : Op K V → Bool
  | .get k' => decide (k' = k)
  | .getMut k' _ => decide (k' = k)
  | .peek k' => decide (k' = k)
  | _ => false

/-- Whatever entry the cache holds for `k` was stamped at `s` or earlier. -/
def StampLe (c : Cache K V) (k : K) (s : Nat) : Prop := ∀ e ∈ c.map, e.key = k → e.stamp ≤ s

theorem step_stampLe_of_not_uses {c : Cache K V} {k : K} {s : Nat} (now : Nat) {op : Op K V}
    (h : StampLe c k s) (hu : usesKey k op = false) : StampLe (step c now op).1 k s := by
  intro a ha hk
  rcases step_mem ha with h1 | ⟨h1, _⟩
  · exact h a h1 hk
  · rw [hk, hu] at h1; cases h1

theorem run_stampLe_of_not_uses {c : Cache K V} {k : K} {s : Nat} (ops : List (Nat × Op K V))
    (h : StampLe c k s) (hu : ∀ p ∈ ops, usesKey k p.2 = false) : StampLe (run c ops) k s :=
  run_induction (P := fun c => StampLe c k s) ops
    (fun _ p hp h => step_stampLe_of_not_uses p.1 h (hu p hp)) h

theorem step_after_deadline {c : Cache K V} {k : K} {s : Nat} {now : Nat} {op : Op K V}
    (h : StampLe c k s) (hdead : s + c.ttl < now) (hins : insertsKey k op = false) :
    StampLe (step c now op).1 k s ∧
      (queriesKey k op = true → (step c now op).2 = Reply.val none) := by
  have hmiss : ∀ f : V → V, (getMutWith c now k f).2 = none ∧
      StampLe (getMutWith c now k f).1 k s := by
    intro f
    rcases getMutWith_cases c now k f with ⟨_, hr⟩ | ⟨e, _, _, hr⟩ | ⟨e, hg, hx, hr⟩
    · rw [hr]; exact ⟨rfl, h⟩
    · rw [hr]; exact ⟨rfl, fun a ha hk => h a (mem_lhmErase.1 ha).1 hk⟩
    · have := h e (lhmGet_some hg).1 (lhmGet_some hg).2
      exact absurd (by omega) hx
  have hother : usesKey k op = false → StampLe (step c now op).1 k s :=
    step_stampLe_of_not_uses now h
  cases op with
  | insert k' v => exact ⟨hother (by simpa [usesKey, insertsKey] using hins), nofun⟩
  | get k' =>
    by_cases hk : k' = k
    · subst hk
      exact ⟨(hmiss id).2, fun _ => congrArg Reply.val (hmiss id).1⟩
    · exact ⟨hother (by simp [usesKey, hk]), by simp [queriesKey, hk]⟩
  | getMut k' w =>
    by_cases hk : k' = k
    · subst hk
      exact ⟨(hmiss _).2, fun _ => congrArg Reply.val (hmiss _).1⟩
    · exact ⟨hother (by simp [usesKey, hk]), by simp [queriesKey, hk]⟩
  | peek k' =>
    refine ⟨h, fun hq => ?_⟩
    have hk : k' = k := by simpa [queriesKey] using hq
    subst hk
    exact congrArg Reply.val ((peek_eq_getMutWith c now k' id).trans (hmiss id).1)
  | len => exact ⟨h, nofun⟩
  | remove k' => exact ⟨hother rfl, nofun⟩
  | sweep => exact ⟨hother rfl, nofun⟩

theorem trace_after_deadline {c : Cache K V} {k : K} {s : Nat} (ops : List (Nat × Op K V))
    (h : StampLe c k s) (hops : ∀ p ∈ ops, s + c.ttl < p.1 ∧ insertsKey k p.2 = false) :
    ∀ x ∈ trace c ops, queriesKey k x.2.1 = true → x.2.2 = Reply.val none := by
  induction ops generalizing c with
  | nil => intro x hx; cases hx
  | cons p rest ih =>
    obtain ⟨t, op⟩ := p
    have hp := hops (t, op) (List.mem_cons_self ..)
    have hs := step_after_deadline h hp.1 hp.2
    intro x hx
    rcases List.mem_cons.1 hx with hx | hx
    · rw [hx]; exact hs.2
    · refine ih hs.1 ?_ x hx
      intro q hq
      rw [step_ttl]
      exact hops q (List.mem_cons_of_mem _ hq)

/-! ### the specification: a bounded LRU map of live entries

Its state is the list of live entries, least recently used first, each `key ↦ (value, time of last
use)`.  Every operation first forgets what has expired. -/

/-- The entries that are alive at `now` (not expired), in list order. -/
def live (ttl now : Nat) (m : List (Entry K V)) : List (Entry K V) :=
  m.filter (fun e => !expired ttl now e)

namespace Spec

def insert (cap now : Nat) (k : K) (v : V) (s : List (Entry K V)) : List (Entry K V) :=
  if (lhmErase s k ++ [(⟨k, v, now⟩ : Entry K V)]).length > cap
  then (lhmErase s k ++ [(⟨k, v, now⟩ : Entry K V)]).tail
  else lhmErase s k ++ [(⟨k, v, now⟩ : Entry K V)]

/-- A hit makes the entry the most recently used one, last used `now`. -/
def getMutWith (now : Nat) (k : K) (f : V → V) (s : List (Entry K V)) :
    List (Entry K V) × Option V :=
  match lhmGet s k with
  | some e => (lhmErase s k ++ [{ e with val := f e.val, stamp := now }], some e.val)
  | none => (s, none)

/-- Not a use: the order stays. -/
def peek (k : K) (s : List (Entry K V)) : Option V := (lhmGet s k).map (·.val)

/-- One operation of the specification at time `now`: expire, then act on the live map. -/
def step (ttl cap now : Nat) (s : List (Entry K V)) : Op K V → List (Entry K V) × Reply K V
  | .insert k v => (insert cap now k v (live ttl now s), .unit)
  | .get k => let r := getMutWith now k id (live ttl now s); (r.1, .val r.2)
  | .getMut k w => let r := getMutWith now k (fun _ => w) (live ttl now s); (r.1, .val r.2)
  | .peek k => (live ttl now s, .val (peek k (live ttl now s)))
  | .len => (live ttl now s, .num (live ttl now s).length)
  | .remove k => (lhmErase (live ttl now s) k, .val (peek k (live ttl now s)))
  | .sweep => (live ttl now s, .keys [])

/-- The state after the timed operations; the replies are dropped. -/
def run (ttl cap : Nat) (s : List (Entry K V)) : List (Nat × Op K V) → List (Entry K V)
  | [] => s
  | (t, op) :: rest => run ttl cap (step ttl cap t s op).1 rest

end Spec

/-- How a reply of the cache relates to the reply of the specification: identical for `insert`,
`get`, `get_mut`, `peek`; `len` may additionally count dead entries not yet dropped; `remove`
returns what the specification returns when that is a value, but may also hand back the value
of a dead entry; the sweep reports which dead entries it physically dropped. -/
def ReplyRefines : Op K V → Reply K V → Reply K V → Prop
  | .len, .num n, .num n' => n' ≤ n
  | .len, _, _ => False
  | .remove _, .val o, .val o' => o'.isSome → o = o'
  | .remove _, _, _ => False
  | .sweep, _, _ => True
  | _, r, r' => r = r'

omit [DecidableEq K] in
theorem live_sublist (ttl now : Nat) (m : List (Entry K V)) : (live ttl now m).Sublist m :=
  List.filter_sublist

omit [DecidableEq K] in
theorem mem_live {ttl now : Nat} {m : List (Entry K V)} {e : Entry K V} :
    e ∈ live ttl now m ↔ e ∈ m ∧ ¬ e.stamp + ttl < now := by
  simp [live, expired]

omit [DecidableEq K] in
theorem live_live {ttl t now : Nat} (m : List (Entry K V)) (h : t ≤ now) :
    live ttl now (live ttl t m) = live ttl now m := by
  unfold live
  rw [List.filter_filter]
  apply List.filter_congr
  intro e _
  simp only [expired]
  by_cases h1 : e.stamp + ttl < now
  · simp [h1]
  · have : ¬ e.stamp + ttl < t := by omega
    simp [h1, this]

theorem live_lhmErase (ttl now : Nat) (m : List (Entry K V)) (k : K) :
    live ttl now (lhmErase m k) = lhmErase (live ttl now m) k := by
  unfold live lhmErase
  rw [List.filter_filter, List.filter_filter]
  apply List.filter_congr
  intro e _
  exact Bool.and_comm _ _

omit [DecidableEq K] in
theorem live_append_fresh (ttl now : Nat) (m : List (Entry K V)) (k : K) (v : V) :
    live ttl now (m ++ [Entry.mk k v now]) = live ttl now m ++ [Entry.mk k v now] := by
  unfold live
  rw [List.filter_append]
  congr 1
  simp [expired]

omit [DecidableEq K] in
theorem live_eq_self {ttl now : Nat} {m : List (Entry K V)}
    (h : ∀ e ∈ m, ¬ e.stamp + ttl < now) : live ttl now m = m := by
  unfold live
  rw [List.filter_eq_self]
  intro e he
  simp [expired, h e he]

theorem lhmGet_live {ttl now : Nat} {m : List (Entry K V)} (k : K)
    (hd : m.Pairwise (fun a b => a.key ≠ b.key)) :
    lhmGet (live ttl now m) k = (lhmGet m k).filter (fun e => !expired ttl now e) := by
  induction m with
  | nil => rfl
  | cons a rest ih =>
    rw [List.pairwise_cons] at hd
    have ih := ih hd.2
    simp only [live, lhmGet, List.filter_cons, List.find?_cons] at ih ⊢
    by_cases hk : a.key = k
    · -- the other entries have other keys
      have hnone : rest.find? (fun e => decide (e.key = k)) = none := by
        rw [List.find?_eq_none]
        intro b hb
        simpa [← hk] using (hd.1 b hb).symm
      by_cases ha : expired ttl now a = true <;> simp [hk, ha, ih, hnone, Option.filter_some]
    · by_cases ha : expired ttl now a = true <;> simp [hk, ha, ih]

omit [DecidableEq K] in
theorem live_of_front_live {ttl now : Nat} {x : Entry K V} {xs : List (Entry K V)}
    (hs : (x :: xs).Pairwise (fun a b => a.stamp ≤ b.stamp)) (hx : ¬ x.stamp + ttl < now) :
    ∀ e ∈ x :: xs, ¬ e.stamp + ttl < now := by
  intro e he
  rw [List.pairwise_cons] at hs
  rcases List.mem_cons.1 he with h | h
  · rw [h]; exact hx
  · have := hs.1 e h; omega

theorem insert_refines {c : Cache K V} {t : Nat} (now : Nat) (k : K) (v : V) (h : WF c t)
    (ht : t ≤ now) :
    live c.ttl now (insert c now k v).map = Spec.insert c.capacity now k v (live c.ttl now c.map) := by
  have hsorted : (lhmErase c.map k ++ [(⟨k, v, now⟩ : Entry K V)]).Pairwise
      (fun a b => a.stamp ≤ b.stamp) :=
    sorted_lhmInsert (e := ⟨k, v, now⟩) h.sorted.1 (fun a ha => Nat.le_trans (h.sorted.2 a ha) ht)
  have hlive : live c.ttl now (lhmErase c.map k ++ [(⟨k, v, now⟩ : Entry K V)]) =
      lhmErase (live c.ttl now c.map) k ++ [(⟨k, v, now⟩ : Entry K V)] := by
    rw [live_append_fresh, live_lhmErase]
  have hlen : (lhmErase c.map k ++ [(⟨k, v, now⟩ : Entry K V)]).length ≤ c.capacity + 1 := by
    have := length_lhmErase_le c.map k
    have := h.bounded
    unfold Bounded at this
    rw [List.length_append, List.length_singleton]; omega
  rw [insert_map]
  unfold Spec.insert
  rw [← hlive]
  generalize hm1 : lhmErase c.map k ++ [(⟨k, v, now⟩ : Entry K V)] = m1 at *
  by_cases hgt : m1.length > c.capacity
  · rw [if_pos hgt]
    cases m1 with
    | nil => simp at hgt
    | cons x xs =>
      simp only [List.tail_cons]
      by_cases hx : x.stamp + c.ttl < now
      · -- the evicted front entry was dead: the live part does not change and fits
        have hl : live c.ttl now (x :: xs) = live c.ttl now xs := by
          unfold live; rw [List.filter_cons]; simp [expired, hx]
        rw [hl]
        have : (live c.ttl now xs).length ≤ xs.length := (live_sublist _ _ _).length_le
        simp only [List.length_cons] at hlen
        rw [if_neg (by omega)]
      · -- the front entry is alive, hence (sorted) all are: the live part is the whole list
        have hall := live_of_front_live hsorted hx
        rw [live_eq_self hall, if_pos hgt, List.tail_cons]
        exact live_eq_self (fun e he => hall e (List.mem_cons_of_mem _ he))
  · rw [if_neg hgt]
    have : (live c.ttl now m1).length ≤ m1.length := (live_sublist _ _ _).length_le
    rw [if_neg (by omega)]

theorem getMutWith_refines {c : Cache K V} (now : Nat) (k : K) (f : V → V) (h : Distinct c) :
    live c.ttl now (getMutWith c now k f).1.map =
        (Spec.getMutWith now k f (live c.ttl now c.map)).1 ∧
      (getMutWith c now k f).2 = (Spec.getMutWith now k f (live c.ttl now c.map)).2 := by
  have hl := lhmGet_live (ttl := c.ttl) (now := now) k h
  unfold Spec.getMutWith
  rcases getMutWith_cases c now k f with ⟨hg, hr⟩ | ⟨e, hg, hx, hr⟩ | ⟨e, hg, hx, hr⟩ <;>
    rw [hr] <;> rw [hg] at hl
  · rw [hl]; exact ⟨rfl, rfl⟩
  · have hl : lhmGet (live c.ttl now c.map) k = none := by simpa [Option.filter_some, expired, hx] using hl
    rw [hl, live_lhmErase, lhmErase_of_absent (lhmGet_none.1 hl)]
    exact ⟨rfl, rfl⟩
  · have hl : lhmGet (live c.ttl now c.map) k = some e := by simpa [Option.filter_some, expired, hx] using hl
    rw [hl, live_append_fresh, live_lhmErase]
    exact ⟨rfl, rfl⟩

theorem peek_refines {c : Cache K V} (now : Nat) (k : K) (h : Distinct c) :
    peek c now k = Spec.peek k (live c.ttl now c.map) := by
  rw [peek_eq_getMutWith c now k id, (getMutWith_refines now k id h).2]
  unfold Spec.getMutWith Spec.peek
  cases lhmGet (live c.ttl now c.map) k <;> rfl

omit [DecidableEq K] in
/-- On a list sorted by stamp the sweep drops *every* dead entry. -/
theorem dropWhile_eq_live {ttl now : Nat} {m : List (Entry K V)}
    (hs : m.Pairwise (fun a b => a.stamp ≤ b.stamp)) :
    m.dropWhile (expired ttl now) = live ttl now m := by
  induction m with
  | nil => rfl
  | cons x xs ih =>
    rw [List.dropWhile_cons]
    by_cases hx : expired ttl now x = true
    · rw [if_pos hx, ih (List.pairwise_cons.1 hs).2]
      unfold live
      rw [List.filter_cons]
      simp [hx]
    · rw [if_neg hx]
      have hx' : ¬ x.stamp + ttl < now := by simpa [expired] using hx
      exact (live_eq_self (live_of_front_live hs hx')).symm

/-- Every operation commutes with the abstraction `live`: the live part of the cache after the
operation is what the specification computes from the live part before it. -/
theorem step_refines {c : Cache K V} {t : Nat} (now : Nat) (op : Op K V) (h : WF c t)
    (ht : t ≤ now) :
    live c.ttl now (step c now op).1.map =
        (Spec.step c.ttl c.capacity now (live c.ttl t c.map) op).1 ∧
      ReplyRefines op (step c now op).2 (Spec.step c.ttl c.capacity now (live c.ttl t c.map) op).2 := by
  cases op with
  | insert k v =>
    simp only [step, Spec.step, live_live _ ht, ReplyRefines]
    exact ⟨insert_refines now k v h ht, trivial⟩
  | get k =>
    simp only [step, get, getMut, Spec.step, live_live _ ht, ReplyRefines]
    have := getMutWith_refines now k id h.distinct
    exact ⟨this.1, by rw [this.2]⟩
  | getMut k w =>
    simp only [step, Spec.step, live_live _ ht, ReplyRefines]
    have := getMutWith_refines now k (fun _ => w) h.distinct
    exact ⟨this.1, by rw [this.2]⟩
  | peek k =>
    simp only [step, Spec.step, live_live _ ht, ReplyRefines]
    exact ⟨trivial, by rw [peek_refines now k h.distinct]⟩
  | len =>
    simp only [step, Spec.step, live_live _ ht, ReplyRefines, len]
    exact ⟨trivial, (live_sublist _ _ _).length_le⟩
  | remove k =>
    simp only [step, remove, Spec.step, live_live _ ht, ReplyRefines]
    refine ⟨live_lhmErase _ _ _ _, ?_⟩
    unfold Spec.peek
    rw [lhmGet_live k h.distinct]
    cases lhmGet c.map k with
    | none => simp
    | some e => by_cases hx : expired c.ttl now e = true <;> simp [Option.filter, hx]
  | sweep =>
    simp only [step, removeExpired, Spec.step, live_live _ ht, ReplyRefines]
    exact ⟨by rw [dropWhile_eq_live h.sorted.1, live_live _ (Nat.le_refl _)], trivial⟩

theorem run_refines {c : Cache K V} {t0 : Nat} (ops : List (Nat × Op K V)) (h : WF c t0)
    (hm : NonDecreasing t0 ops) :
    live c.ttl (lastTime t0 ops) (run c ops).map =
      Spec.run c.ttl c.capacity (live c.ttl t0 c.map) ops := by
  induction ops generalizing c t0 with
  | nil => rfl
  | cons p rest ih =>
    obtain ⟨t, op⟩ := p
    have hs := step_refines t op h hm.1
    have := ih (step_wf t op h hm.1) hm.2
    rw [step_ttl, step_capacity] at this
    simp only [run, Spec.run, lastTime]
    rw [this, hs.1]

end Discv5.Lru
